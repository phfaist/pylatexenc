/-
  The exact position-free tree of a document of the encoder-output grammar `C13.Full.CItem`, and the condition under
  which the tokenizer's grouping of its plain characters is known.

  * `xW` / `xA`: the EXACT tree (`C03S.XNode`, before the merging of adjacent chars nodes): every character is its own
    chars node, whitespace runs with two or more newlines become the paragraph specials (`wsX`), brace groups, macro
    calls with their post-space and argument slots, inline math with its source slice.
  * `safeI` / `safeA`: the additional decidable condition under which no character of the document is read as (part
    of) a specials token other than the paragraph break and the one-character specials `~` `&` (`oneChars`): no plain character is one of the `bad` characters (the
    characters the specials strings of the context are made of, `keysBad`).
-/
import PylxProofs.C13FullDefs
import PylxProofs.C03SX
namespace Pylx.C08.Full
open Pylx Pylx.L2T Pylx.L2T.C03S Pylx.C13.Full

/-! ### the exact tree of a document -/

/-- the nodes a whitespace run stands for when something that is not whitespace (or the end) follows: pending characters,
    or — with two or more newlines — the characters in front of the first newline, the paragraph specials, and the
    characters behind the last newline -/
def wsX (w : Str) : List XNode :=
  if countNl w < 2 then pendX w
  else pendX (w.take (firstNl w)) ++ (XNode.specials ['\n', '\n'] (some []) :: pendX (w.drop (lastNlEnd w)))

/-- the one-character specials strings of the default context that start no longer one: `~` and `&` -/
def oneChars : Str := ['~', '&']

/-- a plain character that is not whitespace: a chars node, or the specials node of a one-character specials string -/
def chX (c : Char) : XNode := if oneChars.contains c then .specials [c] (some []) else .chars [c]

mutual
/-- `w` = the whitespace read so far and not yet turned into nodes -/
def xW (w : Str) : List CItem → List XNode
  | [] => wsX w
  | .ch c :: tl => if isPySpace c then xW (w ++ [c]) tl else wsX w ++ (chX c :: xW [] tl)
  | .grp b :: tl => wsX w ++ (XNode.group ['{'] ['}'] (some (mergeX (xW [] b))) :: xW [] tl)
  | .mac n post args :: tl => wsX w ++ (XNode.mac n post (some (xA args)) :: xW [] tl)
  | .math b :: tl => wsX w ++ (XNode.math ('$' :: (unI b ++ ['$'])) false ['$'] ['$'] (some (mergeX (xW [] b))) :: xW [] tl)
def xA : List CArg → List XArg
  | [] => []
  | .absent :: tl => .absent :: xA tl
  | .grp b :: tl => .node (.group ['{'] ['}'] (some (mergeX (xW [] b)))) :: xA tl
  | .br b :: tl => .node (.group ['['] [']'] (some (mergeX (xW [] b)))) :: xA tl
  | .tok c :: tl => .node (.chars [c]) :: xA tl
  | .mtok n :: tl => .node (.mac n [] (some [])) :: xA tl
end

/-! The equations of `xW` / `xA`, constructor by constructor (read off `xW.eq_def`: the equation lemmas Lean derives for
    `simp [xW]` take seconds to generate in every module that asks for them). -/

theorem xW_nil (w : Str) : xW w [] = wsX w := by rw [xW.eq_def]
theorem xW_ch (w : Str) (c : Char) (tl : List CItem) :
    xW w (.ch c :: tl) = if isPySpace c then xW (w ++ [c]) tl else wsX w ++ (chX c :: xW [] tl) := by rw [xW.eq_def]
theorem xW_grp (w : Str) (b tl : List CItem) :
    xW w (.grp b :: tl) = wsX w ++ (XNode.group ['{'] ['}'] (some (mergeX (xW [] b))) :: xW [] tl) := by rw [xW.eq_def]
theorem xW_mac (w n post : Str) (args : List CArg) (tl : List CItem) :
    xW w (.mac n post args :: tl) = wsX w ++ (XNode.mac n post (some (xA args)) :: xW [] tl) := by rw [xW.eq_def]
theorem xW_math (w : Str) (b tl : List CItem) :
    xW w (.math b :: tl) =
      wsX w ++ (XNode.math ('$' :: (unI b ++ ['$'])) false ['$'] ['$'] (some (mergeX (xW [] b))) :: xW [] tl) := by
  rw [xW.eq_def]
theorem xA_nil : xA [] = [] := by rw [xA.eq_def]
theorem xA_absent (tl : List CArg) : xA (.absent :: tl) = .absent :: xA tl := by rw [xA.eq_def]
theorem xA_grp (b : List CItem) (tl : List CArg) :
    xA (.grp b :: tl) = .node (.group ['{'] ['}'] (some (mergeX (xW [] b)))) :: xA tl := by rw [xA.eq_def]
theorem xA_br (b : List CItem) (tl : List CArg) :
    xA (.br b :: tl) = .node (.group ['['] [']'] (some (mergeX (xW [] b)))) :: xA tl := by rw [xA.eq_def]
theorem xA_tok (c : Char) (tl : List CArg) : xA (.tok c :: tl) = .node (.chars [c]) :: xA tl := by rw [xA.eq_def]
theorem xA_mtok (n : Str) (tl : List CArg) : xA (.mtok n :: tl) = .node (.mac n [] (some [])) :: xA tl := by rw [xA.eq_def]

/-! ### no specials other than the paragraph break and the one-character ones -/

mutual
/-- no plain character of the document (at any depth) that is not whitespace is in `bad` -/
def safeI (bad : Str) : List CItem → Bool
  | [] => true
  | .ch c :: tl => (isPySpace c || !bad.contains c) && safeI bad tl
  | .grp b :: tl => safeI bad b && safeI bad tl
  | .mac _ _ args :: tl => safeA bad args && safeI bad tl
  | .math b :: tl => safeI bad b && safeI bad tl
def safeA (bad : Str) : List CArg → Bool
  | [] => true
  | .absent :: tl => safeA bad tl
  | .grp b :: tl => safeI bad b && safeA bad tl
  | .br b :: tl => safeI bad b && safeA bad tl
  | .tok _ :: tl => safeA bad tl
  | .mtok _ :: tl => safeA bad tl
end

/-- `bad` covers the specials keys: a one-character key is one of `oneChars` or whitespace; in a longer key the first
    character is whitespace or the second is bad; the `oneChars` are keys and not bad; bad characters are plain, not whitespace -/
def keysBad (bad : Str) (keys : List Str) : Bool :=
  keys.all (fun k =>
    match k with
    | [] => true
    | [a] => oneChars.contains a || isPySpace a
    | a :: b :: _ => isPySpace a || bad.contains b) &&
  oneChars.all (fun c => keys.contains [c] && !bad.contains c) &&
  bad.all (fun c => !isPySpace c && c != '{' && c != '}' && c != '\\' && c != '$' && c != ']' && c != '[')

theorem safeI_nil (bad : Str) : safeI bad [] = true := by rw [safeI.eq_def]
theorem safeI_ch (bad : Str) (c : Char) (tl : List CItem) :
    safeI bad (.ch c :: tl) = ((isPySpace c || !bad.contains c) && safeI bad tl) := by rw [safeI.eq_def]

theorem safeI_grp (bad : Str) (b tl : List CItem) : safeI bad (.grp b :: tl) = (safeI bad b && safeI bad tl) := by
  rw [safeI.eq_def]
theorem safeI_mac (bad n post : Str) (args : List CArg) (tl : List CItem) :
    safeI bad (.mac n post args :: tl) = (safeA bad args && safeI bad tl) := by rw [safeI.eq_def]
theorem safeI_math (bad : Str) (b tl : List CItem) : safeI bad (.math b :: tl) = (safeI bad b && safeI bad tl) := by
  rw [safeI.eq_def]

end Pylx.C08.Full
