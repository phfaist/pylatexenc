/-
  C13, parse link — definitions: the Boolean check "the strict parse of this text succeeds and
  contains no comment / environment (/ math) node", the item tokenizer and the shape classifier
  for table replacements.
-/
import PylxProofs.C13
namespace Pylx.C13
open Pylx Pylx.EncB

/-! ### node kinds -/

def isComment : Node → Bool
  | .comment .. => true
  | _ => false

def isEnv : Node → Bool
  | .env .. => true
  | _ => false

def isMath : Node → Bool
  | .math .. => true
  | _ => false

/-- `t` parses in strict mode with the default context, no node of the tree is a comment or an
    environment, and none is a math node unless the replacement text `r` itself contains an
    unescaped `$` -/
def okParse (r t : Str) : Bool :=
  match parseStrict t with
  | .ok (.list _ _ ns) _ =>
    (subnodesList ns).all (fun n => !isComment n && !isEnv n && (!isMath n || rawOcc '$' false r))
  | _ => false

/-- what `C13_parses_*` say about a text `t` obtained from replacement text `r` -/
def ParsesClean (r t : Str) : Prop :=
  ∃ p e ns pos, parseStrict t = .ok (.list p e ns) pos ∧
    (∀ n ∈ subnodesList ns, isComment n = false ∧ isEnv n = false) ∧
    (rawOcc '$' false r = false → ∀ n ∈ subnodesList ns, isMath n = false)

theorem okParse_iff {r t : Str} : okParse r t = true ↔ ParsesClean r t := by
  unfold okParse ParsesClean
  constructor
  · intro h
    split at h
    · rename_i p e ns pos heq
      refine ⟨p, e, ns, pos, heq, fun n hn => ?_, fun hr n hn => ?_⟩ <;>
        have := List.all_eq_true.mp h n hn <;>
        simp only [Bool.and_eq_true, Bool.or_eq_true, Bool.not_eq_true'] at this
      · exact ⟨this.1.1, this.1.2⟩
      · rcases this.2 with h2 | h2
        · exact h2
        · rw [hr] at h2; cases h2
    · cases h
  · rintro ⟨p, e, ns, pos, heq, hc, hm⟩
    rw [heq]
    refine List.all_eq_true.mpr fun n hn => ?_
    simp only [Bool.and_eq_true, Bool.or_eq_true, Bool.not_eq_true']
    refine ⟨hc n hn, ?_⟩
    cases hr : rawOcc '$' false r with
    | true => exact Or.inr rfl
    | false => exact Or.inl (hm hr n hn)

/-- the isolated combining diacritics that `unicode-xml` maps to an accent macro without its
    argument (finding F19): U+0300–0304, 0306–0308, 030A–030C, 0327, 0328 -/
def f19 : List Nat := [0x300, 0x301, 0x302, 0x303, 0x304, 0x306, 0x307, 0x308, 0x30a, 0x30b, 0x30c, 0x327, 0x328]

/-! ### items and shapes of a replacement text -/

inductive Item where
  | chr (c : Char)
  | esc (c : Char)          -- control symbol `\c`
  | word (n : Str)          -- control word `\name`
  | grp (l : List Item)     -- `{…}`
deriving Repr, Inhabited

/-- items up to the end of the text or an unmatched `}` (which stays in the rest) -/
def items : Nat → Str → Option (List Item × Str)
  | 0, _ => none
  | _ + 1, [] => some ([], [])
  | f + 1, c :: r =>
    if c == '}' then some ([], c :: r)
    else if c == '{' then
      match items f r with
      | some (body, d :: r') =>
        if d == '}' then
          match items f r' with
          | some (rest, r'') => some (.grp body :: rest, r'')
          | none => none
        else none
      | _ => none
    else if c == '\\' then
      match r with
      | [] => none
      | d :: r' =>
        if isAsciiAlpha d then
          match items f (r'.dropWhile isAsciiAlpha) with
          | some (rest, r'') => some (.word (d :: r'.takeWhile isAsciiAlpha) :: rest, r'')
          | none => none
        else
          match items f r' with
          | some (rest, r'') => some (.esc d :: rest, r'')
          | none => none
    else
      match items f r with
      | some (rest, r'') => some (.chr c :: rest, r'')
      | none => none

/-- the whole text as items -/
def itemsOf (t : Str) : Option (List Item) :=
  match items (2 * t.length + 2) t with
  | some (l, []) => some l
  | _ => none

/-- number of mandatory (`{`) arguments the default context declares for a macro -/
def mandCount (name : Str) : Nat :=
  match Gen.defaultCtx.macroSpec name with
  | some (.std l) => (l.filter (fun a => a.kind == .m)).length
  | _ => 0

def Item.needs : Item → Nat
  | .esc c => mandCount [c]
  | .word n => mandCount n
  | _ => 0

mutual
/-- some macro is followed, inside its own group, by fewer items than it has mandatory arguments -/
def starvedItem : Item → Bool
  | .grp l => starvedList l
  | _ => false
def starvedList : List Item → Bool
  | [] => false
  | it :: rest => decide (it.needs > rest.length) || starvedItem it || starvedList rest
end

def Item.isChr : Item → Bool
  | .chr _ => true
  | _ => false

def Item.isMacro : Item → Bool
  | .esc _ => true
  | .word _ => true
  | _ => false

def Item.isGrp : Item → Bool
  | .grp _ => true
  | _ => false

inductive Shape where
  | empty          -- ``
  | plain          -- ordinary characters only: `IJ`, `''`, `-`, `~`
  | escape         -- one control symbol: `\%` `\$` `\&` `\#` `\_` `\{` `\}` `\,` `\;` `\-`
  | word           -- one control word: `\textbackslash`, `\ae`
  | macroEmpty     -- `\name{}` / `\^{}`
  | ensuremath     -- `\ensuremath{…}`
  | accentBraced   -- `\'{A}`, `\c{C}`, `\^{\i}`: macro + group holding one item
  | accentBare     -- `\'e`, `\"\CYRA`: control symbol + one character or control word
  | macroGroups    -- `\name{…}…{…}`: `\mathbb{C}`, `\textfrac{1}{3}`, `\hspace{0.33em}`
  | macroSeq       -- control words / symbols only: `\cyrchar\CYROMEGA`, `\int\!\int`
  | group          -- one group: `{^2}`, `{\fontencoding{LELA}\selectfont\char202}`
  | bareAccent     -- a macro with a mandatory argument and nothing after it: `\'`, `\c` (F19)
  | other          -- any other sequence of items: `\'{}A`, `\ensuremath{^\circ}F`, `\not =`
deriving DecidableEq, Repr, Inhabited

def shapeOf (l : List Item) : Shape :=
  match l with
  | [] => .empty
  | [it] =>
    if it.isMacro && decide (it.needs > 0) then .bareAccent
    else match it with
      | .chr _ => .plain
      | .esc _ => .escape
      | .word _ => .word
      | .grp _ => .group
  | a :: rest =>
    if l.all Item.isChr then .plain
    else match a, rest with
      | .word n, [.grp b] =>
        if n == "ensuremath".toList then .ensuremath
        else if b.isEmpty then .macroEmpty
        else if b.length == 1 && decide (mandCount n > 0) && n.length == 1 then .accentBraced
        else .macroGroups
      | .esc _, [.grp b] => if b.isEmpty then .macroEmpty else if b.length == 1 then .accentBraced else .macroGroups
      | .esc _, [.chr _] => .accentBare
      | .esc _, [.word _] => .accentBare
      | _, _ =>
        if a.isMacro && rest.all Item.isGrp then .macroGroups
        else if l.all Item.isMacro then .macroSeq
        else .other

/-- shape of a table entry; `none` = the text is not a well-bracketed sequence of items -/
def entryShape (e : Nat × List Nat) : Option Shape := (itemsOf (S e.2)).map shapeOf

/-- classifier check: the entry is a sequence of items, and it has a macro starved of a mandatory
    argument exactly when it is listed in `skip`; then it is the single bare macro -/
def entryClassified (skip : List Nat) (e : Nat × List Nat) : Bool :=
  match itemsOf (S e.2) with
  | some l => (starvedList l == skip.contains e.1) && ((shapeOf l == .bareAccent) == skip.contains e.1)
  | none => false

end Pylx.C13
