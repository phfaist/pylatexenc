/-
  C08, all strings — the per-chunk facts for the whole alphabet, assembled from the slices of `C08FChk[A-D]` (the last
  slice is open-ended, so the assembly stays complete if the generated alphabet grows).
-/
import PylxProofs.C08FChkA
import PylxProofs.C08FChkB
import PylxProofs.C08FChkC
import PylxProofs.C08FChkD
namespace Pylx.C08.Full
open Pylx Pylx.C08

theorem chunks_all : Gen.c08AlphaChunks.all ChunksOk = true := by
  have h := k0
  have h := slice_join _ _ 0 6 6 h k1
  have h := slice_join _ _ 0 12 6 h k2
  have h := slice_join _ _ 0 18 6 h k3
  have h := slice_join _ _ 0 24 6 h k4
  have h := slice_join _ _ 0 30 6 h k5
  have h := slice_join _ _ 0 36 6 h k6
  have h := slice_join _ _ 0 42 6 h k7
  have h := slice_join _ _ 0 48 6 h k8
  have h := slice_join _ _ 0 54 6 h k9
  have h := slice_join _ _ 0 60 6 h k10
  have h := slice_join _ _ 0 66 6 h k11
  have h := slice_join _ _ 0 72 6 h k12
  have h := slice_join _ _ 0 78 6 h k13
  have h := slice_join _ _ 0 84 6 h k14
  have h := slice_join _ _ 0 90 6 h k15
  have h := slice_join _ _ 0 96 6 h k16
  have h := slice_join _ _ 0 102 6 h k17
  have h := slice_join _ _ 0 108 6 h k18
  have h := slice_join _ _ 0 114 6 h k19
  have h := slice_join _ _ 0 120 6 h k20
  have h := slice_join _ _ 0 126 6 h k21
  have h := slice_join _ _ 0 132 6 h k22
  have h := slice_join _ _ 0 138 6 h k23
  have h := slice_join _ _ 0 144 6 h k24
  have h := slice_join _ _ 0 150 6 h k25
  have h := slice_join _ _ 0 156 6 h k26
  have h := slice_join _ _ 0 162 6 h k27
  have h := slice_join _ _ 0 168 6 h k28
  have h := slice_join _ _ 0 174 6 h k29
  have h := slice_join _ _ 0 180 6 h k30
  have h := slice_join _ _ 0 186 6 h k31
  have h := slice_join _ _ 0 192 6 h k32
  have h := slice_join _ _ 0 198 6 h k33
  have h := slice_join _ _ 0 204 6 h k34
  have h := slice_join _ _ 0 210 6 h k35
  have h := slice_join _ _ 0 216 6 h k36
  have h := slice_join _ _ 0 222 6 h k37
  have h := slice_join _ _ 0 228 6 h k38
  have h := slice_join _ _ 0 234 6 h k39
  have h := slice_join _ _ 0 240 6 h k40
  have h := slice_join _ _ 0 246 6 h k41
  have h := slice_join _ _ 0 252 6 h k42
  exact slice_rest ChunksOk Gen.c08AlphaChunks 0 258 h k43

end Pylx.C08.Full
