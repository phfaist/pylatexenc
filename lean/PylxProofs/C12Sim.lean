/-
  C12 — latex2text content filters (comments, math modes, discarded constructs).

  Tree-level theorems about the renderer model `Pylx.L2T` for EVERY tree (hence also for what tolerant parsing
  returns), every option set, arbitrary text / walker databases and library oracles.

  Part A (non-interference): a similarity relation `NodeSim E` on trees — equal up to the parts the property
  declares invisible (comment texts when `keep_comments` is off, formulas and equation environments under
  `math_mode='remove'`, arguments / bodies of discarded constructs) — and `render` is invariant under it.
  Part B (visibility): `InNode E n t` — the node `t` sits in *rendered position* of `n` — and everything `t`
  emits is found (as an infix) in what `n` emits.
-/
import PylxProofs.L2TLemmas
namespace Pylx.L2T.C12
open Pylx Pylx.L2T

/-! ### Part A: similarity -/

/-- the construct contributes nothing: no (truthy) replacement and `discard = True` -/
def Discarded (E : Env) (sp : TSpec) : Prop :=
  replTruthy E.lib sp.repl = false ∧ sp.hasDiscard = true ∧ sp.discard = true

/-- same `nodeargd is None`, same length, same pattern of absent arguments -/
def ArgsOShape (a a' : Option (List Arg)) : Prop :=
  a.isNone = a'.isNone ∧ (a.getD []).map isAbsent = (a'.getD []).map isAbsent

mutual
/-- `n'` equals `n` up to the parts declared invisible under the options / databases of `E` -/
def NodeSim (E : Env) : Node → Node → Prop
  | .chars p e ps ch, n' => n' = .chars p e ps ch
  | .comment p e ps cm post, n' =>
    ∃ cm', n' = .comment p e ps cm' post ∧ (E.opts.keepComments = false ∨ cm' = cm)
  | .group p e ps o cl b, n' => ∃ b', n' = .group p e ps o cl b' ∧ BodySim E b b'
  | .mac p e ps name post a, n' =>
    ∃ a', n' = .mac p e ps name post a' ∧ (ArgsOSim E a a' ∨ (Discarded E (macSpec E name) ∧ ArgsOShape a a'))
  | .env p e ps name a b, n' =>
    ∃ a' b', n' = .env p e ps name a' b' ∧
      ((ArgsOSim E a a' ∧ BodySim E b b') ∨ Discarded E (envSpec E name) ∨
       (E.opts.mathMode = .remove ∧ (envSpec E name).repl = .eqEnv))
  | .specials p e ps ch a, n' =>
    ∃ a', n' = .specials p e ps ch a' ∧
      (ArgsOSim E a a' ∨ ∃ sp, lookupFirst ch E.db.specials = some sp ∧ Discarded E sp)
  | .math p e ps d o cl b, n' =>
    (∃ b', n' = .math p e ps d o cl b' ∧ BodySim E b b') ∨
    (E.opts.mathMode = .remove ∧ ∃ p' e' ps' d' o' cl' b', n' = .math p' e' ps' d' o' cl' b')
def BodySim (E : Env) : Option (List Node) → Option (List Node) → Prop
  | none, b' => b' = none
  | some ns, b' => ∃ ns', b' = some ns' ∧ ListSim E ns ns'
def ListSim (E : Env) : List Node → List Node → Prop
  | [], l' => l' = []
  | n :: ns, l' => ∃ n' ns', l' = n' :: ns' ∧ NodeSim E n n' ∧ ListSim E ns ns'
def ArgsOSim (E : Env) : Option (List Arg) → Option (List Arg) → Prop
  | none, a' => a' = none
  | some l, a' => ∃ l', a' = some l' ∧ ArgsSim E l l'
def ArgsSim (E : Env) : List Arg → List Arg → Prop
  | [], l' => l' = []
  | a :: l, l' => ∃ a' l'', l' = a' :: l'' ∧ ArgSim E a a' ∧ ArgsSim E l l''
def ArgSim (E : Env) : Arg → Arg → Prop
  | .absent, a' => a' = .absent
  | .node n, a' => ∃ n', a' = .node n' ∧ NodeSim E n n'
  | .list p e ns, a' => ∃ ns', a' = .list p e ns' ∧ ListSim E ns ns'
end

/-! #### shape consequences -/

theorem argSim_absent {E : Env} : ∀ {a a' : Arg}, ArgSim E a a' → isAbsent a = isAbsent a'
  | .absent, _, h => by simp only [ArgSim] at h; subst h; rfl
  | .node _, _, h => by simp only [ArgSim] at h; obtain ⟨_, rfl, _⟩ := h; rfl
  | .list .., _, h => by simp only [ArgSim] at h; obtain ⟨_, rfl, _⟩ := h; rfl

theorem argsSim_shape {E : Env} : ∀ {l l' : List Arg}, ArgsSim E l l' → l.map isAbsent = l'.map isAbsent
  | [], _, h => by simp only [ArgsSim] at h; subst h; rfl
  | _ :: _, _, h => by
    simp only [ArgsSim] at h
    obtain ⟨_, _, rfl, ha, hl⟩ := h
    rw [List.map_cons, List.map_cons, argSim_absent ha, argsSim_shape hl]

theorem argsOSim_shape {E : Env} : ∀ {a a' : Option (List Arg)}, ArgsOSim E a a' → ArgsOShape a a'
  | none, _, h => by simp only [ArgsOSim] at h; subst h; exact ⟨rfl, rfl⟩
  | some _, _, h => by simp only [ArgsOSim] at h; obtain ⟨_, rfl, hl⟩ := h; exact ⟨rfl, argsSim_shape hl⟩

theorem bodySim_isNone {E : Env} : ∀ {b b' : Option (List Node)}, BodySim E b b' → b.isNone = b'.isNone
  | none, _, h => by simp only [BodySim] at h; subst h; rfl
  | some _, _, h => by simp only [BodySim] at h; obtain ⟨_, rfl, _⟩ := h; rfl

theorem isBare_shape (E : Env) (p e : Nat) (ps : PSInfo) (name post : Str) {a a' : Option (List Arg)}
    (h : ArgsOShape a a') :
    isBare E (some (.mac p e ps name post a)) = isBare E (some (.mac p e ps name post a')) := by
  rw [isBare_mac, isBare_mac, h.1, h.2]

/-- what the loops of `nodelist_to_text` / the matrix formatter look at in a neighbouring node -/
structure Alike (E : Env) (n n' : Node) : Prop where
  bare : isBare E (some n) = isBare E (some n')
  post : postSpaceOf (some n) = postSpaceOf (some n')
  chars : isCharsNode n = isCharsNode n'
  spec : ∀ s, isSpecialsNamed s n = isSpecialsNamed s n'
  mac : ∀ s, isMacroNamed s n = isMacroNamed s n'

theorem nodeSim_alike {E : Env} : ∀ {n n' : Node}, NodeSim E n n' → Alike E n n'
  | .chars .., _, h => by simp only [NodeSim] at h; subst h; exact ⟨rfl, rfl, rfl, fun _ => rfl, fun _ => rfl⟩
  | .comment .., _, h | .group .., _, h | .specials .., _, h => by
    simp only [NodeSim] at h; obtain ⟨_, rfl, _⟩ := h
    exact ⟨rfl, rfl, rfl, fun _ => rfl, fun _ => rfl⟩
  | .mac p e ps name post _, _, h => by
    simp only [NodeSim] at h; obtain ⟨_, rfl, h⟩ := h
    exact ⟨isBare_shape E p e ps name post (h.elim argsOSim_shape And.right), rfl, rfl, fun _ => rfl, fun _ => rfl⟩
  | .env .., _, h => by
    simp only [NodeSim] at h; obtain ⟨_, _, rfl, _⟩ := h
    exact ⟨rfl, rfl, rfl, fun _ => rfl, fun _ => rfl⟩
  | .math .., _, h => by
    simp only [NodeSim] at h
    rcases h with ⟨_, rfl, _⟩ | ⟨_, _, _, _, _, _, _, _, rfl⟩ <;> exact ⟨rfl, rfl, rfl, fun _ => rfl, fun _ => rfl⟩

/-- the previous-node hints agree -/
def PrevAlike (E : Env) (prev prev' : Option Node) : Prop :=
  isBare E prev = isBare E prev' ∧ postSpaceOf prev = postSpaceOf prev'

theorem prevAlike_none (E : Env) : PrevAlike E none none := ⟨rfl, rfl⟩

theorem preOf_alike {E : Env} (c : Sls) {prev prev' : Option Node} (hp : PrevAlike E prev prev') {n n' : Node}
    (hn : Alike E n n') : preOf E c prev n = preOf E c prev' n' := by
  unfold preOf
  rw [hp.1, hp.2, hn.chars]

/-! #### a discarded construct emits nothing -/

theorem applySpec_discarded {E : Env} {sp : TSpec} (h : Discarded E sp) (info : NodeInfo) (th : Thunks) (dflt : R Str) :
    applySpec E info th sp dflt = R.pure [] := by
  rw [applySpec_of_falsy h.1 h.2.1, h.2.2, if_pos rfl]

theorem applySpec_eqEnv_remove {E : Env} {sp : TSpec} (hm : E.opts.mathMode = .remove) (h : sp.repl = .eqEnv)
    (name : Str) (p e : Nat) (th : Thunks) (dflt : R Str) :
    applySpec E ⟨.env, name, p, e⟩ th sp dflt = R.pure [] := by
  rw [applySpec_eqEnv h, mathText_remove hm]

/-! #### the renderer is invariant under similarity -/

/-- the thunks depend on the arguments only through their shape and the three accessors -/
theorem argThunks_congr (E : Env) (c : Sls) {a a' : Option (List Arg)} (hs : ArgsOShape a a')
    (h1 : argsEachO E c a = argsEachO E c a') (h2 : ∀ k, singleAtO E c k a = singleAtO E c k a')
    (h3 : ∀ k, contentsAtO E c k a = contentsAtO E c k a') : argThunks E c a = argThunks E c a' := by
  funext body bodyEq bn m
  have hl : (a.getD []).length = (a'.getD []).length := by simpa using congrArg List.length hs.2
  have ha : absentAt (a.getD []) = absentAt (a'.getD []) := funext fun k => by rw [absentAt_eq, absentAt_eq, hs.2]
  simp only [argThunks, h1, funext h2, funext h3, hs.1, hl, ha]

-- each theorem recurses on its first tree; said explicitly because with two tree arguments per theorem Lean gives up
-- guessing and falls back to a (slow) well-founded recursion
mutual
theorem renderNode_sim (E : Env) : ∀ (n n' : Node) (c : Sls), NodeSim E n n' → renderNode E c n = renderNode E c n'
  | .chars .., _, _, h => by simp only [NodeSim] at h; subst h; rfl
  | .comment p e ps cm post, _, c, h => by
    simp only [NodeSim] at h
    obtain ⟨cm', rfl, h | rfl⟩ := h
    · simp only [renderNode_comment, h, Bool.false_eq_true, if_false]
    · rfl
  | .group p e ps o cl b, _, c, h => by
    simp only [NodeSim] at h
    obtain ⟨b', rfl, h⟩ := h
    rw [renderNode_group, renderNode_group, renderBody_sim E b b' c h]
  | .mac p e ps name post a, _, c, h => by
    simp only [NodeSim] at h
    obtain ⟨a', rfl, h | ⟨hd, _⟩⟩ := h
    · rw [renderNode_mac, renderNode_mac, macThunks, macThunks, argsCatO_sim E a a' c h,
        argThunks_congr E c (argsOSim_shape h) (argsEachO_sim E a a' c h) (fun k => singleAtO_sim E a a' c k h)
          (fun k => contentsAtO_sim E a a' c k h)]
    · rw [renderNode_mac, renderNode_mac, applySpec_discarded hd, applySpec_discarded hd]
  | .env p e ps name a b, _, c, h => by
    simp only [NodeSim] at h
    obtain ⟨a', b', rfl, ⟨ha, hb⟩ | hd | ⟨hm, hr⟩⟩ := h
    · rw [renderNode_env, renderNode_env, envThunks, envThunks, renderBody_sim E b b' c hb,
        renderBody_sim E b b' c.enterEq hb, matrixBody_sim E b b' c hb, bodySim_isNone hb,
        argThunks_congr E c (argsOSim_shape ha) (argsEachO_sim E a a' c ha) (fun k => singleAtO_sim E a a' c k ha)
          (fun k => contentsAtO_sim E a a' c k ha)]
    · rw [renderNode_env, renderNode_env, applySpec_discarded hd, applySpec_discarded hd]
    · rw [renderNode_env, renderNode_env, applySpec_eqEnv_remove hm hr, applySpec_eqEnv_remove hm hr]
  | .specials p e ps ch a, _, c, h => by
    simp only [NodeSim] at h
    obtain ⟨a', rfl, h | ⟨sp, hl, hd⟩⟩ := h
    · rw [renderNode_specials, renderNode_specials, macThunks, macThunks, argsCatO_sim E a a' c h,
        argThunks_congr E c (argsOSim_shape h) (argsEachO_sim E a a' c h) (fun k => singleAtO_sim E a a' c k h)
          (fun k => contentsAtO_sim E a a' c k h)]
    · simp only [renderNode_specials, hl]
      rw [applySpec_discarded hd, applySpec_discarded hd]
  | .math p e ps d o cl b, _, c, h => by
    simp only [NodeSim] at h
    obtain ⟨b', rfl, h⟩ | ⟨hm, _, _, _, _, _, _, _, rfl⟩ := h
    · rw [renderNode_math, renderNode_math, renderBody_sim E b b' c.enterEq h]
    · rw [renderNode_math, renderNode_math, mathText_remove hm, mathText_remove hm]
termination_by structural x => x
theorem renderBody_sim (E : Env) : ∀ (b b' : Option (List Node)) (c : Sls), BodySim E b b' → renderBody E c b = renderBody E c b'
  | none, _, _, h => by simp only [BodySim] at h; subst h; rfl
  | some ns, _, c, h => by
    simp only [BodySim] at h
    obtain ⟨ns', rfl, h⟩ := h
    exact renderList_sim E ns ns' c none none [] (prevAlike_none E) h
termination_by structural x => x
theorem renderList_sim (E : Env) : ∀ (ns ns' : List Node) (c : Sls) (prev prev' : Option Node) (acc : Str),
    PrevAlike E prev prev' → ListSim E ns ns' → renderList E c prev acc ns = renderList E c prev' acc ns'
  | [], _, _, _, _, _, _, h => by simp only [ListSim] at h; subst h; rfl
  | n :: ns, _, c, prev, prev', acc, hp, h => by
    simp only [ListSim] at h
    obtain ⟨n', ns', rfl, hn, hl⟩ := h
    have ha := nodeSim_alike hn
    rw [renderList_cons, renderList_cons, preOf_alike c hp ha, renderNode_sim E n n' c hn]
    exact R.bind_congr rfl fun _ => R.bind_congr rfl fun _ =>
      renderList_sim E ns ns' c (some n) (some n') _ ⟨ha.bare, ha.post⟩ hl
termination_by structural x => x
theorem groupContents_sim (E : Env) : ∀ (a a' : Arg) (c : Sls), ArgSim E a a' → groupContents E c a = groupContents E c a'
  | .absent, _, _, h => by simp only [ArgSim] at h; subst h; rfl
  | .list p e ns, _, c, h => by
    simp only [ArgSim] at h
    obtain ⟨ns', rfl, h⟩ := h
    exact renderList_sim E ns ns' c none none [] (prevAlike_none E) h
  | .node n, _, c, h => by
    simp only [ArgSim] at h
    obtain ⟨n', rfl, h⟩ := h
    -- a group loses its braces; any other node is rendered as it is, and `n'` has the constructor of `n`
    have hr := renderNode_sim E n n' c h
    cases n <;> simp only [NodeSim] at h
    case group p e ps o cl b => obtain ⟨b', rfl, hb⟩ := h; exact renderBody_sim E b b' c hb
    case chars => subst h; exact hr
    case comment | mac | specials => obtain ⟨_, rfl, _⟩ := h; exact hr
    case env => obtain ⟨_, _, rfl, _⟩ := h; exact hr
    case math => rcases h with ⟨_, rfl, _⟩ | ⟨_, _, _, _, _, _, _, _, rfl⟩ <;> exact hr
termination_by structural x => x
theorem singleArg_sim (E : Env) : ∀ (a a' : Arg) (c : Sls), ArgSim E a a' → singleArg E c a = singleArg E c a'
  | .absent, _, _, h => by simp only [ArgSim] at h; subst h; rfl
  | .list .., _, _, h => by simp only [ArgSim] at h; obtain ⟨_, rfl, _⟩ := h; rfl
  | .node n, _, c, h => by simp only [ArgSim] at h; obtain ⟨n', rfl, h⟩ := h; exact renderNode_sim E n n' c h
termination_by structural x => x
theorem argsCat_sim (E : Env) : ∀ (l l' : List Arg) (c : Sls), ArgsSim E l l' → argsCat E c l = argsCat E c l'
  | [], _, _, h => by simp only [ArgsSim] at h; subst h; rfl
  | a :: l, _, c, h => by
    simp only [ArgsSim] at h
    obtain ⟨a', l', rfl, ha, hl⟩ := h
    exact R.bind_congr (groupContents_sim E a a' c ha) fun _ => R.bind_congr (argsCat_sim E l l' c hl) fun _ => rfl
termination_by structural x => x
theorem argsEach_sim (E : Env) : ∀ (l l' : List Arg) (c : Sls), ArgsSim E l l' → argsEach E c l = argsEach E c l'
  | [], _, _, h => by simp only [ArgsSim] at h; subst h; rfl
  | a :: l, _, c, h => by
    simp only [ArgsSim] at h
    obtain ⟨a', l', rfl, ha, hl⟩ := h
    exact R.bind_congr (groupContents_sim E a a' c ha) fun _ => R.bind_congr (argsEach_sim E l l' c hl) fun _ => rfl
termination_by structural x => x
theorem singleAt_sim (E : Env) : ∀ (l l' : List Arg) (c : Sls) (k : Nat), ArgsSim E l l' → singleAt E c k l = singleAt E c k l'
  | [], _, _, _, h => by simp only [ArgsSim] at h; subst h; rfl
  | a :: l, _, c, k, h => by
    simp only [ArgsSim] at h
    obtain ⟨a', l', rfl, ha, hl⟩ := h
    cases k with
    | zero => exact singleArg_sim E a a' c ha
    | succ k => exact singleAt_sim E l l' c k hl
termination_by structural x => x
theorem contentsAt_sim (E : Env) : ∀ (l l' : List Arg) (c : Sls) (k : Nat), ArgsSim E l l' → contentsAt E c k l = contentsAt E c k l'
  | [], _, _, _, h => by simp only [ArgsSim] at h; subst h; rfl
  | a :: l, _, c, k, h => by
    simp only [ArgsSim] at h
    obtain ⟨a', l', rfl, ha, hl⟩ := h
    cases k with
    | zero => exact groupContents_sim E a a' c ha
    | succ k => exact contentsAt_sim E l l' c k hl
termination_by structural x => x
theorem argsCatO_sim (E : Env) : ∀ (o o' : Option (List Arg)) (c : Sls), ArgsOSim E o o' → argsCatO E c o = argsCatO E c o'
  | none, _, _, h => by simp only [ArgsOSim] at h; subst h; rfl
  | some l, _, c, h => by simp only [ArgsOSim] at h; obtain ⟨l', rfl, h⟩ := h; exact argsCat_sim E l l' c h
termination_by structural x => x
theorem argsEachO_sim (E : Env) : ∀ (o o' : Option (List Arg)) (c : Sls), ArgsOSim E o o' → argsEachO E c o = argsEachO E c o'
  | none, _, _, h => by simp only [ArgsOSim] at h; subst h; rfl
  | some l, _, c, h => by simp only [ArgsOSim] at h; obtain ⟨l', rfl, h⟩ := h; exact argsEach_sim E l l' c h
termination_by structural x => x
theorem singleAtO_sim (E : Env) : ∀ (o o' : Option (List Arg)) (c : Sls) (k : Nat), ArgsOSim E o o' →
    singleAtO E c k o = singleAtO E c k o'
  | none, _, _, _, h => by simp only [ArgsOSim] at h; subst h; rfl
  | some l, _, c, k, h => by simp only [ArgsOSim] at h; obtain ⟨l', rfl, h⟩ := h; exact singleAt_sim E l l' c k h
termination_by structural x => x
theorem contentsAtO_sim (E : Env) : ∀ (o o' : Option (List Arg)) (c : Sls) (k : Nat), ArgsOSim E o o' →
    contentsAtO E c k o = contentsAtO E c k o'
  | none, _, _, _, h => by simp only [ArgsOSim] at h; subst h; rfl
  | some l, _, c, k, h => by simp only [ArgsOSim] at h; obtain ⟨l', rfl, h⟩ := h; exact contentsAt_sim E l l' c k h
termination_by structural x => x
theorem matrixBody_sim (E : Env) : ∀ (b b' : Option (List Node)) (c : Sls), BodySim E b b' → matrixBody E c b = matrixBody E c b'
  | none, _, _, h => by simp only [BodySim] at h; subst h; rfl
  | some ns, _, c, h => by
    simp only [BodySim] at h
    obtain ⟨ns', rfl, h⟩ := h
    exact matrixLoop_sim E ns ns' c none none none [] [] (prevAlike_none E) h
termination_by structural x => x
theorem matrixLoop_sim (E : Env) : ∀ (ns ns' : List Node) (c : Sls) (prev prev' : Option Node) (cell : Option Str)
    (row : List Str) (rows : List (List Str)), PrevAlike E prev prev' → ListSim E ns ns' →
    matrixLoop E c prev cell row rows ns = matrixLoop E c prev' cell row rows ns'
  | [], _, _, _, _, _, _, _, _, h => by simp only [ListSim] at h; subst h; rfl
  | n :: ns, _, c, prev, prev', cell, row, rows, hp, h => by
    simp only [ListSim] at h
    obtain ⟨n', ns', rfl, hn, hl⟩ := h
    have ha := nodeSim_alike hn
    rw [matrixLoop_cons, matrixLoop_cons, ← ha.spec, ← ha.mac, preOf_alike c hp ha, renderNode_sim E n n' c hn,
      matrixLoop_sim E ns ns' c none none none _ rows (prevAlike_none E) hl,
      matrixLoop_sim E ns ns' c none none none [] _ (prevAlike_none E) hl]
    congr 1; congr 1
    exact R.bind_congr rfl fun _ => R.bind_congr rfl fun _ =>
      matrixLoop_sim E ns ns' c (some n) (some n') _ _ _ ⟨ha.bare, ha.post⟩ hl
termination_by structural x => x
end

/-- **non-interference, relational form**: two forests that are equal up to the invisible parts render alike -/
theorem C12_noninterference (opts : Opts) (db : TextDb) (ctx : Ctx) (lib : Lib) (src : Str) (ns ns' : List Node)
    (h : ListSim { opts := opts, db := db, ctx := ctx, lib := lib, src := src } ns ns') :
    render opts db ctx lib src ns = render opts db ctx lib src ns' := by
  rw [render, render, renderList_sim _ ns ns' _ none none [] (prevAlike_none _) h]

/-! #### rewriting comment texts -/

mutual
/-- rewrite the text of every comment node (`g` sees the node's position and its text) -/
def mapCommentsNode (g : Nat → Str → Str) : Node → Node
  | .chars p e ps ch => .chars p e ps ch
  | .comment p e ps cm post => .comment p e ps (g p cm) post
  | .group p e ps o cl b => .group p e ps o cl (mapCommentsBody g b)
  | .mac p e ps name post a => .mac p e ps name post (mapCommentsArgsO g a)
  | .env p e ps name a b => .env p e ps name (mapCommentsArgsO g a) (mapCommentsBody g b)
  | .specials p e ps ch a => .specials p e ps ch (mapCommentsArgsO g a)
  | .math p e ps d o cl b => .math p e ps d o cl (mapCommentsBody g b)
def mapCommentsBody (g : Nat → Str → Str) : Option (List Node) → Option (List Node)
  | none => none
  | some ns => some (mapComments g ns)
def mapComments (g : Nat → Str → Str) : List Node → List Node
  | [] => []
  | n :: ns => mapCommentsNode g n :: mapComments g ns
def mapCommentsArgsO (g : Nat → Str → Str) : Option (List Arg) → Option (List Arg)
  | none => none
  | some l => some (mapCommentsArgs g l)
def mapCommentsArgs (g : Nat → Str → Str) : List Arg → List Arg
  | [] => []
  | a :: l => mapCommentsArg g a :: mapCommentsArgs g l
def mapCommentsArg (g : Nat → Str → Str) : Arg → Arg
  | .absent => .absent
  | .node n => .node (mapCommentsNode g n)
  | .list p e ns => .list p e (mapComments g ns)
end

mutual
theorem sim_mapCommentsNode (E : Env) (hk : E.opts.keepComments = false) (g : Nat → Str → Str) :
    ∀ n : Node, NodeSim E n (mapCommentsNode g n)
  | .chars .. => by simp only [mapCommentsNode, NodeSim]
  | .comment p e ps cm post => by
    simp only [mapCommentsNode, NodeSim]; exact ⟨_, rfl, Or.inl hk⟩
  | .group p e ps o cl b => by
    simp only [mapCommentsNode, NodeSim]; exact ⟨_, rfl, sim_mapCommentsBody E hk g b⟩
  | .mac p e ps name post a => by
    simp only [mapCommentsNode, NodeSim]; exact ⟨_, rfl, Or.inl (sim_mapCommentsArgsO E hk g a)⟩
  | .env p e ps name a b => by
    simp only [mapCommentsNode, NodeSim]
    exact ⟨_, _, rfl, Or.inl ⟨sim_mapCommentsArgsO E hk g a, sim_mapCommentsBody E hk g b⟩⟩
  | .specials p e ps ch a => by
    simp only [mapCommentsNode, NodeSim]; exact ⟨_, rfl, Or.inl (sim_mapCommentsArgsO E hk g a)⟩
  | .math p e ps d o cl b => by
    simp only [mapCommentsNode, NodeSim]; exact Or.inl ⟨_, rfl, sim_mapCommentsBody E hk g b⟩
theorem sim_mapCommentsBody (E : Env) (hk : E.opts.keepComments = false) (g : Nat → Str → Str) :
    ∀ b : Option (List Node), BodySim E b (mapCommentsBody g b)
  | none => by simp only [mapCommentsBody, BodySim]
  | some ns => by simp only [mapCommentsBody, BodySim]; exact ⟨_, rfl, sim_mapComments E hk g ns⟩
theorem sim_mapComments (E : Env) (hk : E.opts.keepComments = false) (g : Nat → Str → Str) :
    ∀ ns : List Node, ListSim E ns (mapComments g ns)
  | [] => by simp only [mapComments, ListSim]
  | n :: ns => by
    simp only [mapComments, ListSim]; exact ⟨_, _, rfl, sim_mapCommentsNode E hk g n, sim_mapComments E hk g ns⟩
theorem sim_mapCommentsArgsO (E : Env) (hk : E.opts.keepComments = false) (g : Nat → Str → Str) :
    ∀ a : Option (List Arg), ArgsOSim E a (mapCommentsArgsO g a)
  | none => by simp only [mapCommentsArgsO, ArgsOSim]
  | some l => by simp only [mapCommentsArgsO, ArgsOSim]; exact ⟨_, rfl, sim_mapCommentsArgs E hk g l⟩
theorem sim_mapCommentsArgs (E : Env) (hk : E.opts.keepComments = false) (g : Nat → Str → Str) :
    ∀ l : List Arg, ArgsSim E l (mapCommentsArgs g l)
  | [] => by simp only [mapCommentsArgs, ArgsSim]
  | a :: l => by
    simp only [mapCommentsArgs, ArgsSim]; exact ⟨_, _, rfl, sim_mapCommentsArg E hk g a, sim_mapCommentsArgs E hk g l⟩
theorem sim_mapCommentsArg (E : Env) (hk : E.opts.keepComments = false) (g : Nat → Str → Str) :
    ∀ a : Arg, ArgSim E a (mapCommentsArg g a)
  | .absent => by simp only [mapCommentsArg, ArgSim]
  | .node n => by simp only [mapCommentsArg, ArgSim]; exact ⟨_, rfl, sim_mapCommentsNode E hk g n⟩
  | .list p e ns => by simp only [mapCommentsArg, ArgSim]; exact ⟨_, rfl, sim_mapComments E hk g ns⟩
end

/-- **C12 (comments hidden).**  With `keep_comments` off the output does not depend on the text of any comment
    node, wherever it sits in the tree: for every rewriting `g` of comment texts (which may depend on the comment's
    position), every option set, both databases, every library oracle, every source string and every forest.
    (The source string `src` is a separate argument: under `math_mode='verbatim'` the slice `src[pos:posEnd]` of a
    formula is emitted as it is — reading (i).) -/
theorem C12_comments_hidden (opts : Opts) (db : TextDb) (ctx : Ctx) (lib : Lib) (src : Str) (hk : opts.keepComments = false)
    (g : Nat → Str → Str) (ns : List Node) :
    render opts db ctx lib src (mapComments g ns) = render opts db ctx lib src ns :=
  (C12_noninterference opts db ctx lib src ns _ (sim_mapComments _ hk g ns)).symm

end Pylx.L2T.C12
