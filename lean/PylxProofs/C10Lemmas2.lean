/-
  C10 — two contracts over `step`.  `GoodX`: started in a state with the math delimiter configuration of `f0`, a task
  returns nodes that record the mode of the state they were read in (here only its step lemmas for the nodes
  collector).  `Good2`: in strict mode a general-nodes parser that returns normally met its stop condition.
-/
import PylxProofs.C10Lemmas1
import PylxProofs.StepLemmas
namespace Pylx
namespace C10

/-- same math delimiter configuration as the start state -/
def SD (f0 f : PSFields) : Prop := f.inlineDelims = f0.inlineDelims ∧ f.displayDelims = f0.displayDelims

theorem SD_refl (f : PSFields) : SD f f := ⟨rfl, rfl⟩

theorem normalize_inline (f : PSFields) : f.normalize.inlineDelims = f.inlineDelims := by
  unfold PSFields.normalize; split <;> rfl
theorem normalize_display (f : PSFields) : f.normalize.displayDelims = f.displayDelims := by
  unfold PSFields.normalize; split <;> rfl

theorem SD_mathFields {f0 f : PSFields} (d : Str) (h : SD f0 f) : SD f0 (mathFields f d) := by
  unfold SD mathFields; rw [normalize_inline, normalize_display]; exact h

theorem SD_applyDelta {f0 f : PSFields} (δ : Delta) (h : SD f0 f) : SD f0 (applyDelta f δ) := by
  cases δ
  · exact h
  · unfold SD applyDelta; rw [normalize_inline, normalize_display]; exact h
  · unfold SD applyDelta; rw [normalize_inline, normalize_display]; exact h

theorem psInfo_mathFields (f : PSFields) (d : Str) : psInfo (mathFields f d) = mathInfo d := by
  simp [psInfo, mathFields, PSFields.normalize, mathInfo]

theorem psInfo_applyDelta (f : PSFields) (δ : Delta) : psInfo (applyDelta f δ) = deltaInfo (psInfo f) δ := by
  cases δ <;> simp [psInfo, applyDelta, PSFields.normalize, deltaInfo, enterMathInfo, textInfo]

theorem groupState_spec {f0 f g : PSFields} (delims : GroupDelims) (h : groupState delims f = some g) (hs : SD f0 f) :
    psInfo g = psInfo f ∧ SD f0 g := by
  cases delims with
  | auto o =>
    simp only [groupState] at h
    split at h
    · cases h; exact ⟨rfl, hs⟩
    · cases h
  | pair o c =>
    simp only [groupState] at h
    split at h
    · cases h; exact ⟨rfl, hs⟩
    · cases h; exact ⟨rfl, hs⟩

section
variable (P : Str → Str → Bool → Prop) (ctx : Ctx) (f0 : PSFields) (tol : Bool)

def ChildOkX (f : PSFields) : ChildPS → Prop
  | .same => True
  | .group _ c o => (psInfo c = psInfo f ∧ SD f0 c) ∧ (psInfo o = psInfo f ∧ SD f0 o)

def ParserPre : Parser → PSFields → Prop
  | .general _ _ child, f => ChildOkX f0 f child
  | .macroCall t a, _ => ctx.macroSpec t.arg = some a
  | .envCall t a bm, _ => ctx.envSpec t.arg = some (a, bm)
  | .specialsCall t a, _ => lookupFirst t.arg ctx.specials = some a
  | _, _ => True

def PreX : Task → Prop
  | .pc p f _ => SD f0 f ∧ ParserPre ctx f0 p f
  | .loop f _ child st => SD f0 f ∧ ChildOkX f0 f child ∧ ListM P ctx (psInfo f) st.acc
  | .expr _ skipped f _ => SD f0 f ∧ ListM P ctx (psInfo f) skipped

def ResOkX (cur : PSInfo) : Res → Prop
  | .none => True
  | .node n => NodeM P ctx cur n
  | .list _ _ ns => ListM P ctx cur ns
  | .args .. => True

def PRes : Parser → PSFields → Res → Prop
  | .arguments a, f, res => OptArgsM P ctx (psInfo f) (some a) (argsOf res)
  | .general .., f, res | .group .., f, res | .math .., f, res | .envBody .., f, res | .macroCall .., f, res
  | .envCall .., f, res | .specialsCall .., f, res | .expression .., f, res | .marker .., f, res
  | .verbatim .., f, res => ResOkX P ctx (psInfo f) res

def LoopGood (f : PSFields) : Ret → Prop
  | .loopEnd e => ListM P ctx (psInfo f) e.nodes
  | _ => True

/-- the contract: a task started in a state with the delimiter configuration of `f0`, with nodes that record the
    mode of that state, returns nodes that record it -/
def GoodX : Task → Ret → Prop
  | .pc p f pos, r => PreX P ctx f0 (.pc p f pos) → PcContract tol (PRes P ctx p f) r
  | .loop f stop child st, r => PreX P ctx f0 (.loop f stop child st) → LoopGood P ctx f r
  | .expr ap skipped f pos, r => PreX P ctx f0 (.expr ap skipped f pos) → ExprContract tol (ResOkX P ctx (psInfo f)) r

variable {P ctx f0 tol}

theorem child_get {f : PSFields} {child : ChildPS} (hs : SD f0 f) (hc : ChildOkX f0 f child) (t : Token) :
    psInfo (child.get f t) = psInfo f ∧ SD f0 (child.get f t) := by
  cases child with
  | same => exact ⟨rfl, hs⟩
  | group o c g =>
    simp only [ChildPS.get]
    split
    · exact hc.1
    · exact hc.2

theorem ListM_nil (cur : PSInfo) : ListM P ctx cur [] := trivial

theorem flush_acc (f : PSFields) (st : LoopSt) (h : ListM P ctx (psInfo f) st.acc) :
    ListM P ctx (psInfo f) (st.flush f).acc := by
  unfold LoopSt.flush
  split
  · exact h
  · exact ListM_snoc _ _ _ h rfl

theorem flushBefore_acc (f : PSFields) (st : LoopSt) (t : Token) (h : ListM P ctx (psInfo f) st.acc) :
    ListM P ctx (psInfo f) (st.flushBefore f t).acc := by
  unfold LoopSt.flushBefore
  split
  · exact flush_acc f _ h
  · split
    · exact ListM_snoc _ _ _ h rfl
    · exact h

theorem loopFinish_goodX {f : PSFields} {st : LoopSt} {stopTok : Option Token} {err : Option PErr}
    (h : ListM P ctx (psInfo f) st.acc) : LoopGood P ctx f (loopFinish f st stopTok err) := by
  rw [loopFinish_eq]; exact flush_acc f st h

section
variable {env : Env} {rec : Task → Ret}

theorem dispatchChild_preX {f g : PSFields} {st : LoopSt} {t : Token} {p : Parser} {start : Nat} {b : Bool}
    (hd : DispatchChild env f st t p start b) :
    ParserPre env.ctx f0 p g ∧ ∀ res, PRes P env.ctx p g res → ResOkX P env.ctx (psInfo g) res := by
  cases hd with
  | group _ => exact ⟨trivial, fun _ h => h⟩
  | mac _ hm => exact ⟨hm, fun _ h => h⟩
  | env _ hm => exact ⟨hm, fun _ h => h⟩
  | spec _ hm => exact ⟨hm, fun _ h => h⟩
  | math _ _ => exact ⟨trivial, fun _ h => h⟩

variable (ih : ∀ t, GoodX P env.ctx f0 env.tol t (rec t))
include ih

theorem pc_okX {p : Parser} {f : PSFields} {pos : Nat} {res : Res} {q : Nat}
    (hr : rec (.pc p f pos) = .ok res q) (hp : PreX P env.ctx f0 (.pc p f pos)) : PRes P env.ctx p f res := by
  have h := ih (.pc p f pos) hp
  rw [hr] at h
  exact h

theorem pc_passX {Q : Res → Prop} {p : Parser} {f : PSFields} {pos : Nat}
    (hne : ∀ res q, rec (.pc p f pos) ≠ .ok res q) (hp : PreX P env.ctx f0 (.pc p f pos)) :
    RawSat env.tol (PcContract env.tol Q) (.ret (rec (.pc p f pos))) :=
  pcContract_pass (ih (.pc p f pos) hp) hne

theorem loopDispatch_goodX {f : PSFields} {stop : StopTok} {child : ChildPS} {st : LoopSt} {t : Token}
    (hs : SD f0 f) (hc : ChildOkX f0 f child) (hacc : ListM P env.ctx (psInfo f) st.acc) :
    LoopGood P env.ctx f (loopDispatch env rec f stop child st t) := by
  apply loopDispatch_elim
  · intro _ _ _; exact loopFinish_goodX hacc
  · intro _; exact ih (.loop _ _ _ _) ⟨hs, hc, ListM_snoc _ _ _ hacc rfl⟩
  · intro _; exact ih (.loop _ _ _ _) ⟨hs, hc, hacc⟩
  · intro p start b hd
    obtain ⟨hgi, hgs⟩ := child_get hs hc t
    obtain ⟨hpre, hres⟩ := dispatchChild_preX (P := P) (f0 := f0) (g := child.get f t) hd
    apply afterChild_elim
    · intro n q hr
      have hn : NodeM P env.ctx (psInfo (child.get f t)) n := hres _ (pc_okX ih hr ⟨hgs, hpre⟩)
      rw [hgi] at hn
      exact ih (.loop _ _ _ _) ⟨hs, hc, ListM_snoc _ _ _ hacc hn⟩
    · intro _ _ _; exact ih (.loop _ _ _ _) ⟨hs, hc, hacc⟩
    · intro _ _; exact loopFinish_goodX hacc
    · intro _; trivial
    · intro _ _; trivial
  · intro _ _; trivial

theorem loopStep_goodX {f : PSFields} {stop : StopTok} {child : ChildPS} {st : LoopSt}
    (hs : SD f0 f) (hc : ChildOkX f0 f child) (hacc : ListM P env.ctx (psInfo f) st.acc) :
    LoopGood P env.ctx f (loopStep env rec f stop child st) := by
  apply loopStep_elim
  · intro _; exact loopFinish_goodX hacc
  · intro _ _ _ _ _ _; exact loopFinish_goodX hacc
  · intro _ _ _; exact loopFinish_goodX hacc
  · intro _ _ _ _; exact ih (.loop _ _ _ _) ⟨hs, hc, hacc⟩
  · intro t _ _ _; exact loopDispatch_goodX ih hs hc (flushBefore_acc f st t hacc)

end
end

/-! ### a second, independent contract: a general-nodes parser that returns normally met its stop condition -/

/-- some token read in the state `f` (or the synthesised final-whitespace token) meets the stop condition -/
def StopFact (tol : Bool) (s : Str) (f : PSFields) (stop : StopTok) : Prop :=
  ∃ t, stop.test t = true ∧ (t.kind = .char ∨ ∃ pos, peekTok tol (mkPS f) s pos = .tok t)

def PcGood2 (env : Env) : Parser → PSFields → Ret → Prop
  | .general stop req _, f, .ok _ _ =>
    env.tol = false → req = true → stop.isSome = true → StopFact env.tol env.s f stop
  | _, _, _ => True

def LoopGood2 (env : Env) (f : PSFields) (stop : StopTok) : Ret → Prop
  | .loopEnd e => ∀ t, e.stopTok = some t → StopFact env.tol env.s f stop
  | _ => True

def Good2 (env : Env) : Task → Ret → Prop
  | .pc p f _, r => PcGood2 env p f r
  | .loop f stop _ _, r => LoopGood2 env f stop r
  | .expr .., _ => True

section
variable {env : Env} {rec : Task → Ret}

theorem loopFinish_good2 {f : PSFields} {stop : StopTok} {st : LoopSt} {err : Option PErr} :
    LoopGood2 env f stop (loopFinish f st none err) := by
  rw [loopFinish_eq]; intro t h; cases h

variable (ih2 : ∀ t, Good2 env t (rec t))
include ih2

theorem loopDispatch_good2 {f : PSFields} {stop : StopTok} {child : ChildPS} {st : LoopSt} {t : Token} :
    LoopGood2 env f stop (loopDispatch env rec f stop child st t) := by
  apply loopDispatch_elim
  · intro _ _ _; exact loopFinish_good2
  · intro _; exact ih2 (.loop _ _ _ _)
  · intro _; exact ih2 (.loop _ _ _ _)
  · intro _ _ _ _
    apply afterChild_elim
    · intro _ _ _; exact ih2 (.loop _ _ _ _)
    · intro _ _ _; exact ih2 (.loop _ _ _ _)
    · intro _ _; exact loopFinish_good2
    · intro _; trivial
    · intro _ _; trivial
  · intro _ _; trivial

theorem loopStep_good2 {f : PSFields} {stop : StopTok} {child : ChildPS} {st : LoopSt} :
    LoopGood2 env f stop (loopStep env rec f stop child st) := by
  apply loopStep_elim
  · intro _; exact loopFinish_good2
  · intro _ _ _ _ _ _; exact loopFinish_good2
  · intro t ht hst
    rw [loopFinish_eq]
    intro _ _
    refine ⟨t, hst, ?_⟩
    cases ht with
    | peek h => exact Or.inr ⟨_, h⟩
    | final _ _ => exact Or.inl rfl
  · intro _ _ _ _; exact ih2 (.loop _ _ _ _)
  · intro _ _ _ _; exact loopDispatch_good2 ih2

theorem rawGeneral_good2 (stop : StopTok) (req : Bool) (child : ChildPS) (f : PSFields) (pos : Nat) :
    PcGood2 env (.general stop req child) f (parseContent env.tol (rawGeneral rec stop req child f pos)) := by
  cases htol : env.tol with
  | true =>
    -- nothing is claimed of tolerant mode
    generalize parseContent true _ = r
    cases r with
    | ok _ _ => exact fun hf => nomatch htol.symm.trans hf
    | _ => trivial
  | false =>
    have h := ih2 (.loop f stop child { pos := pos })
    apply rawGeneral_elim (motive := fun raw => PcGood2 env (.general stop req child) f (parseContent false raw))
    · intro _ _ _ _; trivial
    · intro _ _ _ _ _ _; trivial
    · intro e t hr _ hst _ _ _; rw [hr] at h; exact h t hst
    · intro _ _ _ _ hreq _ hr hs; exact nomatch (hreq hr).symm.trans hs
    · intro _; trivial
    · intro _ _ _; trivial

theorem step_good2 : ∀ t, Good2 env t (step env rec t) := by
  intro t
  cases t with
  | pc p f pos =>
    cases p with
    | general stop req child => exact rawGeneral_good2 ih2 stop req child f pos
    | _ => trivial
  | loop f stop child st => exact loopStep_good2 ih2
  | expr ap skipped f pos => trivial

end

theorem run_good2 (env : Env) : ∀ (n : Nat) (t : Task), Good2 env t (run env n t) :=
  run_inv (fun t => by cases t with
    | pc p f pos => cases p <;> trivial
    | _ => trivial) (fun _ => step_good2)

end C10
end Pylx
