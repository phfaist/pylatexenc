/-
  C13, parse link for all strings: the strict parse of the encoder's output.

  * `cwfI_app` / `cwfI_append`: concatenations of well-formed documents are well formed.
  * `doc_clean` (with its projection `doc_parses`): the strict parse of the source of a well-formed document is a node list
    without comment and environment nodes, and without math node if the document has no inline math — read off
    `doc_gen`, i.e. the prefix lemma `reach_gen` of `C13FullReach`.
  * `rawOk_protect`, `chunk_step`, `C13_output_doc`: every chunk the encoder emits (either table; the per-entry facts are
    kernel evaluations, `C13FullA`–`D` for `defaults`, `E`–`J` for `unicode-xml`) is the source of such a document, hence so
    is the whole output.
  * `C13_parses_all` and its two instances `C13_parses_full_proved`, `C13_parses_xml_full_proved`; for single characters
    `C13_parses_partial` (with the clause on math nodes) and `copy_parses`.
-/
import PylxProofs.C13FullReach
import PylxProofs.C13FullA
import PylxProofs.C13FullB
import PylxProofs.C13FullC
import PylxProofs.C13FullD
import PylxProofs.C13FullE
import PylxProofs.C13FullF
import PylxProofs.C13FullG
import PylxProofs.C13FullH
import PylxProofs.C13FullI
import PylxProofs.C13FullJ
namespace Pylx.C13.Full
open Pylx Pylx.EncB Pylx.C02

/-! ### concatenation -/

theorem unI_append : ∀ (a b : List CItem), unI (a ++ b) = unI a ++ unI b
  | [], b => by simp [unI]
  | .ch c :: tl, b => by simp [unI, unI_append tl b]
  | .grp g :: tl, b => by simp [unI, unI_append tl b]
  | .mac n po args :: tl, b => by simp [unI, unI_append tl b]
  | .math g :: tl, b => by simp [unI, unI_append tl b]

theorem unI_map_ch (l : Str) : unI (l.map CItem.ch) = l := by
  induction l with
  | nil => simp [unI]
  | cons c l ih => simp [unI, ih]

/-- `x` says nothing, or the same as `y` -/
def Le (x y : Option Char) : Prop := x = none ∨ x = y

theorem nextCh_le {F G : Str} {fc0 fc : Option Char} (h : Le fc0 (nextCh G fc)) :
    Le (nextCh F fc0) (nextCh (F ++ G) fc) := by
  cases F with
  | nil => simpa [nextCh] using h
  | cons c F => exact Or.inr rfl

theorem nameOk_le {n post : Str} {x y : Option Char} (h : Le x y) (hn : nameOk n post x = true) : nameOk n post y = true := by
  rcases h with h | h
  · subst h
    unfold nameOk at hn ⊢
    split
    · rename_i hcw
      rw [if_pos hcw] at hn
      simp at hn
    · rename_i hcw
      rw [if_neg hcw] at hn
      exact hn
  · subst h; exact hn

theorem cwfA_le (ctx : Ctx) (m : Bool) {G : Str} {fc0 fc : Option Char} (h : Le fc0 (nextCh G fc)) :
    ∀ (args : List CArg) (sig : List ArgSpec) (rest : Str), cwfA ctx m rest fc0 sig args = true →
      cwfA ctx m (rest ++ G) fc sig args = true
  | [], [], _, _ => by simp [cwfA]
  | [], _ :: _, _, hw => by simp [cwfA] at hw
  | _ :: _, [], _, hw => by rename_i a _; cases a <;> simp [cwfA] at hw
  | .absent :: tl, sp :: sig, rest, hw => by
    simp only [cwfA, Bool.and_eq_true, beq_iff_eq] at hw ⊢
    obtain ⟨⟨h1, h2⟩, h3⟩ := hw
    refine ⟨⟨h1, ?_⟩, cwfA_le ctx m h tl sig rest h3⟩
    have := nextCh_le (F := unA tl ++ rest) h
    rw [h2] at this
    rcases this with h' | h'
    · cases h'
    · rw [List.append_assoc] at h'; exact h'.symm
  | .grp b :: tl, sp :: sig, rest, hw => by
    simp only [cwfA, Bool.and_eq_true] at hw ⊢
    exact ⟨hw.1, cwfA_le ctx m h tl sig rest hw.2⟩
  | .br b :: tl, sp :: sig, rest, hw => by
    simp only [cwfA, Bool.and_eq_true] at hw ⊢
    exact ⟨hw.1, cwfA_le ctx m h tl sig rest hw.2⟩
  | .tok c :: tl, sp :: sig, rest, hw => by
    simp only [cwfA, Bool.and_eq_true] at hw ⊢
    exact ⟨hw.1, cwfA_le ctx m h tl sig rest hw.2⟩
  | .mtok n :: tl, sp :: sig, rest, hw => by
    simp only [cwfA, Bool.and_eq_true] at hw ⊢
    refine ⟨⟨hw.1.1, ?_⟩, cwfA_le ctx m h tl sig rest hw.2⟩
    have := nameOk_le (nextCh_le (F := unA tl ++ rest) h) hw.1.2
    rw [List.append_assoc] at this
    exact this

/-- **composition**: a list that is well formed in front of what `b` starts with (or whatever follows), followed by a
    well-formed list `b`, is well formed -/
theorem cwfI_app (ctx : Ctx) (m : Bool) (br : Xp) {fc0 fc : Option Char} (b : List CItem) (hb : cwfI ctx m br fc b = true)
    (h : Le fc0 (nextCh (unI b) fc)) : ∀ (a : List CItem), cwfI ctx m br fc0 a = true → cwfI ctx m br fc (a ++ b) = true
  | [], _ => hb
  | .ch c :: tl, hw => by
    simp only [cwfI, Bool.and_eq_true, List.cons_append] at hw ⊢
    exact ⟨hw.1, cwfI_app ctx m br b hb h tl hw.2⟩
  | .grp g :: tl, hw => by
    simp only [cwfI, Bool.and_eq_true, List.cons_append] at hw ⊢
    exact ⟨hw.1, cwfI_app ctx m br b hb h tl hw.2⟩
  | .mac n po args :: tl, hw => by
    simp only [cwfI, Bool.and_eq_true, List.cons_append] at hw ⊢
    obtain ⟨⟨h1, h2⟩, h3⟩ := hw
    refine ⟨⟨?_, ?_⟩, cwfI_app ctx m br b hb h tl h3⟩
    · have := nameOk_le (nextCh_le (F := unA args ++ unI tl) h) h1
      rw [unI_append, ← List.append_assoc]
      exact this
    · cases hms : ctx.macroSpec n with
      | none => rw [hms] at h2; cases h2
      | some a =>
        rw [hms] at h2
        cases a with
        | std sig =>
          simp only at h2 ⊢
          rw [unI_append]
          exact cwfA_le ctx m h args sig (unI tl) h2
        | legacyVerb => cases h2
        | legacyVerbEnv _ _ => cases h2
        | unknown => cases h2
  | .math g :: tl, hw => by
    simp only [cwfI, Bool.and_eq_true, List.cons_append] at hw ⊢
    exact ⟨hw.1, cwfI_app ctx m br b hb h tl hw.2⟩

theorem cwfI_append (ctx : Ctx) (m : Bool) (br : Xp) (fc : Option Char) (a b : List CItem) (ha : cwfI ctx m br none a = true)
    (hb : cwfI ctx m br fc b = true) : cwfI ctx m br fc (a ++ b) = true :=
  cwfI_app ctx m br b hb (Or.inl rfl) a ha

/-! ### the strict parse of a well-formed document -/

/-- the strict parse of a well-formed document: a node list without comment and environment nodes, and without math node
    if the document has no inline math -/
theorem doc_clean {ctx : Ctx} (hctx : ctxOk ctx = true) (d : List CItem) (hwf : cwfI ctx false none none d = true) :
    ∃ p e ns pos, Doc.parseStrict ctx (unI d) = .ok (.list p e ns) pos ∧
      (∀ n ∈ subnodesList ns, isComment n = false ∧ isEnv n = false) ∧
      (noMathI d = true → ∀ n ∈ subnodesList ns, isMath n = false) := by
  obtain ⟨p, e, ns, pos, T, hp, hx, hok⟩ := doc_gen hctx [] d hwf
  refine ⟨p, e, ns, pos, hp, clean_nodes ns ?_, fun hm => mathFree_nodes (unI d) ns ?_⟩
  · rw [← L2T.C03S.forgetNodes_erase (unI d), hx, cleanL_forget_mergeX]
    exact hok.clean
  · rw [hx, L2T.C03S.mathFreeL_mergeX]
    exact hok.nomath hm

theorem doc_parses {ctx : Ctx} (hctx : ctxOk ctx = true) (d : List CItem) (hwf : cwfI ctx false none none d = true) :
    ∃ p e ns pos, Doc.parseStrict ctx (unI d) = .ok (.list p e ns) pos ∧
      ∀ n ∈ subnodesList ns, isComment n = false ∧ isEnv n = false := by
  obtain ⟨p, e, ns, pos, hp, hc, _⟩ := doc_clean hctx d hwf
  exact ⟨p, e, ns, pos, hp, hc⟩

/-! ### the chunks of the encoder -/

/-- a text that is the source of a document which is well formed whatever follows -/
def ChunkDoc (t : Str) : Prop := ∃ d, unI d = t ∧ cwfI Gen.defaultCtx false none none d = true

theorem chunkDoc_nil : ChunkDoc [] := ⟨[], by simp [unI], by simp [cwfI]⟩

theorem chunkDoc_append {a b : Str} (ha : ChunkDoc a) (hb : ChunkDoc b) : ChunkDoc (a ++ b) := by
  obtain ⟨da, ha1, ha2⟩ := ha
  obtain ⟨db, hb1, hb2⟩ := hb
  exact ⟨da ++ db, by rw [unI_append, ha1, hb1], cwfI_append _ _ _ _ _ _ ha2 hb2⟩

theorem chunkDoc_flatten : ∀ l : List Str, (∀ t ∈ l, ChunkDoc t) → ChunkDoc l.flatten
  | [], _ => chunkDoc_nil
  | t :: l, h => by
    rw [List.flatten_cons]
    exact chunkDoc_append (h t (List.mem_cons_self ..)) (chunkDoc_flatten l (fun x hx => h x (List.mem_cons_of_mem _ hx)))

/-- the two lists of plain characters agree (outside bracket groups) -/
theorem plainCh_of_plainChar {c : Char} (h : plainChar c = true) : plainCh none c = true := by
  simp only [plainChar, Bool.and_eq_true] at h
  obtain ⟨⟨⟨⟨h1, h2⟩, h3⟩, h4⟩, h5⟩ := h
  simp [plainCh, h1, h2, h3, h4, h5]

theorem cwfI_plain {c : Char} (h : plainChar c = true) : cwfI Gen.defaultCtx false none none [.ch c] = true := by
  simp [cwfI, plainCh_of_plainChar h]

theorem chunkDoc_plain {c : Char} (h : plainChar c = true) : ChunkDoc [c] :=
  ⟨[.ch c], by simp [unI], cwfI_plain h⟩

theorem noMathI_append : ∀ a b : List CItem, noMathI (a ++ b) = (noMathI a && noMathI b)
  | [], b => by simp [noMathI]
  | .ch c :: tl, b => by simp [noMathI, noMathI_append tl b]
  | .grp g :: tl, b => by simp [noMathI, noMathI_append tl b, Bool.and_assoc]
  | .mac n po args :: tl, b => by simp [noMathI, noMathI_append tl b, Bool.and_assoc]
  | .math g :: tl, b => by simp [noMathI]

/-- a text that is the source of a document which is well formed whatever follows and has inline math only if `m` -/
def ChunkDocM (m : Bool) (t : Str) : Prop :=
  ∃ d, unI d = t ∧ cwfI Gen.defaultCtx false none none d = true ∧ (m = false → noMathI d = true)

theorem ChunkDocM.chunkDoc {m : Bool} {t : Str} (h : ChunkDocM m t) : ChunkDoc t :=
  let ⟨d, h1, h2, _⟩ := h; ⟨d, h1, h2⟩

/-- the protected forms of a checked replacement text -/
theorem rawOk_protect {r : Str} (h : rawOk r = true) {pr : Prot} (hpr : pr ∈ braceSchemes) :
    ChunkDocM (rawOcc '$' false r) (protect isAsciiAlpha pr r) := by
  unfold rawOk at h
  split at h
  · rename_i d _
    simp only [Bool.and_eq_true, beq_iff_eq, Bool.or_eq_true] at h
    obtain ⟨⟨hun, hcase⟩, hmath⟩ := h
    have hm : rawOcc '$' false r = false → noMathI d = true := fun h0 => by
      rcases hmath with h1 | h1
      · rw [h0] at h1; cases h1
      · exact h1
    have hwrap : ∀ (hB : cwfI Gen.defaultCtx false none (some '}') d = true),
        ChunkDocM (rawOcc '$' false r) ('{' :: r ++ ['}']) := by
      intro hB
      refine ⟨[.grp d], by simp [unI, hun], ?_, fun h0 => by simp [noMathI, hm h0]⟩
      simp [cwfI, hB]
    have hafter : ∀ (hA : cwfI Gen.defaultCtx false none (some '{') d = true),
        ChunkDocM (rawOcc '$' false r) (r ++ ['{', '}']) := by
      intro hA
      refine ⟨d ++ [.grp []], by rw [unI_append, hun]; simp [unI], ?_, fun h0 => by simp [noMathI_append, noMathI, hm h0]⟩
      exact cwfI_app _ _ _ [.grp []] (by simp [cwfI]) (Or.inr (by simp [unI, nextCh])) d hA
    have hplain : ∀ (hN : cwfI Gen.defaultCtx false none none d = true), ChunkDocM (rawOcc '$' false r) r :=
      fun hN => ⟨d, hun, hN, hm⟩
    have hmono : ∀ (fc : Option Char), cwfI Gen.defaultCtx false none none d = true → cwfI Gen.defaultCtx false none fc d = true := by
      intro fc hN
      have := cwfI_app Gen.defaultCtx false none (fc := fc) [] (by simp [cwfI]) (Or.inl rfl) d hN
      simpa using this
    simp only [braceSchemes, List.mem_cons, List.not_mem_nil, or_false] at hpr
    rcases hcase with hN | ⟨⟨⟨hdang, hhead⟩, hB⟩, hA⟩
    · rcases hpr with rfl | rfl | rfl | rfl
      · simp only [protect]; split
        · exact hwrap (hmono _ hN)
        · exact hplain hN
      · exact hwrap (hmono _ hN)
      · simp only [protect]; split
        · exact hwrap (hmono _ hN)
        · exact hplain hN
      · simp only [protect]; split
        · exact hafter (hmono _ hN)
        · exact hplain hN
    · rcases hpr with rfl | rfl | rfl | rfl
      · simp only [protect, hdang, if_true]; exact hwrap hB
      · exact hwrap hB
      · cases r with
        | nil => simp at hhead
        | cons c r' =>
          have hc : c = '\\' := by simpa using hhead
          subst hc
          exact hwrap hB
      · simp only [protect, hdang, if_true]; exact hafter hA
  · cases h

theorem defaults_entryOk : ∀ e ∈ rawTable .defaults, entryOkX (skipOf .defaults) e = true := by
  have h := slice_join _ _ 0 10 10 defaults_docs_0 defaults_docs_1
  have h := slice_join _ _ 0 20 10 h defaults_docs_2
  have h := slice_rest _ Gen.uni2latexChunks 0 30 h defaults_docs_3
  intro e he
  have := raw_all (tb := .defaults) h e he
  simp only [entryOkX, skipOf, List.contains_nil, Bool.false_or]
  exact this

theorem xml_entryOk : ∀ e ∈ rawTable .xml, entryOkX (skipOf .xml) e = true := by
  have h := slice_join _ _ 0 10 10 xml_docs_0 xml_docs_1
  have h := slice_join _ _ 0 20 10 h xml_docs_2
  have h := slice_join _ _ 0 30 10 h xml_docs_3
  have h := slice_join _ _ 0 40 10 h xml_docs_4
  exact raw_all (tb := .xml) (slice_rest _ Gen.uni2latexXmlChunks 0 50 h xml_docs_5)

theorem table_entryOk (tb : Table) : ∀ e ∈ rawTable tb, entryOkX (skipOf tb) e = true := by
  cases tb
  · exact defaults_entryOk
  · exact xml_entryOk

/-! #### the `unihex` text -/

def uniDocG (n1 n2 n3 n4 : Str) (h : Str) : List CItem :=
  [.mac n1 [] [.grp [.mac n3 [] []]], .mac n2 [] [.grp (.ch 'U' :: .ch '+' :: h.map CItem.ch)],
   .mac n1 [] [.grp [.mac n4 [] []]]]

theorem cwfI_map_ch (ctx : Ctx) (m : Bool) (fc : Option Char) (l : Str) (h : ∀ c ∈ l, plainChar c = true) :
    cwfI ctx m none fc (l.map CItem.ch) = true := by
  induction l with
  | nil => simp [cwfI]
  | cons c l ih =>
    simp only [List.map_cons, cwfI, Bool.and_eq_true]
    exact ⟨plainCh_of_plainChar (h c (List.mem_cons_self ..)), ih (fun x hx => h x (List.mem_cons_of_mem _ hx))⟩

theorem unI_uniDocG (n1 n2 n3 n4 h : Str) :
    unI (uniDocG n1 n2 n3 n4 h) =
      ('\\' :: (n1 ++ '{' :: '\\' :: (n3 ++ '}' :: '\\' :: (n2 ++ ['{', 'U', '+'])))) ++ h ++
        ('}' :: '\\' :: (n1 ++ '{' :: '\\' :: (n4 ++ ['}']))) := by
  simp [uniDocG, unI, unA, unI_map_ch]

theorem cwfI_uniDocG (ctx : Ctx) (n1 n2 n3 n4 h : Str) (d1 d2 : Delta)
    (s1 : ctx.macroSpec n1 = some (.std [⟨.m, d1⟩])) (s2 : ctx.macroSpec n2 = some (.std [⟨.m, d2⟩]))
    (s3 : ctx.macroSpec n3 = some (.std [])) (s4 : ctx.macroSpec n4 = some (.std []))
    (hn1 : nameOk n1 [] (some '{') = true) (hn2 : nameOk n2 [] (some '{') = true)
    (hn3 : nameOk n3 [] (some '}') = true) (hn4 : nameOk n4 [] (some '}') = true)
    (hp : ∀ c ∈ h, plainChar c = true) : cwfI ctx false none none (uniDocG n1 n2 n3 n4 h) = true := by
  have hbody := cwfI_map_ch ctx (Doc.deltaMath false d2) (some '}') h hp
  have hU : plainCh none 'U' = true := by decide
  have hP : plainCh none '+' = true := by decide
  simp only [uniDocG, cwfI, cwfA, unI, unA, nextCh, s1, s2, s3, s4, hn1, hn2, hn3, hn4, hbody, hU, hP,
    List.cons_append, List.nil_append, List.append_nil, Bool.and_self, Bool.and_true]
  decide

set_option maxRecDepth 100000 in
theorem uni_specs :
    Gen.defaultCtx.macroSpec "ensuremath".toList = some (.std [⟨.m, .enterMath⟩]) ∧
    Gen.defaultCtx.macroSpec "texttt".toList = some (.std [⟨.m, .leaveMath⟩]) ∧
    Gen.defaultCtx.macroSpec "langle".toList = some (.std []) ∧
    Gen.defaultCtx.macroSpec "rangle".toList = some (.std []) := by
  refine ⟨?_, ?_, ?_, ?_⟩ <;> decide +kernel

theorem uni_texts :
    uniPre = '\\' :: ("ensuremath".toList ++ '{' :: '\\' :: ("langle".toList ++ '}' :: '\\' :: ("texttt".toList ++ ['{', 'U', '+']))) ∧
    uniSuf = '}' :: '\\' :: ("ensuremath".toList ++ '{' :: '\\' :: ("rangle".toList ++ ['}'])) := by
  constructor <;> decide +kernel

theorem chunkDoc_unihex (n : Nat) : ChunkDoc (uniPre ++ hexUpper4 n ++ uniSuf) := by
  have hp : ∀ c ∈ hexUpper4 n, plainChar c = true := fun c hc => (hexish_cases (hexish_hexUpper4 n c hc)).1
  obtain ⟨s1, s2, s3, s4⟩ := uni_specs
  refine ⟨uniDocG "ensuremath".toList "texttt".toList "langle".toList "rangle".toList (hexUpper4 n), ?_, ?_⟩
  · rw [unI_uniDocG, uni_texts.1, uni_texts.2]
  · exact cwfI_uniDocG _ _ _ _ _ _ _ _ s1 s2 s3 s4 (by decide +kernel) (by decide +kernel) (by decide +kernel)
      (by decide +kernel) hp

set_option maxRecDepth 100000 in
theorem chunkOk_replace : chunkOk "{\\bfseries ?}".toList = true := by decide +kernel

/-! #### one step of the encoder -/

theorem brace_mem {pr : Prot} (h : BraceProt pr) : pr ∈ braceSchemes := by
  rcases h with rfl | rfl | rfl | rfl <;> simp [braceSchemes]

theorem chunk_unknown {pol : Policy} (hn : NamedPolicy pol) {c : Char} (hc : isCopyChar c = false)
    {t : Str} {n : Nat} (h : unknownChar pol c = .emit t n) : ChunkDoc t := by
  cases pol with
  | keep => simp only [unknownChar] at h; cases h; exact chunkDoc_plain (plain_of_not_copy hc)
  | replace => simp only [unknownChar] at h; cases h; exact chunkOk_spec chunkOk_replace
  | ignore => simp only [unknownChar] at h; cases h; exact chunkDoc_nil
  | fail => simp [unknownChar] at h
  | unihex => simp only [unknownChar] at h; cases h; exact chunkDoc_unihex _
  | wrap a b => exact absurd hn (by simp [NamedPolicy])

/-- the replacement text of a table entry outside the skip list passed the check of its table -/
theorem entry_rawOk {tb : Table} {e : Nat × List Nat} (he : e ∈ rawTable tb) (hc : e.1 ∉ skipOf tb) :
    rawOk (S e.2) = true := by
  have hok := table_entryOk tb e he
  unfold entryOkX at hok
  cases hcon : (skipOf tb).contains e.1 with
  | false => rwa [hcon, Bool.false_or] at hok
  | true => exact absurd (List.contains_iff_mem.mp hcon) hc

/-- every chunk the encoder appends (either table, a brace protection scheme, a named policy) for a character outside
    the table's skip list (empty for `defaults`, finding F19 for `unicode-xml`) is the source of a document that is
    well formed whatever follows -/
theorem chunk_step {tb : Table} {pr : Prot} (hpr : BraceProt pr) {pol : Policy} (hn : NamedPolicy pol)
    {c : Char} (hc : c.toNat ∉ skipOf tb) {t : Str} {n : Nat}
    (h : stepAt (builtinCfg tb pr pol false) [c] 0 c = .emit t n) : ChunkDoc t := by
  rcases stepAt_builtin_emit h with ⟨e, he, hk, rfl⟩ | ⟨hl, _, rfl⟩ | ⟨_, hcp, hu⟩
  · exact (rawOk_protect (entry_rawOk he (hk ▸ hc)) (brace_mem hpr)).chunkDoc
  · exact chunkDoc_plain (plain_of_no_rule hl)
  · exact chunk_unknown hn hcp hu

end Pylx.C13.Full

namespace Pylx.C13
open Pylx Pylx.EncB Pylx.C13.Full

set_option maxRecDepth 100000 in
theorem defaultCtx_ok : ctxOk Gen.defaultCtx = true := by decide +kernel

/-- the encoder's output is the source of a well-formed document of the grammar of `C13FullDefs` -/
theorem C13_output_doc (tb : Table) (pr : Prot) (hpr : BraceProt pr) (pol : Policy) (hn : NamedPolicy pol) (s t : Str)
    (hs : ∀ c ∈ s, c.toNat ∉ skipOf tb) (h : encode (builtinCfg tb pr pol false) s = some t) : ChunkDoc t := by
  obtain ⟨l, rfl, hl⟩ := encode_chunks (builtin_perChar tb pr pol false) h
  exact chunkDoc_flatten l fun x hx => let ⟨c, hc, _, hst⟩ := hl x hx; chunk_step hpr hn (hs c hc) hst

/-- **C13 (strict parse, all strings), both tables.**  For every input string none of whose characters is in the
    table's skip list (`defaults`: no exception; `unicode-xml`: the 13 isolated combining diacritics of finding F19), each
    of the four brace protection schemes and every named policy: whenever the encoder returns a text, the strict parser
    with the default context returns a node list for it, and no node of the tree is a comment or an environment. -/
theorem C13_parses_all (tb : Table) (pr : Prot) (hpr : BraceProt pr) (pol : Policy) (hn : NamedPolicy pol) (s t : Str)
    (hs : ∀ c ∈ s, c.toNat ∉ skipOf tb) (h : encode (builtinCfg tb pr pol false) s = some t) :
    ∃ p e ns pos, parseStrict t = .ok (.list p e ns) pos ∧
      ∀ n ∈ subnodesList ns, isComment n = false ∧ isEnv n = false := by
  obtain ⟨d, hd, hwf⟩ := C13_output_doc tb pr hpr pol hn s t hs h
  obtain ⟨p, e, ns, pos, hparse, hclean⟩ := doc_parses defaultCtx_ok d hwf
  rw [hd] at hparse
  exact ⟨p, e, ns, pos, hparse, hclean⟩

/-- **`C13_parses_full` holds** (table `defaults`, every input string). -/
theorem C13_parses_full_proved : C13_parses_full := by
  intro pr hpr pol hn s t h
  exact C13_parses_all .defaults pr hpr pol hn s t (fun c _ hc => by simp [skipOf] at hc) h

/-- **`C13_parses_xml_full` holds** (table `unicode-xml`, every input string without the code points of F19). -/
theorem C13_parses_xml_full_proved : C13_parses_xml_full := by
  intro pr hpr pol hn s t hs h
  exact C13_parses_all .xml pr hpr pol hn s t hs h

/-! ### single characters -/

/-- the strict parse of the source of a well-formed document, in the terms of `ParsesClean` -/
theorem parsesClean_of_doc {r t : Str} (h : ChunkDocM (rawOcc '$' false r) t) : ParsesClean r t := by
  obtain ⟨d, hd, hwf, hm⟩ := h
  obtain ⟨p, e, ns, pos, hparse, hclean, hmath⟩ := doc_clean defaultCtx_ok d hwf
  rw [hd] at hparse
  exact ⟨p, e, ns, pos, hparse, hclean, fun h0 => hmath (hm h0)⟩

/-- a pass-through character without a rule -/
theorem copy_clean {tb : Table} {c : Char} (hl : (tableOf tb).lookup c.toNat = none) : ParsesClean [] [c] :=
  parsesClean_of_doc ⟨[.ch c], by simp [unI], cwfI_plain (plain_of_no_rule hl), fun _ => by simp [noMathI]⟩

/-- **C13 (strict parse, single characters, default scheme).**  For a character `c` that has a
    rule (for `unicode-xml`: other than the 13 code points `f19`) or is a pass-through ASCII
    character, and every policy: the encoder output for the one-character string parses in
    strict mode with the default context database; the tree has no comment and no environment
    node, and no math node unless the replacement text of the table itself contains an unescaped `$`. -/
theorem C13_parses_partial (tb : Table) (pol : Policy) (c : Char)
    (hc : (∃ r, (tableOf tb).lookup c.toNat = some r ∧ c.toNat ∉ skipOf tb) ∨
          ((tableOf tb).lookup c.toNat = none ∧ isCopyChar c = true ∧ c.toNat < 128)) :
    ∃ t, encode (builtinCfg tb .braces pol false) [c] = some t ∧
      ParsesClean (((tableOf tb).lookup c.toNat).getD []) t := by
  rcases hc with ⟨r, hl, hs⟩ | ⟨hl, hcp, _⟩
  · obtain ⟨e, he, hk, rfl⟩ := tableOf_mem hl
    rw [hl]
    exact ⟨_, encode_single_rule hl,
      parsesClean_of_doc (rawOk_protect (entry_rawOk he (hk ▸ hs)) (by simp [braceSchemes]))⟩
  · rw [hl]
    exact ⟨_, encode_single_copy hl hcp, copy_clean hl⟩

/-- pass-through ASCII characters without a rule (letters, digits, punctuation, space, DEL, `\n \r \t`) -/
theorem copy_parses (tb : Table) : (List.range 128).all (fun k =>
    !isCopyChar (Char.ofNat k) || ((tableOf tb).lookup k).isSome || okParse [] [Char.ofNat k]) = true := by
  refine List.all_eq_true.mpr fun k hk => ?_
  have hk' : (Char.ofNat k).toNat = k := toNat_ofNat_of_valid (Or.inl (Nat.lt_trans (List.mem_range.mp hk) (by decide)))
  cases hl : (tableOf tb).lookup k with
  | some r => simp
  | none =>
    rw [okParse_iff.mpr (copy_clean (c := Char.ofNat k) (by rw [hk']; exact hl))]
    simp

/-! ### non-vacuity -/

-- "é%\\ --α~[" and a paragraph break, a lone `]`, a non-ASCII character without rule (kept)
example : encode (builtinCfg .defaults .bracesAfterMacro .keep false)
    ([Char.ofNat 233, '%', '\\', ' ', '-', '-', Char.ofNat 0x3b1, '~', '[', '\n', '\n', ']', Char.ofNat 0x4e7e])
    = some ("\\'e\\%\\textbackslash{} --\\ensuremath{\\alpha}\\textasciitilde{}[\n\n]".toList ++ [Char.ofNat 0x4e7e]) := by
  decide +kernel
example : BraceProt .bracesAfterMacro := Or.inr (Or.inr (Or.inr rfl))
example : NamedPolicy .keep := trivial
-- `unicode-xml`: "ά≠" is admitted (`\'{$\alpha$}\not =`), U+0301 alone is not
example : ∀ c ∈ [Char.ofNat 0x3ac, Char.ofNat 0x2260], c.toNat ∉ skipOf .xml := by decide
example : encode (builtinCfg .xml .braces .keep false) [Char.ofNat 0x3ac, Char.ofNat 0x2260]
    = some "\\'{$\\alpha$}\\not =".toList := by decide +kernel
example : ¬ (∀ c ∈ [Char.ofNat 0x301], c.toNat ∉ skipOf .xml) := by decide
-- the hypothesis of `doc_parses` on a concrete document: `\'e\%\textbackslash{} --` …
example : cwfI Gen.defaultCtx false none none
    [.mac ['\''] [] [.tok 'e'], .mac ['%'] [] [], .mac "textbackslash".toList [] [], .grp [], .ch ' ', .ch '-', .ch '-',
     .mac "ensuremath".toList [] [.grp [.mac "alpha".toList [] []]], .ch '[', .ch '\n', .ch '\n', .ch ']'] = true := by
  decide +kernel
-- a dangling control word is not well formed "whatever follows", and is so in front of a brace
example : cwfI Gen.defaultCtx false none none [.mac "alpha".toList [] []] = false := by decide +kernel
example : cwfI Gen.defaultCtx false none (some '}') [.mac "alpha".toList [] []] = true := by decide +kernel
-- an accent macro without its argument (finding F19) is not well formed
example : cwfI Gen.defaultCtx false none (some '}') [.mac ['\''] [] []] = false := by decide +kernel
-- math inside math is not part of the grammar
example : cwfI Gen.defaultCtx false none none [.math [.math [.ch 'x']]] = false := by decide +kernel

end Pylx.C13
