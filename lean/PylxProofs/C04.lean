/-
  C04 — encoder output equals the documented rule semantics.
  Theorems about `Pylx.encodeChunks` / `Pylx.encStep` (model of
  `UnicodeToLatexEncoder.unicode_to_latex` and `PartialLatexToLatexEncoder`).
-/
import Pylx.Enc
namespace Pylx

/-- rule number `i` of the list is the first one that does not miss at `(s, p)`, with result `res` -/
def FirstAt (rules : List Rule) (s : Str) (p : Nat) (i : Nat) (r : Rule) (res : RuleRes) : Prop :=
  rules[i]? = some r ∧ r.app s p = res ∧ res ≠ .miss ∧
    ∀ j r', j < i → rules[j]? = some r' → r'.app s p = .miss

def AllMiss (rules : List Rule) (s : Str) (p : Nat) : Prop := ∀ r ∈ rules, r.app s p = .miss

def Productive (cfg : Cfg) : Prop := ∀ r ∈ cfg.rules, ∀ s p n t, r.app s p = .hit n t → 1 ≤ n

def NoRaise (cfg : Cfg) : Prop := ∀ r ∈ cfg.rules, ∀ s p e, r.app s p ≠ .raise e

def PerChar (cfg : Cfg) : Prop :=
  ∀ r ∈ cfg.rules, ∃ f : Char → Option Str, ∀ s p,
    r.app s p = match s[p]? with
      | some c => (match f c with | some t => .hit 1 t | none => .miss)
      | none => .miss

/-- positions the loop visits, starting from `p` -/
inductive ReachedFrom (cfg : Cfg) (s : Str) : Nat → Nat → Prop
  | refl (p : Nat) : ReachedFrom cfg s p p
  | encStep {p q n : Nat} {t : Str} : p < s.length → encStep cfg s p = .emit t n →
      ReachedFrom cfg s (p + n) q → ReachedFrom cfg s p q

def Reached (cfg : Cfg) (s : Str) (p : Nat) : Prop := ReachedFrom cfg s 0 p

theorem firstRule_of_firstAt {rules : List Rule} {s : Str} {p i : Nat} {r : Rule} {res : RuleRes}
    (h : FirstAt rules s p i r res) :
    firstRule s p rules = match (generalizing := false) res with
      | .miss => .none
      | .hit n t => .hit r n t
      | .raise e => .raise e := by
  induction rules generalizing i with
  | nil => simp [FirstAt] at h
  | cons r0 rs ih =>
    obtain ⟨hi, happ, hne, hmiss⟩ := h
    cases i with
    | zero =>
      simp at hi; subst hi happ
      rw [firstRule]
      cases hr : r0.app s p
      · exact absurd hr hne
      · rfl
      · rfl
    | succ i =>
      have h0 : r0.app s p = .miss := hmiss 0 r0 (by omega) (by simp)
      simp only [firstRule, h0]
      exact ih ⟨by simpa using hi, happ, hne, fun j r' hj hr' => hmiss (j+1) r' (by omega) (by simpa using hr')⟩

theorem firstRule_of_allMiss {rules : List Rule} {s : Str} {p : Nat}
    (h : AllMiss rules s p) : firstRule s p rules = .none := by
  induction rules with
  | nil => rfl
  | cons r0 rs ih =>
    have h0 : r0.app s p = .miss := h r0 (by simp)
    simp only [firstRule, h0]
    exact ih (fun r hr => h r (by simp [hr]))

theorem FirstAt.zero {r0 : Rule} {rs : List Rule} {s : Str} {p : Nat} {res : RuleRes} (h : r0.app s p = res)
    (hne : res ≠ .miss) : FirstAt (r0 :: rs) s p 0 r0 res :=
  ⟨rfl, h, hne, fun _ _ hj _ => absurd hj (Nat.not_lt_zero _)⟩

theorem FirstAt.succ {r0 : Rule} {rs : List Rule} {s : Str} {p i : Nat} {r : Rule} {res : RuleRes}
    (h0 : r0.app s p = .miss) (h : FirstAt rs s p i r res) : FirstAt (r0 :: rs) s p (i+1) r res := by
  obtain ⟨h1, h2, h3, h4⟩ := h
  refine ⟨by simpa using h1, h2, h3, fun j r' hj hr' => ?_⟩
  cases j with
  | zero => simp at hr'; subst hr'; exact h0
  | succ j => exact h4 j r' (by omega) (by simpa using hr')

theorem firstAt_mem {rules : List Rule} {s : Str} {p i : Nat} {r : Rule} {res : RuleRes}
    (h : FirstAt rules s p i r res) : r ∈ rules := List.mem_of_getElem? h.1

theorem firstRule_spec (rules : List Rule) (s : Str) (p : Nat) :
    match firstRule s p rules with
    | .none => AllMiss rules s p
    | .hit r n t => ∃ i, FirstAt rules s p i r (.hit n t)
    | .raise e => ∃ i r, FirstAt rules s p i r (.raise e) := by
  induction rules with
  | nil => exact fun r hr => nomatch hr
  | cons r0 rs ih =>
    rw [firstRule]
    cases h0 : r0.app s p with
    | miss =>
      cases hf : firstRule s p rs <;> rw [hf] at ih
      · exact List.forall_mem_cons.mpr ⟨h0, ih⟩
      · exact ih.elim fun i hF => ⟨i + 1, hF.succ h0⟩
      · exact ih.elim fun i ⟨r, hF⟩ => ⟨i + 1, r, hF.succ h0⟩
    | hit n t => exact ⟨0, .zero h0 RuleRes.noConfusion⟩
    | raise e => exact ⟨0, r0, .zero h0 RuleRes.noConfusion⟩

/-- **C04 (rule order).**  The rule loop returns the replacement and consumed length of the
    first rule in the given order that matches, and nothing else. -/
theorem C04_first_rule (rules : List Rule) (s : Str) (p : Nat) :
    (∀ r n t, firstRule s p rules = .hit r n t ↔ ∃ i, FirstAt rules s p i r (.hit n t)) ∧
    (∀ e, firstRule s p rules = .raise e ↔ ∃ i r, FirstAt rules s p i r (.raise e)) ∧
    (firstRule s p rules = .none ↔ AllMiss rules s p) := by
  have hs := firstRule_spec rules s p
  exact ⟨fun r n t => ⟨fun h => by rwa [h] at hs, fun ⟨i, hF⟩ => firstRule_of_firstAt hF⟩,
    fun e => ⟨fun h => by rwa [h] at hs, fun ⟨i, r, hF⟩ => firstRule_of_firstAt hF⟩,
    fun h => by rwa [h] at hs, firstRule_of_allMiss⟩

theorem step_eq_stepAt {cfg : Cfg} {s : Str} {p : Nat} {c : Char} (hc : s[p]? = some c) :
    encStep cfg s p = stepAt cfg s p c := by
  simp [encStep, hc]

/-- **C04 (one step of the loop).**  At a position `p` holding `c`:
    * `non_ascii_only` and `c` below the ASCII limit: `c` is copied, advance 1;
    * otherwise, if rule `i` is the first in order that matches, with `(n, t)`: the chunk is `t`
      wrapped by the rule's own protection if it has one, else by the global one; advance `n`;
    * (a rule that raises before any rule matches: that exception);
    * otherwise printable ASCII / DEL / `\n\r\t` are copied, advance 1;
    * otherwise the unknown-character policy supplies the chunk (or the `ValueError`), advance 1.
    The cases are exhaustive (`firstRule_spec`). -/
theorem C04_step (cfg : Cfg) (s : Str) (p : Nat) (c : Char) (hc : s[p]? = some c) :
    (skipsAscii cfg c = true → encStep cfg s p = .emit [c] 1) ∧
    (skipsAscii cfg c = false → ∀ i r n t, FirstAt cfg.rules s p i r (.hit n t) →
        encStep cfg s p = .emit (protect cfg.isAlpha (match r.prot with | some pr => pr | none => cfg.prot) t) n) ∧
    (skipsAscii cfg c = false → ∀ i r e, FirstAt cfg.rules s p i r (.raise e) → encStep cfg s p = .raise e) ∧
    (skipsAscii cfg c = false → AllMiss cfg.rules s p → isCopyChar c = true → encStep cfg s p = .emit [c] 1) ∧
    (skipsAscii cfg c = false → AllMiss cfg.rules s p → isCopyChar c = false →
        encStep cfg s p = unknownChar cfg.policy c) := by
  rw [step_eq_stepAt hc]
  refine ⟨?_, ?_, ?_, ?_, ?_⟩
  · intro h; simp [stepAt, h]
  · intro h i r n t hF
    simp only [stepAt, h, firstRule_of_firstAt hF]
    cases r.prot <;> simp [Option.getD]
  · intro h i r e hF
    simp [stepAt, h, firstRule_of_firstAt hF]
  · intro h ha hcp
    simp [stepAt, h, firstRule_of_allMiss ha, hcp]
  · intro h ha hcp
    simp [stepAt, h, firstRule_of_allMiss ha, hcp]

theorem unknownChar_emit {pol : Policy} {c : Char} {t : Str} {n : Nat} (h : unknownChar pol c = .emit t n) :
    n = 1 ∧ ((pol = .keep ∧ t = [c]) ∨ (pol = .replace ∧ t = "{\\bfseries ?}".toList) ∨ (pol = .ignore ∧ t = []) ∨
      (pol = .unihex ∧
        t = "\\ensuremath{\\langle}\\texttt{U+".toList ++ hexUpper4 c.toNat ++ "}\\ensuremath{\\rangle}".toList) ∨
      ∃ a b, pol = .wrap a b ∧ t = a ++ [c] ++ b) := by
  cases pol <;> cases h
  case wrap a b => exact ⟨rfl, .inr (.inr (.inr (.inr ⟨a, b, rfl, rfl⟩)))⟩
  all_goals simp

theorem unknownChar_raise {pol : Policy} {c : Char} {e : EncExc} :
    unknownChar pol c = .raise e ↔ pol = .fail ∧ e = .valueError c := by
  cases pol <;> simp [unknownChar] <;> exact eq_comm

theorem stepAt_emit {cfg : Cfg} {s : Str} {p : Nat} {c : Char} {t : Str} {n : Nat} (h : stepAt cfg s p c = .emit t n) :
    n = 1 ∨ ∃ r ∈ cfg.rules, ∃ t', r.app s p = .hit n t' := by
  have hs := firstRule_spec cfg.rules s p
  unfold stepAt at h
  split at h
  · cases h; exact .inl rfl
  · split at h
    · rename_i r _ t' hf
      rw [hf] at hs
      obtain ⟨i, hF⟩ := hs
      cases h
      exact .inr ⟨r, firstAt_mem hF, t', hF.2.1⟩
    · cases h
    · split at h
      · cases h; exact .inl rfl
      · exact .inl (unknownChar_emit h).1

theorem step_adv_pos {cfg : Cfg} (hP : Productive cfg) {s : Str} {p : Nat} (hp : p < s.length) {t : Str} {n : Nat}
    (h : encStep cfg s p = .emit t n) : 1 ≤ n := by
  rw [step_eq_stepAt (c := s[p]) (by simp [hp])] at h
  rcases stepAt_emit h with rfl | ⟨r, hr, t', happ⟩
  · exact Nat.le_refl 1
  · exact hP r hr s p n t' happ

theorem step_raise_iff {cfg : Cfg} (hN : NoRaise cfg) {s : Str} {p : Nat} {c : Char}
    (hc : s[p]? = some c) (e : EncExc) :
    encStep cfg s p = .raise e ↔
      (e = .valueError c ∧ cfg.policy = .fail ∧ skipsAscii cfg c = false ∧ AllMiss cfg.rules s p ∧
        isCopyChar c = false) := by
  rw [step_eq_stepAt hc]
  constructor
  · intro h
    have hs := firstRule_spec cfg.rules s p
    unfold stepAt at h
    split at h
    · cases h
    · rename_i hsk
      split at h
      · cases h
      · rename_i e' hf
        rw [hf] at hs
        obtain ⟨i, r, hF⟩ := hs
        exact absurd hF.2.1 (hN r (firstAt_mem hF) s p e')
      · rename_i hf
        rw [hf] at hs
        split at h
        · cases h
        · rename_i hcp
          have := unknownChar_raise.mp h
          exact ⟨this.2, this.1, by simpa using hsk, hs, by simpa using hcp⟩
  · rintro ⟨rfl, hpol, hsk, ha, hcp⟩
    simp [stepAt, hsk, firstRule_of_allMiss ha, hcp, hpol, unknownChar]

theorem cons_ne_diverge {t : Str} {x : EncRes} (h : x ≠ .diverge) : x.cons t ≠ .diverge := by
  cases x <;> simp [EncRes.cons] at *

theorem cons_eq_raise {t : Str} {x : EncRes} {e : EncExc} : x.cons t = .raise e ↔ x = .raise e := by
  cases x <;> simp [EncRes.cons]

theorem cons_eq_ok {t : Str} {x : EncRes} {l : List Str} : x.cons t = .ok l ↔ ∃ l', x = .ok l' ∧ l = t :: l' := by
  cases x <;> simp [EncRes.cons, eq_comm]

theorem loop_succ_lt {cfg : Cfg} {s : Str} {f p : Nat} (hp : p < s.length) :
    loop cfg s (f+1) p = match encStep cfg s p with
      | .emit t n => (loop cfg s f (p + n)).cons t
      | .raise e => .raise e := by
  rw [loop, if_pos hp]
  cases encStep cfg s p <;> rfl

theorem loop_ge {cfg : Cfg} {s : Str} {f p : Nat} (hp : s.length ≤ p) : loop cfg s f p = .ok [] := by
  cases f <;> simp [loop, Nat.not_lt.mpr hp]

theorem getElem?_of_lt {s : Str} {p : Nat} (hp : p < s.length) : ∃ c, s[p]? = some c :=
  ⟨s[p], by simp [hp]⟩

theorem loop_ne_diverge {cfg : Cfg} (hP : Productive cfg) (s : Str) (f p : Nat) :
    s.length - p ≤ f → loop cfg s f p ≠ .diverge := by
  fun_induction loop cfg s f p with
  | case1 p hp => intro h; omega
  | case3 f p hp t n hs ih =>
    intro h
    have := step_adv_pos hP hp hs
    exact cons_ne_diverge (ih (by omega))
  | _ => intro _; simp

/-- **C04 (termination).**  If every rule consumes at least one character, the encoder loop
    terminates on every input (the model never runs out of its fuel `|s|`). -/
theorem C04_terminates (cfg : Cfg) (hP : Productive cfg) (s : Str) : encodeChunks cfg s ≠ .diverge :=
  loop_ne_diverge hP s s.length 0 (by omega)

theorem loop_raise_fwd {cfg : Cfg} {s : Str} {e : EncExc} (f p : Nat) :
    loop cfg s f p = .raise e → ∃ q, ReachedFrom cfg s p q ∧ q < s.length ∧ encStep cfg s q = .raise e := by
  fun_induction loop cfg s f p with
  | case3 f p hp t n hs ih =>
    intro h
    obtain ⟨q, hr, hq, hst⟩ := ih (cons_eq_raise.mp h)
    exact ⟨q, .encStep hp hs hr, hq, hst⟩
  | case4 f p hp e' hs => intro h; cases h; exact ⟨p, .refl p, hp, hs⟩
  | _ => intro h; cases h

theorem loop_raise_bwd {cfg : Cfg} (hP : Productive cfg) {s : Str} {e : EncExc} {p q : Nat}
    (hr : ReachedFrom cfg s p q) (hq : q < s.length) (hst : encStep cfg s q = .raise e) :
    ∀ f, s.length - p ≤ f → loop cfg s f p = .raise e := by
  induction hr with
  | refl p =>
    intro f hf
    obtain ⟨f', rfl⟩ : ∃ f', f = f' + 1 := ⟨f - 1, by omega⟩
    rw [loop_succ_lt hq, hst]
  | @encStep p q n t hp hs _ ih =>
    intro f hf
    obtain ⟨f', rfl⟩ : ∃ f', f = f' + 1 := ⟨f - 1, by omega⟩
    have := step_adv_pos hP hp hs
    rw [loop_succ_lt hp, hs]
    simp only
    rw [ih hq hst f' (by omega)]
    rfl

/-- **C04 (exceptions).**  When no rule raises by itself and every rule consumes at least one
    character, an encoder call raises `e` if and only if `e` is the `ValueError` of policy
    `fail` for a character at a position the loop reaches where `non_ascii_only` does not pass
    it through, no rule matches, and it is not a copied ASCII character.  In particular no other
    exception can occur, and none at all under the other policies. -/
theorem C04_exceptions (cfg : Cfg) (hN : NoRaise cfg) (hP : Productive cfg) (s : Str) (e : EncExc) :
    encodeChunks cfg s = .raise e ↔
      ∃ p c, Reached cfg s p ∧ s[p]? = some c ∧ e = .valueError c ∧ cfg.policy = .fail ∧
        skipsAscii cfg c = false ∧ AllMiss cfg.rules s p ∧ isCopyChar c = false := by
  constructor
  · intro h
    obtain ⟨q, hr, hq, hst⟩ := loop_raise_fwd _ _ h
    obtain ⟨c, hc⟩ := getElem?_of_lt hq
    exact ⟨q, c, hr, hc, (step_raise_iff hN hc e).mp hst⟩
  · rintro ⟨p, c, hr, hc, hrest⟩
    have hp : p < s.length := by
      rcases Nat.lt_or_ge p s.length with h | h
      · exact h
      · simp [List.getElem?_eq_none h] at hc
    exact loop_raise_bwd hP hr hp ((step_raise_iff hN hc e).mpr hrest) _ (by omega)

/-- encoding character by character (what the loop computes under `PerChar`) -/
def encChars (cfg : Cfg) : Str → EncRes
  | [] => .ok []
  | c :: cs =>
    match stepAt cfg [c] 0 c with
    | .emit t _ => (encChars cfg cs).cons t
    | .raise e => .raise e

def Rule.PerChar (r : Rule) : Prop :=
  ∃ f : Char → Option Str, ∀ s p,
    r.app s p = match s[p]? with
      | some c => (match f c with | some t => .hit 1 t | none => .miss)
      | none => .miss

theorem Rule.PerChar.hit_one {r : Rule} (h : r.PerChar) {s : Str} {p n : Nat} {t : Str} (happ : r.app s p = .hit n t) :
    n = 1 := by
  obtain ⟨f, hf⟩ := h
  rw [hf s p] at happ
  split at happ
  · split at happ
    · cases happ; rfl
    · cases happ
  · cases happ

theorem Rule.PerChar.ne_raise {r : Rule} (h : r.PerChar) (s : Str) (p : Nat) (e : EncExc) : r.app s p ≠ .raise e := by
  obtain ⟨f, hf⟩ := h
  rw [hf s p]
  split
  · split <;> exact RuleRes.noConfusion
  · exact RuleRes.noConfusion

theorem Rule.PerChar.app_congr {r : Rule} (h : r.PerChar) {s s' : Str} {p p' : Nat} (hsp : s[p]? = s'[p']?) :
    r.app s p = r.app s' p' := by
  obtain ⟨f, hf⟩ := h
  rw [hf s p, hf s' p', hsp]

theorem firstRule_congr {rules : List Rule} {s s' : Str} {p p' : Nat} (h : ∀ r ∈ rules, r.app s p = r.app s' p') :
    firstRule s p rules = firstRule s' p' rules := by
  induction rules with
  | nil => rfl
  | cons r0 rs ih => simp only [firstRule, h r0 (by simp), ih (fun r hr => h r (by simp [hr]))]

theorem encStep_perChar {cfg : Cfg} (h : PerChar cfg) {s : Str} {p : Nat} (hp : p < s.length) :
    encStep cfg s p = stepAt cfg [s[p]] 0 s[p] ∧ ∀ t n, encStep cfg s p = .emit t n → n = 1 := by
  have hsp : s[p]? = ([s[p]] : Str)[0]? := by simp [hp]
  rw [step_eq_stepAt (c := s[p]) (by simp [hp])]
  refine ⟨by simp only [stepAt, firstRule_congr fun r hr => Rule.PerChar.app_congr (h r hr) hsp], fun t n hh => ?_⟩
  rcases stepAt_emit hh with h1 | ⟨r, hr, t', happ⟩
  · exact h1
  · exact Rule.PerChar.hit_one (h r hr) happ

theorem loop_eq_encChars {cfg : Cfg} (h : PerChar cfg) (s : Str) (f p : Nat) :
    s.length - p ≤ f → loop cfg s f p = encChars cfg (s.drop p) := by
  fun_induction loop cfg s f p with
  | case1 p hp => intro hf; omega
  | case3 f p hp t n hs ih =>
    intro hf
    obtain ⟨h1, h2⟩ := encStep_perChar h hp
    obtain rfl := h2 t n hs
    rw [List.drop_eq_getElem_cons hp, encChars, ← h1, hs, ih (by omega)]
  | case4 f p hp e hs =>
    intro _
    rw [List.drop_eq_getElem_cons hp, encChars, ← (encStep_perChar h hp).1, hs]
  | _ => intro _; rw [List.drop_of_length_le (by omega)]; rfl

theorem encodeChunks_eq_encChars {cfg : Cfg} (h : PerChar cfg) (s : Str) :
    encodeChunks cfg s = encChars cfg s := by
  have := loop_eq_encChars h s s.length 0 (by omega)
  simpa [encodeChunks] using this

theorem append_ok_nil (y : EncRes) : (EncRes.ok []).append y = y := by
  cases y <;> simp [EncRes.append]

theorem cons_append (t : Str) (x y : EncRes) : (x.cons t).append y = (x.append y).cons t := by
  cases x <;> cases y <;> simp [EncRes.cons, EncRes.append]

theorem encChars_append (cfg : Cfg) (a b : Str) :
    encChars cfg (a ++ b) = (encChars cfg a).append (encChars cfg b) := by
  induction a with
  | nil => simp [encChars, append_ok_nil]
  | cons c cs ih =>
    simp only [List.cons_append, encChars]
    cases stepAt cfg [c] 0 c with
    | emit t n => simp only; rw [ih, cons_append]
    | raise e => simp [EncRes.append]

/-- **C04 (concatenation).**  With per-character rules (in particular the built-in dictionary
    rules) encoding a concatenation is the concatenation of the encodings — chunk by chunk, and
    including the error case: the first failing part decides. -/
theorem C04_concat (cfg : Cfg) (h : PerChar cfg) (a b : Str) :
    encodeChunks cfg (a ++ b) = (encodeChunks cfg a).append (encodeChunks cfg b) := by
  rw [encodeChunks_eq_encChars h, encodeChunks_eq_encChars h, encodeChunks_eq_encChars h, encChars_append]

/-- the same statement for the returned strings -/
theorem C04_concat_str (cfg : Cfg) (h : PerChar cfg) (a b x y : Str)
    (ha : encode cfg a = some x) (hb : encode cfg b = some y) :
    encode cfg (a ++ b) = some (x ++ y) := by
  unfold encode at *
  rw [C04_concat cfg h]
  cases hA : encodeChunks cfg a <;> rw [hA] at ha <;> simp [EncRes.joined] at ha
  cases hB : encodeChunks cfg b <;> rw [hB] at hb <;> simp [EncRes.joined] at hb
  subst ha; subst hb
  simp [EncRes.append, EncRes.joined]

theorem dictRule_perChar (d : List (Nat × Str)) (pr : Option Prot) : (dictRule d pr).PerChar := by
  refine ⟨fun c => d.lookup c.toNat, fun s p => ?_⟩
  simp only [dictRule]
  cases s[p]? with
  | none => rfl
  | some c => cases d.lookup c.toNat <;> rfl

theorem perChar_of_dictRules (cfg : Cfg) (h : ∀ r ∈ cfg.rules, ∃ d pr, r = dictRule d pr) : PerChar cfg := by
  intro r hr
  obtain ⟨d, pr, rfl⟩ := h r hr
  exact dictRule_perChar d pr

theorem perChar_productive {cfg : Cfg} (h : PerChar cfg) : Productive cfg :=
  fun r hr _ _ _ _ happ => Nat.le_of_eq (Rule.PerChar.hit_one (h r hr) happ).symm

theorem perChar_noRaise {cfg : Cfg} (h : PerChar cfg) : NoRaise cfg :=
  fun r hr => Rule.PerChar.ne_raise (h r hr)

theorem loop_congr {cfg cfg' : Cfg} {s : Str} (h : ∀ p, p < s.length → encStep cfg s p = encStep cfg' s p) :
    ∀ f p, loop cfg s f p = loop cfg' s f p := by
  intro f
  induction f with
  | zero => intro p; rfl
  | succ f ih =>
    intro p
    by_cases hp : p < s.length
    · rw [loop_succ_lt hp, loop_succ_lt hp, h p hp]
      cases encStep cfg' s p with
      | emit t n => simp only; rw [ih]
      | raise e => rfl
    · rw [loop_ge (by omega), loop_ge (by omega)]

theorem loop_unit_steps {cfg : Cfg} {s : Str} (g : Char → Str)
    (h : ∀ p c, s[p]? = some c → encStep cfg s p = .emit (g c) 1) (f p : Nat) :
    s.length - p ≤ f → loop cfg s f p = .ok ((s.drop p).map g) := by
  fun_induction loop cfg s f p with
  | case1 p hp => intro hf; omega
  | case3 f p hp t n hs ih =>
    intro hf
    rw [h p s[p] (by simp [hp])] at hs
    cases hs
    rw [ih (by omega), List.drop_eq_getElem_cons hp]
    rfl
  | case4 f p hp e hs => rw [h p s[p] (by simp [hp])] at hs; cases hs
  | _ => intro _; rw [List.drop_of_length_le (by omega)]; rfl

theorem flatten_singletons (s : Str) : (s.map fun c => [c]).flatten = s := by
  induction s with
  | nil => rfl
  | cons c cs ih => simp [ih]

/-- **C04 (non_ascii_only).**  With `non_ascii_only` set and the ASCII limit at 128 (the
    repaired code) every ASCII character, U+007F included, is copied untouched whatever the
    rules say; hence an all-ASCII string is returned unchanged. -/
theorem C04_ascii_untouched (cfg : Cfg) (hn : cfg.nonAsciiOnly = true) (hl : cfg.asciiLimit = 128) (s : Str) :
    (∀ p c, s[p]? = some c → c.toNat < 128 → encStep cfg s p = .emit [c] 1) ∧
    ((∀ c ∈ s, c.toNat < 128) → encodeChunks cfg s = .ok (s.map fun c => [c]) ∧ encode cfg s = some s) := by
  have hstep : ∀ p c, s[p]? = some c → c.toNat < 128 → encStep cfg s p = .emit [c] 1 := by
    intro p c hc hlt
    exact (C04_step cfg s p c hc).1 (by simp [skipsAscii, hn, hl, hlt])
  refine ⟨hstep, ?_⟩
  intro hall
  have h1 : encodeChunks cfg s = .ok (s.map fun c => [c]) := by
    have := loop_unit_steps (cfg := cfg) (s := s) (fun c => [c])
      (fun p c hc => hstep p c hc (hall c (List.mem_of_getElem? hc))) s.length 0 (by omega)
    simpa [encodeChunks] using this
  refine ⟨h1, ?_⟩
  simp only [encode, h1, EncRes.joined, flatten_singletons]

theorem partial_firstRule_not_keep {keep : Char → Bool} {peek : Str → Nat → Peek} {catchErr : Bool}
    {base : Cfg} {s : Str} {p : Nat} {c : Char} (hc : s[p]? = some c) (hk : keep c = false) :
    firstRule s p (partialCfg keep peek catchErr base).rules = firstRule s p base.rules := by
  simp [partialCfg, firstRule, partialRule, hc, hk]

theorem skipsAscii_partial (keep : Char → Bool) (peek : Str → Nat → Peek) (catchErr : Bool) (base : Cfg) (c : Char) :
    skipsAscii (partialCfg keep peek catchErr base) c = skipsAscii base c := rfl

theorem stepAt_partial_keep {keep : Char → Bool} {peek : Str → Nat → Peek} {catchErr : Bool}
    {base : Cfg} {s : Str} {p : Nat} {c : Char} (hc : s[p]? = some c) (hs : skipsAscii base c = false)
    (hk : keep c = true) :
    stepAt (partialCfg keep peek catchErr base) s p c =
      match peek s p with
      | .tok pre a b => .emit (pre ++ slice s a b) (b - p)
      | .eos => if catchErr then .emit [c] 1 else .raise .endOfStream
      | .err => if catchErr then .emit [c] 1 else .raise .tokenParseError := by
  simp only [stepAt, skipsAscii_partial, hs]
  simp only [partialCfg, firstRule, partialRule, hc, hk]
  cases peek s p <;> cases catchErr <;> rfl

/-- **C04 (partial encoder).**  At every position the `PartialLatexToLatexEncoder` performs
    exactly the base encoder's step, except at a position that holds a keep-character (and is
    not passed through by `non_ascii_only`): there it copies, unprotected, exactly
    `pre_space ++ s[tokStart:tokEnd]` of the token the tokenizer reports and advances to
    `tokEnd`; when the tokenizer reports no token, the repaired code copies the character
    itself and the code as it is lets the tokenizer's exception escape. -/
theorem C04_partial (keep : Char → Bool) (peek : Str → Nat → Peek) (catchErr : Bool) (base : Cfg)
    (s : Str) (p : Nat) (c : Char) (hc : s[p]? = some c) :
    ((skipsAscii base c = true ∨ keep c = false) →
      encStep (partialCfg keep peek catchErr base) s p = encStep base s p) ∧
    (skipsAscii base c = false → keep c = true →
      (∀ pre a b, peek s p = .tok pre a b →
        encStep (partialCfg keep peek catchErr base) s p = .emit (pre ++ slice s a b) (b - p)) ∧
      (peek s p = .err → encStep (partialCfg keep peek catchErr base) s p =
        if catchErr then .emit [c] 1 else .raise .tokenParseError) ∧
      (peek s p = .eos → encStep (partialCfg keep peek catchErr base) s p =
        if catchErr then .emit [c] 1 else .raise .endOfStream)) := by
  rw [step_eq_stepAt hc, step_eq_stepAt hc]
  refine ⟨?_, fun h hk => ?_⟩
  · rintro (h | h)
    · simp [stepAt, skipsAscii_partial, h]
    · simp only [stepAt, skipsAscii_partial, partial_firstRule_not_keep hc h]
      rfl
  · rw [stepAt_partial_keep hc h hk]
    exact ⟨fun pre a b hpk => by rw [hpk], fun hpk => by rw [hpk], fun hpk => by rw [hpk]⟩

/-- a string without keep-characters is encoded exactly as by the base encoder -/
theorem C04_partial_no_keep (keep : Char → Bool) (peek : Str → Nat → Peek) (catchErr : Bool) (base : Cfg)
    (s : Str) (h : ∀ c ∈ s, keep c = false) :
    encodeChunks (partialCfg keep peek catchErr base) s = encodeChunks base s := by
  unfold encodeChunks
  apply loop_congr
  intro p hp
  have hc : s[p]? = some s[p] := by simp [hp]
  exact (C04_partial keep peek catchErr base s p s[p] hc).1 (Or.inr (h _ (List.getElem_mem hp)))

/-- the repaired keep-character rule never raises and always advances when the tokenizer's
    tokens end after the position they were asked at; so `C04_exceptions` and `C04_terminates`
    apply to the repaired partial encoder -/
theorem C04_partial_exceptions (keep : Char → Bool) (peek : Str → Nat → Peek) (base : Cfg)
    (hN : NoRaise base) :
    NoRaise (partialCfg keep peek true base) ∧
    (Productive base → (∀ s p pre a b, peek s p = .tok pre a b → p < b) →
      Productive (partialCfg keep peek true base)) := by
  constructor
  · intro r hr s p e
    rcases List.mem_cons.mp hr with rfl | hr
    · simp only [partialRule, ↓reduceIte]
      split
      · exact RuleRes.noConfusion
      · split
        · split <;> exact RuleRes.noConfusion
        · exact RuleRes.noConfusion
    · exact hN r hr s p e
  · intro hP hpk r hr s p n t happ
    rcases List.mem_cons.mp hr with rfl | hr
    · simp only [partialRule, ↓reduceIte] at happ
      split at happ
      · cases happ
      · split at happ
        · split at happ
          · rename_i hp; cases happ; have := hpk _ _ _ _ _ hp; omega
          · cases happ; exact Nat.le_refl 1
          · cases happ; exact Nat.le_refl 1
        · cases happ
    · exact hP r hr s p n t happ

theorem regexApp_ne_raise (s : Str) (p : Nat) (es : List (Rx × List Piece)) (e : EncExc) :
    regexApp s p es ≠ .raise e := by
  induction es with
  | nil => simp [regexApp]
  | cons x xs ih =>
    obtain ⟨rx, repl⟩ := x
    simp only [regexApp]
    split
    · simp
    · exact ih

theorem famApp_ne_raise (f : Fam) (s : Str) (p : Nat) (e : EncExc) : famApp f s p ≠ .raise e := by
  cases f <;> simp only [famApp] <;> repeat' split <;> simp

/-- dictionary, regular-expression and family-callable rules — everything the driver can be
    given for the base encoder — satisfy the `NoRaise` hypothesis of `C04_exceptions` -/
theorem C04_concrete_noRaise (cfg : Cfg)
    (h : ∀ r ∈ cfg.rules, (∃ d pr, r = dictRule d pr) ∨ (∃ es pr, r = regexRule es pr) ∨ (∃ f pr, r = famRule f pr)) :
    NoRaise cfg := by
  intro r hr s p e
  rcases h r hr with ⟨d, pr, rfl⟩ | ⟨es, pr, rfl⟩ | ⟨f, pr, rfl⟩
  · exact (dictRule_perChar d pr).ne_raise s p e
  · exact regexApp_ne_raise s p es e
  · exact famApp_ne_raise f s p e

/-- keep-characters of the default `keep_latex_chars` that matter here -/
def keepBackslash (c : Char) : Bool := c == '\\'

/-- a tokenizer that reports a parse error (as the real strict tokenizer does for a trailing
    backslash, `\begin x`, `\end`) -/
def peekErr : Str → Nat → Peek := fun _ _ => .err

/-- **Defect (a), code as it is.**  With the unrepaired keep-character rule the partial encoder
    raises the tokenizer's `LatexWalkerTokenParseError` (not a `ValueError`, and under policy
    `keep`); the repaired rule copies the character. -/
theorem C04_asis_partial_raises :
    encodeChunks (partialCfg keepBackslash peekErr false { rules := [] }) ['a', '\\'] = .raise .tokenParseError ∧
    encodeChunks (partialCfg keepBackslash peekErr true { rules := [] }) ['a', '\\'] = .ok [['a'], ['\\']] := by
  constructor <;> decide

/-- **Defect (b), code as it is.**  With the limit `ord < 127` a rule for U+007F is applied
    although `non_ascii_only` is set; with `< 128` the character passes through. -/
theorem C04_asis_del_not_passed :
    encodeChunks { rules := [dictRule [(0x7f, ['X'])]], nonAsciiOnly := true, asciiLimit := 127 } [Char.ofNat 0x7f]
      = .ok [['X']] ∧
    encodeChunks { rules := [dictRule [(0x7f, ['X'])]], nonAsciiOnly := true, asciiLimit := 128 } [Char.ofNat 0x7f]
      = .ok [[Char.ofNat 0x7f]] := by
  constructor <;> decide

/-! ### Non-vacuity -/

/-- a configuration with overlapping rules of the three kinds: the regex `a+b` comes first,
    then a dictionary with `a`, then the callable `upperRun 2` -/
def exampleCfg : Cfg :=
  { rules := [ regexRule [([⟨.lit ['a'], true⟩, ⟨.lit ['b'], false⟩], [.text ['\\', 'x']])] (some .bracesAll),
               dictRule [(97, ['\\', 'y'])],
               famRule (.upperRun 2) ],
    policy := .fail }

example : encodeChunks exampleCfg "aabaXYZ".toList
    = .ok ["{\\x}".toList, "{\\y}".toList, "{XYZ}".toList] := by decide
example : encodeChunks exampleCfg ['a', Char.ofNat 0x4e7e] = .raise (.valueError (Char.ofNat 0x4e7e)) := by decide
example : FirstAt exampleCfg.rules ['a', 'c'] 0 1 (dictRule [(97, ['\\', 'y'])]) (.hit 1 ['\\', 'y']) :=
  .succ (by decide) (.zero (by decide) RuleRes.noConfusion)
example : PerChar { rules := [dictRule [(233, "\\'e".toList)]] } :=
  perChar_of_dictRules _ (by intro r hr; simp at hr; exact ⟨_, _, hr⟩)
example : encodeChunks { rules := [dictRule [(233, "\\'e".toList)]] } ['a', Char.ofNat 233, 'b']
    = .ok [['a'], "\\'e".toList, ['b']] := by decide
example : encodeChunks { rules := [], policy := .unihex } [Char.ofNat 0x1F600]
    = .ok ["\\ensuremath{\\langle}\\texttt{U+1F600}\\ensuremath{\\rangle}".toList] := by decide
example : Reached exampleCfg ['a', 'a', 'b', 'c'] 3 :=
  .encStep (t := "{\\x}".toList) (n := 3) (by decide) (by decide) (.refl _)

/-- a configuration with one dictionary rule and policy `fail`: it satisfies `PerChar`, hence
    `Productive` and `NoRaise` -/
def dictCfg : Cfg := { rules := [dictRule [(233, "\\'e".toList)]], policy := .fail }

theorem dictCfg_perChar : PerChar dictCfg :=
  perChar_of_dictRules _ (by intro r hr; simp [dictCfg] at hr; exact ⟨_, _, hr⟩)

-- hypotheses of `C04_exceptions` hold, and its left-hand side occurs: the error is located
example : ∃ p c, Reached dictCfg ['a', Char.ofNat 0x4e7e, 'b'] p ∧ ['a', Char.ofNat 0x4e7e, 'b'][p]? = some c ∧
    EncExc.valueError (Char.ofNat 0x4e7e) = .valueError c ∧ dictCfg.policy = .fail ∧ skipsAscii dictCfg c = false ∧
    AllMiss dictCfg.rules ['a', Char.ofNat 0x4e7e, 'b'] p ∧ isCopyChar c = false :=
  (C04_exceptions dictCfg (perChar_noRaise dictCfg_perChar) (perChar_productive dictCfg_perChar) _ _).mp (by decide)

-- `C04_concat` on a concrete split, with an error in the second half
example : encodeChunks dictCfg (['a', Char.ofNat 233] ++ [Char.ofNat 0x4e7e]) = .raise (.valueError (Char.ofNat 0x4e7e)) := by
  rw [C04_concat dictCfg dictCfg_perChar]; decide

example : NoRaise exampleCfg :=
  C04_concrete_noRaise _ (by
    intro r hr
    simp [exampleCfg] at hr
    rcases hr with rfl | rfl | rfl
    · right; left; exact ⟨_, _, rfl⟩
    · left; exact ⟨_, _, rfl⟩
    · right; right; exact ⟨_, _, rfl⟩)

-- the partial encoder keeps the token `\'` the tokenizer reports at a backslash, and the
-- hypotheses of `C04_partial_exceptions` are met by such a tokenizer
example : encStep (partialCfg keepBackslash (fun _ p => .tok [] p (p+2)) true dictCfg) ['\\', '\'', Char.ofNat 233] 0
    = .emit ['\\', '\''] 2 := by decide
example : encodeChunks (partialCfg keepBackslash (fun _ p => .tok [] p (p+2)) true dictCfg) ['\\', '\'', Char.ofNat 233]
    = .ok [['\\', '\''], "\\'e".toList] := by decide
example : Productive (partialCfg keepBackslash (fun _ p => .tok [] p (p+2)) true dictCfg) :=
  (C04_partial_exceptions _ _ dictCfg (perChar_noRaise dictCfg_perChar)).2
    (perChar_productive dictCfg_perChar) (by intro s p pre a b h; cases h; omega)

end Pylx
