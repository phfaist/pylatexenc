/-
  C01TLoop — C01, tolerant clause: the contract (`GoodT`) and the nodes collector.
  In tolerant mode the nodes of a result need not tile their range (unknown macros are skipped, recovery
  rewinds or skips), but they are still chained inside it; every node is nested (`NodeNested`).
-/
import PylxProofs.C01TTok
namespace Pylx

def AllNT (s : Str) (ns : List Node) : Prop := ∀ x ∈ subnodesList ns, NodeNested s x

theorem allNT_nil (s : Str) : AllNT s [] := forest_nil

theorem allNT_append {s : Str} {xs ys : List Node} : AllNT s (xs ++ ys) ↔ AllNT s xs ∧ AllNT s ys := forest_append

theorem allNT_single {s : Str} {n : Node} : AllNT s [n] ↔ NodeNested s n ∧ AllNT s n.children := forest_single

theorem allNT_snoc {s : Str} {xs : List Node} {n : Node} (h1 : AllNT s xs) (h2 : AllNT s [n]) :
    AllNT s (xs ++ [n]) := allNT_append.mpr ⟨h1, h2⟩

theorem allNT_leaf {s : Str} {n : Node} (hc : n.children = []) (h1 : n.pos ≤ n.posEnd) (h2 : n.posEnd ≤ s.length) :
    AllNT s [n] := by
  rw [allNT_single, hc]
  exact ⟨⟨h1, h2, by rw [hc]; exact Chain.nil h1⟩, allNT_nil s⟩

theorem allNT_chars {s : Str} (a b : Nat) (pi : PSInfo) (c : Str) (hab : a ≤ b) (hb : b ≤ s.length) :
    AllNT s [Node.chars a b pi c] :=
  allNT_leaf rfl hab hb

/-- where `parse_content` leaves the reader when it recovers from the error `e` -/
def recPosT (e : PErr) : Nat :=
  match e.recAt with
  | some t => moveToToken t true
  | none => match e.recPast with
    | some t => movePastToken t true
    | none => e.rpos

section contractT
variable (s cs : Str)

def ArgResT (pos pos' : Nat) (res : Res) : Prop :=
  Chain (resToArg res).nodes pos pos' ∧ AllNT s (resToArg res).nodes

/-- what `parse_content(parser @ pos)` returning `(res, pos')` guarantees in tolerant mode, per parser -/
def ResGoodT : Parser → Nat → Nat → Res → Prop
  | .general _ _ _, pos, pos', res => ArgResT s pos pos' res
  | .envBody _, pos, pos', res => ArgResT s pos pos' res
  | .group _ _ _, pos, pos', res => ArgResT s pos pos' res
  | .math _, pos, pos', res => ArgResT s pos pos' res
  | .macroCall t _, _, pos', res => ArgResT s t.pos pos' res
  | .specialsCall t _, _, pos', res => ArgResT s t.pos pos' res
  | .envCall t _ _, _, pos', res => ArgResT s t.pos pos' res
  | .arguments _, pos, pos', res => Chain (argNodes (argsOf res)) pos pos' ∧ AllNT s (argNodes (argsOf res))
  | .expression _, pos, pos', res => ArgResT s pos pos' res
  | .marker _ _ _, pos, pos', res => ArgResT s pos pos' res
  | .verbatim _, pos, pos', res => ArgResT s pos pos' res

/-- in tolerant mode `parse_content` never lets a parse error through -/
def PostT (p : Parser) (pos : Nat) : Ret → Prop
  | .ok res pos' => pos ≤ pos' ∧ pos' ≤ s.length ∧ ResGoodT s p pos pos' res
  | .perr _ => False
  | _ => True

/-- whitespace / comment nodes skipped by the expression parser -/
def SkOkT (sk : List Node) (pos0 pos : Nat) : Prop :=
  ∀ n ∈ sk, pos0 ≤ n.pos ∧ n.pos ≤ n.posEnd ∧ n.posEnd ≤ pos ∧ n.children = []

/-- the expression task is not wrapped by `parse_content`: its errors carry recovery nodes -/
def ExprPostT (pos0 : Nat) : Ret → Prop
  | .ok res pos' => pos0 ≤ pos' ∧ pos' ≤ s.length ∧ ArgResT s pos0 pos' res
  | .perr e => pos0 ≤ recPosT e ∧ recPosT e ≤ s.length ∧ ArgResT s pos0 (recPosT e) e.recNodes
  | _ => True

/-- the collector's invariant: `acc` is chained in `[start, m]`; the pending characters lie in `[m, pos]` -/
structure LInvT (start : Nat) (st : LoopSt) (m : Nat) : Prop where
  chain : Chain st.acc start m
  ok : AllNT s st.acc
  le : m ≤ st.pos
  inr : st.pos ≤ s.length
  ppn : st.pendPos = none → st.pend = []
  pps : ∀ q, st.pendPos = some q → m ≤ q ∧ q + st.pend.length ≤ st.pos ∧ (st.pend = [] → st.pos = s.length)

def LoopPostT (start : Nat) : Ret → Prop
  | .loopEnd e => Chain e.nodes start e.pos ∧ AllNT s e.nodes ∧ e.pos ≤ s.length ∧
      ∀ t, e.stopTok = some t → e.pos ≤ t.posEnd ∧ t.posEnd ≤ s.length
  | _ => True

def GoodT : Task → Ret → Prop
  | .pc p f pos, r => FOk cs f → pos ≤ s.length → PPre cs p pos → PostT s p pos r
  | .loop f _ child st, r => FOk cs f → ChildOk cs child → ∀ start m, LInvT s start st m → LoopPostT s start r
  | .expr _ sk f pos, r => FOk cs f → pos ≤ s.length → ∀ pos0, pos0 ≤ pos → SkOkT sk pos0 pos → ExprPostT s pos0 r

end contractT

theorem recPosT_eq (e : PErr) : recPosT e = recoverPos e := rfl

section collectorT
variable {s : Str}

theorem LInvT.hpp {start m : Nat} {st : LoopSt} (h : LInvT s start st m) :
    st.pend ≠ [] → ∃ q, st.pendPos = some q ∧ m ≤ q ∧ q + st.pend.length ≤ st.pos := by
  intro hne
  cases hq : st.pendPos with
  | none => exact absurd (h.ppn hq) hne
  | some q => exact ⟨q, rfl, (h.pps q hq).1, (h.pps q hq).2.1⟩

theorem LInvT.pendPos_none {start m : Nat} {st : LoopSt} (h : LInvT s start st m) (hlt : st.pos < s.length)
    (hp : st.pend = []) : st.pendPos = none := by
  cases hq : st.pendPos with
  | none => rfl
  | some q => have := (h.pps q hq).2.2 hp; omega

theorem LInvT.ofFlushed {st : LoopSt} {start m : Nat} (hch : Chain st.acc start m) (hok : AllNT s st.acc)
    (hpend : st.pend = []) (hpp : st.pendPos = none) (hle : m ≤ st.pos) (hin : st.pos ≤ s.length) :
    LInvT s start st m :=
  { chain := hch, ok := hok, le := hle, inr := hin, ppn := fun _ => hpend,
    pps := fun _ hq => nomatch hpp.symm.trans hq }

theorem flush_specT (f : PSFields) (st : LoopSt) (start m b : Nat) (hc : Chain st.acc start m)
    (hok : AllNT s st.acc) (hmb : m ≤ b) (hb : b ≤ s.length)
    (hpp : st.pend ≠ [] → ∃ q, st.pendPos = some q ∧ m ≤ q ∧ q + st.pend.length ≤ b) :
    Chain (st.flush f).acc start b ∧ AllNT s (st.flush f).acc ∧ (st.pend ≠ [] → (st.flush f).pendPos = none) := by
  by_cases hnil : st.pend = []
  · rw [LoopSt.flush_nil hnil]
    exact ⟨hc.weaken (Nat.le_refl _) hmb, hok, fun h => absurd hnil h⟩
  · rw [LoopSt.flush_cons hnil]
    obtain ⟨q, hq, h1, h2⟩ := hpp hnil
    rw [hq, Option.getD_some]
    exact ⟨hc.append (Chain.single h1 (by show q ≤ q + _; omega) h2),
      allNT_snoc hok (allNT_chars _ _ _ _ (by omega) (by omega)), fun _ => rfl⟩

theorem loopFinish_T (f : PSFields) (st : LoopSt) (stopTok : Option Token) (err : Option PErr) (start m : Nat)
    (hc : Chain st.acc start m) (hok : AllNT s st.acc) (hle : m ≤ st.pos) (hin : st.pos ≤ s.length)
    (hpp : st.pend ≠ [] → ∃ q, st.pendPos = some q ∧ m ≤ q ∧ q + st.pend.length ≤ st.pos)
    (hstop : ∀ t, stopTok = some t → st.pos ≤ t.posEnd ∧ t.posEnd ≤ s.length) :
    LoopPostT s start (loopFinish f st stopTok err) := by
  obtain ⟨h1, h2, _⟩ := flush_specT (s := s) f st start m st.pos hc hok hle hin hpp
  rw [loopFinish_eq]
  exact ⟨h1, h2, hin, hstop⟩

theorem LInvT.finish {start m : Nat} {st : LoopSt} (h : LInvT s start st m) (f : PSFields) (err : Option PErr) :
    LoopPostT s start (loopFinish f st none err) :=
  loopFinish_T f st none err start m h.chain h.ok h.le h.inr h.hpp (fun _ ht => nomatch ht)

theorem push_specT {start m : Nat} {st : LoopSt} (h : LInvT s start st m) (chars : Str) (p b : Nat)
    (hp : p = st.pos) (hb : st.pos + chars.length ≤ b) :
    ∃ q, (st.push chars p).pendPos = some q ∧ m ≤ q ∧ q + (st.push chars p).pend.length ≤ b := by
  show ∃ q, (match st.pendPos with | some p => some p | none => some p) = some q ∧ m ≤ q ∧
    q + (st.pend ++ chars).length ≤ b
  have hle := h.le
  rw [List.length_append]
  cases hq : st.pendPos with
  | none =>
    rw [h.ppn hq, List.length_nil]
    exact ⟨p, rfl, by omega, by omega⟩
  | some q =>
    obtain ⟨h1, h2, _⟩ := h.pps q hq
    exact ⟨q, rfl, h1, by omega⟩

theorem flushBefore_specT (f : PSFields) {st : LoopSt} {start m : Nat} (h : LInvT s start st m) {t : Token}
    (ht : TokInfoT s st.pos t) :
    Chain (st.flushBefore f t).acc start t.pos ∧ AllNT s (st.flushBefore f t).acc ∧
    (st.flushBefore f t).pend = [] ∧ (st.flushBefore f t).pendPos = none := by
  have hle := h.le
  have hpos := ht.pos_eq
  have hin := ht.in_range
  have hle2 := ht.le
  by_cases hnil : st.pend = []
  · have hpnone := h.pendPos_none (by have := ht.adv; omega) hnil
    by_cases hpre : t.pre = []
    · rw [LoopSt.flushBefore_nil hnil hpre]
      exact ⟨h.chain.weaken (Nat.le_refl _) (by omega), h.ok, hnil, hpnone⟩
    · rw [LoopSt.flushBefore_pre hnil hpre]
      exact ⟨h.chain.append (Chain.single (by show m ≤ t.pos - _; omega) (by show t.pos - _ ≤ t.pos; omega)
          (Nat.le_refl _)), allNT_snoc h.ok (allNT_chars _ _ _ _ (by omega) (by omega)), hnil, hpnone⟩
  · obtain ⟨q, hq, hq1, hq2⟩ := h.hpp hnil
    rw [LoopSt.flushBefore_pend hnil]
    obtain ⟨h1, h2, h5⟩ := flush_specT (s := s) f ({ st with pend := st.pend ++ t.pre } : LoopSt)
      start m t.pos h.chain h.ok (by omega) (by omega)
      (fun _ => ⟨q, hq, hq1, by show q + (st.pend ++ t.pre).length ≤ t.pos; rw [List.length_append]; omega⟩)
    exact ⟨h1, h2, LoopSt.flush_pend, h5 (fun hh => hnil (List.append_eq_nil_iff.mp hh).1)⟩

end collectorT

section loopT
variable {env : Env} {cs : Str} {rec : Task → Ret}

def ChildPostT (s : Str) (tpos : Nat) : Ret → Prop
  | .ok res p => p ≤ s.length ∧ ArgResT s tpos p res
  | _ => True

theorem childPostT_of_dispatch {f : PSFields} {st : LoopSt} {t : Token} {P : Parser} {p : Nat} {b : Bool}
    (hd : DispatchChild env f st t P p b) {r : Ret} (h : PostT env.s P p r) : ChildPostT env.s t.pos r := by
  have hres : ∀ q res, ResGoodT env.s P p q res = ArgResT env.s t.pos q res := by
    cases hd <;> exact fun _ _ => rfl
  cases r with
  | ok res q => exact ⟨h.2.1, hres q res ▸ h.2.2⟩
  | _ => trivial

theorem afterChild_postT (ih : ∀ t, GoodT env.s cs t (rec t)) {f : PSFields} {stop : StopTok} {child : ChildPS}
    (hf : FOk cs f) (hc : ChildOk cs child) {st : LoopSt} {start tpos : Nat}
    (hch : Chain st.acc start tpos) (hok : AllNT env.s st.acc) (hpend : st.pend = []) (hpp : st.pendPos = none)
    (htp : tpos ≤ st.pos) (hin : st.pos ≤ env.s.length) (noneOk : Bool) (r : Ret) (hr : ChildPostT env.s tpos r) :
    LoopPostT env.s start (afterChild rec f stop child st noneOk r) := by
  apply afterChild_elim
  · intro n p e
    rw [e] at hr
    obtain ⟨hp, h1, h2⟩ := hr
    exact ih (.loop _ _ _ _) hf hc start p
      (LInvT.ofFlushed (hch.append h1) (allNT_snoc hok h2) hpend hpp (Nat.le_refl _) hp)
  · intro p e _
    rw [e] at hr
    obtain ⟨hp, h1, _⟩ := hr
    exact ih (.loop _ _ _ _) hf hc start tpos (LInvT.ofFlushed hch hok hpend hpp h1.le hp)
  · intro e _
    exact loopFinish_T f st none (some e) start tpos hch hok htp hin (fun h => absurd hpend h) (fun _ h => nomatch h)
  · intro _; trivial
  · intro _ _; trivial

theorem loopDispatch_postT (ih : ∀ t, GoodT env.s cs t (rec t))
    {f : PSFields} {stop : StopTok} {child : ChildPS} (hf : FOk cs f) (hc : ChildOk cs child)
    {st : LoopSt} {start : Nat} {t : Token}
    (hch : Chain st.acc start t.pos) (hok : AllNT env.s st.acc) (hpend : st.pend = []) (hpp : st.pendPos = none)
    (hpos : st.pos = t.posEnd) (hle : t.pos ≤ t.posEnd) (hin : t.posEnd ≤ env.s.length) :
    LoopPostT env.s start (loopDispatch env rec f stop child st t) := by
  apply loopDispatch_elim
  · intro _ _ _
    exact loopFinish_T f st none _ start t.pos hch hok (by omega) (by omega) (fun h => absurd hpend h)
      (fun _ h => nomatch h)
  · intro _
    exact ih (.loop _ _ _ _) hf hc start t.posEnd
      (LInvT.ofFlushed (hch.append (Chain.single (Nat.le_refl _) hle (Nat.le_refl _)))
        (allNT_snoc hok (allNT_leaf rfl hle hin)) hpend hpp (Nat.le_of_eq hpos.symm) (hpos ▸ hin))
  · intro _
    exact ih (.loop f stop child st) hf hc start t.pos (LInvT.ofFlushed hch hok hpend hpp (by omega) (by omega))
  · intro P p b hd
    obtain ⟨hp, hpre⟩ := dispatchChild_pre (cs := cs) hd hpos hle hin
    exact afterChild_postT ih hf hc hch hok hpend hpp (by omega) (by omega) b _
      (childPostT_of_dispatch hd (ih (.pc P (child.get f t) p) (hc.get hf t) hp hpre))
  · intro _ _; trivial

theorem tokInfoT_of_loopTok (htol : env.tol = true) {f : PSFields} (hf : FOk cs f) {st : LoopSt}
    (hin : st.pos ≤ env.s.length) {t : Token} (h : LoopTok env f st t) : TokInfoT env.s st.pos t := by
  cases h with
  | peek hpk => rw [htol] at hpk; exact tokInfoT_of_peek hf hpk
  | @final fs hpk hne =>
    rw [htol] at hpk
    have hlen := congrArg List.length (eos_of_peekT hf hin hpk)
    rw [List.length_drop] at hlen
    have hpos : 0 < fs.length := List.length_pos_iff.mpr hne
    exact { pos_eq := rfl, le := Nat.le_refl _, adv := by show st.pos < st.pos + fs.length; omega,
            in_range := by show st.pos + fs.length ≤ _; omega,
            charLen := fun _ => Nat.le_refl _,
            charEmpty := fun _ _ => by show st.pos + fs.length = _; omega }

theorem loopStep_goodT (htol : env.tol = true) (ih : ∀ t, GoodT env.s cs t (rec t))
    (f : PSFields) (stop : StopTok) (child : ChildPS) (st : LoopSt) :
    GoodT env.s cs (.loop f stop child st) (loopStep env rec f stop child st) := by
  intro hf hc start m h
  have hml := h.le
  apply loopStep_elim
  · intro _; exact h.finish f none
  · intro _ _ _ _ _ _; exact h.finish f _
  · intro t hlt _
    have ht := tokInfoT_of_loopTok htol hf h.inr hlt
    have hpos := ht.pos_eq
    have hle := ht.le
    have hin := ht.in_range
    exact loopFinish_T f _ (some t) none start m h.chain h.ok (by show m ≤ t.pos; omega) (by show t.pos ≤ _; omega)
      (fun _ => push_specT h t.pre (t.pos - t.pre.length) t.pos (by omega) (by omega))
      (fun t' ht' => by cases ht'; exact ⟨hle, hin⟩)
  · intro t hlt _ hk
    have ht := tokInfoT_of_loopTok htol hf h.inr hlt
    have hpos := ht.pos_eq
    have hcl := ht.charLen hk
    obtain ⟨q, h3, h4, h5⟩ := push_specT h (t.pre ++ t.arg) (t.pos - t.pre.length) t.posEnd (by omega)
      (by rw [List.length_append]; omega)
    refine ih (.loop _ _ _ _) hf hc start m
      { chain := h.chain, ok := h.ok, le := by show m ≤ t.posEnd; omega, inr := ht.in_range,
        ppn := fun hn => (nomatch h3.symm.trans hn), pps := ?_ }
    intro q' hq'
    cases h3.symm.trans hq'
    refine ⟨h4, h5, fun hnil => ?_⟩
    have hnil : st.pend ++ (t.pre ++ t.arg) = [] := hnil
    exact ht.charEmpty hk (List.append_eq_nil_iff.mp (List.append_eq_nil_iff.mp hnil).2).2
  · intro t hlt _ _
    have ht := tokInfoT_of_loopTok htol hf h.inr hlt
    obtain ⟨h1, h2, h3, h4⟩ := flushBefore_specT f h ht
    exact loopDispatch_postT ih hf hc (t := { t with pre := [] }) h1 h2 h3 h4 rfl ht.le ht.in_range

end loopT

end Pylx
