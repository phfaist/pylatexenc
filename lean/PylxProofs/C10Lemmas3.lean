/-
  C10 — `GoodX` is preserved by `step` for every parser and lifted to `run` by induction on fuel.  The only fact
  about math delimiters the walk needs is isolated as the hypothesis `MathHyp`; its strict-mode premise (the body of
  a formula ended at its closing delimiter) is supplied by the second contract `Good2`, which is why `run_goodX`
  carries `run_good2` along at the same fuel.
-/
import PylxProofs.C10Lemmas2
namespace Pylx

attribute [local instance] TokKind.lawfulBEq
namespace C10

section
variable {P : Str → Str → Bool → Prop} {ctx : Ctx} {f0 : PSFields} {tol : Bool}

theorem bodyOf_ok (cur : PSInfo) (res : Res) (h : ResOkX P ctx cur res) : BodyM P ctx cur (bodyOf res) := by
  cases res with
  | list _ _ ns => exact h
  | _ => trivial

theorem resToArg_ok (cur : PSInfo) (res : Res) (h : ResOkX P ctx cur res) : ArgM P ctx cur (resToArg res) := by
  cases res with
  | node n => exact h
  | list _ _ ns => exact h
  | _ => trivial

theorem OptArgsM_nil (cur : PSInfo) (spec : Option ArgsP) : OptArgsM P ctx cur spec (some []) := by
  unfold OptArgsM
  split
  · exact Or.inr rfl
  · trivial

theorem ArgListM_nil_append (cur : PSInfo) (a b : List Arg) :
    ArgListM P ctx cur [] (a ++ b) ↔ ArgListM P ctx cur [] a ∧ ArgListM P ctx cur [] b := by
  induction a with
  | nil => exact ⟨fun h => ⟨trivial, h⟩, fun h => h.2⟩
  | cons x xs ih => exact (and_congr_right fun _ => ih).trans and_assoc.symm

theorem ArgListM_snoc (cur : PSInfo) : ∀ (ds : List Delta) (l : List Arg) (d : Delta) (a : Arg), l.length = ds.length →
    ArgListM P ctx cur ds l → ArgM P ctx (deltaInfo cur d) a → ArgListM P ctx cur (ds ++ [d]) (l ++ [a])
  | [], [], _, _, _, _, ha => ⟨ha, trivial⟩
  | _ :: ds, _ :: l, d, a, hlen, h, ha => ⟨h.1, ArgListM_snoc cur ds l d a (Nat.succ.inj hlen) h.2 ha⟩
  | [], _ :: _, _, _, hlen, _, _ => nomatch hlen
  | _ :: _, [], _, _, hlen, _, _ => nomatch hlen

theorem PRes_argParser (k : ArgKind) (f : PSFields) (res : Res) :
    PRes P ctx (argParser k) f res = ResOkX P ctx (psInfo f) res := by
  cases k <;> rfl

theorem peekTok_err_tol {tol : Bool} {ps : PState} {s : Str} {pos : Nat} {w : TokErr} {ep : Nat} {t : Token} {r : Nat}
    (h : peekTok tol ps s pos = .err w ep t r) : tol = false :=
  peekTok_err_strict h

theorem kind_beq : ∀ a b : TokKind, (a == b) = true → a = b :=
  fun _ _ => eq_of_beq

end

/-- what the walk has to be told about the delimiters of a math node: the formula was opened by a math token `t`
    read in a state with the delimiter configuration of `f0`, `cd` is the closing delimiter the math state expects,
    and (in strict mode) some token met the stop condition of the formula's body -/
def MathHyp (P : Str → Str → Bool → Prop) (f0 : PSFields) (env : Env) : Prop :=
  ∀ f pos t cd, SD f0 f → peekTok env.tol (mkPS f) env.s pos = .tok t →
    (t.kind = .mathInline ∨ t.kind = .mathDisplay) →
    (mkPS (mathFields f t.arg)).t.expectClose = some cd →
    (env.tol = false → StopFact env.tol env.s (mathFields f t.arg) (.mathClose (t.kind == .mathDisplay) cd.1)) →
    P t.arg cd.1 (t.kind == .mathDisplay)

section
variable {P : Str → Str → Bool → Prop} {f0 : PSFields} {env : Env} {rec : Task → Ret}
variable (ih : ∀ t, GoodX P env.ctx f0 env.tol t (rec t))
include ih

theorem rawGeneral_goodX (stop : StopTok) (require : Bool) (child : ChildPS) (f : PSFields) (pos : Nat)
    (hs : SD f0 f) (hc : ChildOkX f0 f child) :
    RawSat env.tol (PcContract env.tol (PRes P env.ctx (.general stop require child) f))
      (rawGeneral rec stop require child f pos) := by
  have h := ih (.loop f stop child { pos := pos }) ⟨hs, hc, ListM_nil _⟩
  apply rawGeneral_elim
  · intro e _ hr _; rw [hr] at h; exact pcContract_perr fun _ => h
  · intro e hr _ _ _ _; rw [hr] at h; exact pcContract_perr fun _ => h
  · intro e _ hr _ _; rw [hr] at h; exact h
  · intro e hr _ _ _; rw [hr] at h; exact h
  · intro _; trivial
  · intro _ _ _; trivial

theorem rawGroup_goodX (d : GroupDelims) (opt ap : Bool) (f : PSFields) (pos : Nat) (hs : SD f0 f) :
    RawSat env.tol (PcContract env.tol (PRes P env.ctx (.group d opt ap) f)) (rawGroup env rec d opt ap f pos) := by
  apply rawGroup_elim
  · intro _ _; trivial
  · intro _ _ _ _; trivial
  · intro _ _ _ _ _ _ _ htol; exact pcContract_strict htol
  · intro g t hg _
    obtain ⟨hgi, hgs⟩ := groupState_spec d hg hs
    have hpre : ∀ c, PreX P env.ctx f0 (.pc (.general (.braceClose c) true (.group d.opener g f)) g t.posEnd) :=
      fun _ => ⟨hgs, ⟨rfl, hgs⟩, ⟨hgi.symm, hs⟩⟩
    apply rawGroupTok_elim
    · intro _ _ _; trivial
    · intro c res _ _ _ hr
      have h : ResOkX P env.ctx (psInfo g) res := pc_okX ih hr (hpre c)
      rw [hgi] at h
      exact ⟨hgi, bodyOf_ok _ _ h⟩
    · intro c _ _ hne; exact pc_passX ih hne (hpre c)
    · intro _ _; trivial
    · intro _ _; exact pcContract_perr fun _ => trivial

theorem rawMath_goodX (ih2 : ∀ t, Good2 env t (rec t)) (HP : MathHyp P f0 env) (delim : Str) (f : PSFields) (pos : Nat)
    (hs : SD f0 f) :
    RawSat env.tol (PcContract env.tol (PRes P env.ctx (.math delim) f)) (rawMath env rec delim f pos) := by
  apply rawMath_elim
  · intro _ _; trivial
  · intro _ _ _ _ _ htol; exact pcContract_strict htol
  · intro t hpk
    have hpre : ∀ c, PreX P env.ctx f0
        (.pc (.general (.mathClose (t.kind == .mathDisplay) c) true .same) (mathFields f t.arg) t.posEnd) :=
      fun _ => ⟨SD_mathFields _ hs, trivial⟩
    apply rawMathTok_elim
    · intro _ _ _; trivial
    · intro cd res _ hop hcd hr
      have h : ResOkX P env.ctx (psInfo (mathFields f t.arg)) res := pc_okX ih hr (hpre cd.1)
      rw [psInfo_mathFields] at h
      have h2 := ih2 (.pc (.general (.mathClose (t.kind == .mathDisplay) cd.1) true .same) (mathFields f t.arg) t.posEnd)
      rw [hr] at h2
      exact ⟨rfl, HP f pos t cd hs hpk hop.2.1 hcd (fun htol => h2 htol rfl rfl), bodyOf_ok _ _ h⟩
    · intro cd _ _ hne; exact pc_passX ih hne (hpre cd.1)
    · intro _; exact pcContract_perr fun _ => trivial

theorem rawEnvBody_goodX (name : Str) (f : PSFields) (pos : Nat) (hs : SD f0 f) :
    RawSat env.tol (PcContract env.tol (PRes P env.ctx (.envBody name) f)) (rawEnvBody rec name f pos) := by
  apply rawEnvBody_elim
  · intro _ _; trivial
  · intro _ _ hr _; exact pc_okX ih hr ⟨hs, trivial⟩
  · intro hne; exact pc_passX ih hne ⟨hs, trivial⟩

theorem rawCall_goodX {p : Parser} {mk : Nat → Option (List Arg) → Node} {a : ArgsP} (f : PSFields) (pos : Nat)
    (hs : SD f0 f)
    (hmk : ∀ e args, OptArgsM P env.ctx (psInfo f) (some a) args → PRes P env.ctx p f (.node (mk e args))) :
    RawSat env.tol (PcContract env.tol (PRes P env.ctx p f)) (rawCall rec mk a f pos) := by
  apply rawCall_elim
  · intro _ _ hr; exact hmk _ _ (pc_okX ih hr ⟨hs, trivial⟩)
  · intro hne; exact pc_passX ih hne ⟨hs, trivial⟩

theorem rawEnvCall_goodX (t : Token) (a : ArgsP) (bm : Bool) (f : PSFields) (pos : Nat) (hs : SD f0 f)
    (hspec : env.ctx.envSpec t.arg = some (a, bm)) :
    RawSat env.tol (PcContract env.tol (PRes P env.ctx (.envCall t a bm) f)) (rawEnvCall rec t a bm f pos) := by
  have hbs : SD f0 (if bm = true then applyDelta f .enterMath else f) := by
    split
    · exact SD_applyDelta _ hs
    · exact hs
  have hbi : psInfo (if bm = true then applyDelta f .enterMath else f) =
      if bm = true then enterMathInfo else psInfo f := by
    split
    · exact psInfo_applyDelta f .enterMath
    · rfl
  apply rawEnvCall_elim
  · intro ares _ bres p2 hr hr2
    have ha := pc_okX ih hr ⟨hs, trivial⟩
    have hb : ResOkX P env.ctx (psInfo (if bm = true then applyDelta f .enterMath else f)) bres :=
      pc_okX ih hr2 ⟨hbs, trivial⟩
    rw [hbi] at hb
    show NodeM P env.ctx (psInfo f) (Node.env t.pos p2 (psInfo f) t.arg (argsOf ares) (bodyOf bres))
    simp only [NodeM, hspec, Option.map_some, Option.some.injEq]
    exact ⟨trivial, ha, bodyOf_ok _ _ hb⟩
  · intro hne; exact pc_passX ih hne ⟨hs, trivial⟩
  · intro _ _ _ hne; exact pc_passX ih hne ⟨hbs, trivial⟩

theorem argsLoop_goodX (f : PSFields) (hs : SD f0 f) (all : List ArgSpec) :
    ∀ (specs done : List ArgSpec) (acc : List Arg) (pos : Nat), done ++ specs = all → acc.length = done.length →
      ArgListM P env.ctx (psInfo f) (done.map (·.delta)) acc →
      RawSat env.tol (PcContract env.tol (PRes P env.ctx (.arguments (.std all)) f))
        (.ret (argsLoop env rec f specs acc pos)) := by
  intro specs
  induction specs with
  | nil =>
    intro done acc pos hall hlen hacc
    rw [List.append_nil] at hall
    subst hall
    rw [argsLoop_nil]
    exact Or.inl ⟨hlen, hacc⟩
  | cons a rest ihl =>
    intro done acc pos hall hlen hacc
    have hpre : PreX P env.ctx f0 (.pc (argParser a.kind) (applyDelta f a.delta) pos) :=
      ⟨SD_applyDelta _ hs, by cases a.kind <;> trivial⟩
    refine argsLoop_cons_elim (motive := fun r =>
      RawSat env.tol (PcContract env.tol (PRes P env.ctx (.arguments (.std all)) f)) (.ret r)) ?_ ?_ ?_
    · intro _ _ _ _ _ htol; exact pcContract_strict htol
    · intro res p hr
      have h := pc_okX ih hr hpre
      rw [PRes_argParser, psInfo_applyDelta] at h
      refine ihl (done ++ [a]) _ p (by rw [List.append_assoc]; exact hall) ?_ ?_
      · rw [List.length_append, List.length_append, hlen]; rfl
      · rw [List.map_append]
        exact ArgListM_snoc _ _ _ _ _ (by rw [List.length_map]; exact hlen) hacc (resToArg_ok _ _ h)
    · intro hne; exact pc_passX ih hne hpre

omit ih in
theorem rawLegacyVerb_goodX (f : PSFields) (pos : Nat) :
    RawSat env.tol (PcContract env.tol (PRes P env.ctx (.arguments .legacyVerb) f)) (rawLegacyVerb env f pos) := by
  apply rawLegacyVerb_elim
  · intro _ _ _; exact pcContract_perr fun _ => trivial
  · intro _ _ _ _ _; exact pcContract_perr fun _ => trivial
  · intro _ _ _ _ _ _; exact ⟨rfl, trivial⟩

omit ih in
theorem legacyVerbEnvFinish_goodX (name : Str) (optArg : Bool) (f : PSFields) (pos : Nat) (pre : List Arg) (p : Nat)
    (hpre : ArgListM P env.ctx (psInfo f) [] pre) :
    RawSat env.tol (PcContract env.tol (PRes P env.ctx (.arguments (.legacyVerbEnv name optArg)) f))
      (legacyVerbEnvFinish env name f pos pre p) := by
  apply legacyVerbEnvFinish_elim
  · intro _; exact pcContract_perr fun _ => trivial
  · intro _ _; exact (ArgListM_nil_append _ _ _).mpr ⟨hpre, rfl, trivial⟩

theorem rawLegacyVerbEnv_goodX (name : Str) (optArg : Bool) (f : PSFields) (pos : Nat) (hs : SD f0 f) :
    RawSat env.tol (PcContract env.tol (PRes P env.ctx (.arguments (.legacyVerbEnv name optArg)) f))
      (rawLegacyVerbEnv env rec name optArg f pos) := by
  apply rawLegacyVerbEnv_elim
  · intro _; exact legacyVerbEnvFinish_goodX name optArg f pos _ pos trivial
  · intro _ _; exact legacyVerbEnvFinish_goodX name optArg f pos _ pos ⟨trivial, trivial⟩
  · intro n _ _ hr; exact legacyVerbEnvFinish_goodX name optArg f pos _ _ ⟨pc_okX ih hr ⟨hs, trivial⟩, trivial⟩
  · intro _ _ _ _ _; exact legacyVerbEnvFinish_goodX name optArg f pos _ pos ⟨trivial, trivial⟩
  · intro _ hne; exact pc_passX ih hne ⟨hs, trivial⟩

theorem rawArguments_goodX (a : ArgsP) (f : PSFields) (pos : Nat) (hs : SD f0 f) :
    RawSat env.tol (PcContract env.tol (PRes P env.ctx (.arguments a) f)) (rawArguments env rec a f pos) := by
  cases a with
  | std l => exact argsLoop_goodX ih f hs l l [] [] pos rfl rfl trivial
  | legacyVerb => exact rawLegacyVerb_goodX f pos
  | legacyVerbEnv name optArg => exact rawLegacyVerbEnv_goodX ih name optArg f pos hs
  | unknown => trivial

omit ih in
theorem exprFinish_goodX {f : PSFields} {nodes : List Node} {pos : Nat} (h : ListM P env.ctx (psInfo f) nodes) :
    ExprContract env.tol (ResOkX P env.ctx (psInfo f)) (exprFinish f nodes pos) := by
  unfold exprFinish
  split
  · next n hn => exact ListM_getLast _ _ _ h hn
  · exact ⟨rfl, trivial⟩

omit ih in
theorem exprFinish_snocX {f : PSFields} {skipped : List Node} {x : Node} {pos : Nat}
    (h : NodeM P env.ctx (psInfo f) x) :
    ExprContract env.tol (ResOkX P env.ctx (psInfo f)) (exprFinish f (skipped ++ [x]) pos) := by
  rw [exprFinish_snoc]; exact h

theorem exprOnTok_goodX {ap : Bool} {skipped : List Node} {f : PSFields} {t : Token} (hs : SD f0 f)
    (hsk : ListM P env.ctx (psInfo f) skipped) :
    ExprContract env.tol (ResOkX P env.ctx (psInfo f)) (exprOnTok env rec ap skipped f t) := by
  apply exprOnTok_elim
  · intro _ _; exact ih (.expr _ _ _ _) ⟨hs, ListM_snoc _ _ _ hsk rfl⟩
  · intro _ _ _; exact ih (.expr _ _ _ _) ⟨hs, hsk⟩
  · intro _ _ htol; exact Or.inl htol
  · intro _ _ _ hr; exact exprFinish_snocX (pc_okX ih hr ⟨hs, trivial⟩)
  · intro _ hne; exact exprContract_pass (ih (.pc (.group (.auto t.arg) false false) f t.pos) ⟨hs, trivial⟩) hne
  · intro _; exact Or.inr rfl
  · intro _; exact exprFinish_snocX rfl
  · intro _
    refine Or.inr ?_
    show NodeM P env.ctx (psInfo f) (if _ then _ else _)
    split
    · exact ⟨rfl, OptArgsM_nil _ _⟩
    · rfl
  · intro _ _; trivial

theorem exprTok_goodX {ap : Bool} {skipped : List Node} {f : PSFields} {t : Token} (hs : SD f0 f)
    (hsk : ListM P env.ctx (psInfo f) skipped) :
    ExprContract env.tol (ResOkX P env.ctx (psInfo f)) (exprTok env rec ap skipped f t) := by
  apply exprTok_elim
  · intro _ _ _; exact exprFinish_snocX ⟨rfl, trivial⟩
  · intro _ _ htol; exact Or.inl htol
  · intro _ _; exact exprFinish_snocX ⟨rfl, OptArgsM_nil _ _⟩
  · intro _; exact exprFinish_snocX ⟨rfl, OptArgsM_nil _ _⟩
  · intro _ _ _ _; exact ih (.expr _ _ _ _) ⟨hs, ListM_snoc _ _ _ hsk rfl⟩
  · intro _ _ _ _ _; exact ih (.expr _ _ _ _) ⟨hs, hsk⟩
  · intro _ _ _ _ htol; exact Or.inl htol
  · intro _ _ _; exact exprOnTok_goodX ih hs hsk

theorem exprStep_goodX {ap : Bool} {skipped : List Node} {f : PSFields} {pos : Nat} (hs : SD f0 f)
    (hsk : ListM P env.ctx (psInfo f) skipped) :
    ExprContract env.tol (ResOkX P env.ctx (psInfo f)) (exprStep env rec ap skipped f pos) := by
  apply exprStep_elim
  · intro _ _ _ _ _ htol; exact Or.inl htol
  · intro _; exact exprFinish_goodX hsk
  · intro htol; exact Or.inl htol
  · intro _ _; exact exprTok_goodX ih hs hsk

omit ih in
theorem rawMarker_goodX (c : Char) (fl ap : Bool) (f : PSFields) (pos : Nat) :
    RawSat env.tol (PcContract env.tol (PRes P env.ctx (.marker c fl ap) f)) (rawMarker env c fl ap f pos) := by
  apply rawMarker_elim
  · intro _ _; trivial
  · intro _ _ _ _ _ htol; exact pcContract_strict htol
  · intro _ _ _ _ _
    cases fl with
    | true => exact ⟨rfl, trivial⟩
    | false => exact rfl
  · intro _ _ _ _; trivial
  · intro _ _; trivial

omit ih in
theorem rawVerbatim_goodX (d : Option (Char × Char)) (f : PSFields) (pos : Nat) :
    RawSat env.tol (PcContract env.tol (PRes P env.ctx (.verbatim d) f)) (rawVerbatim env d f pos) := by
  apply rawVerbatim_elim
  · intro _ _ _; trivial
  · intro _ _ _ _ _; exact pcContract_perr fun _ => trivial
  · intro _ _ _ _ _ _ _ _ _; exact ⟨rfl, rfl, trivial⟩
  · intro _ _ _ _ _ _ _ _; exact pcContract_perr fun _ => rfl

theorem step_goodX (ih2 : ∀ t, Good2 env t (rec t)) (HP : MathHyp P f0 env) :
    ∀ t, GoodX P env.ctx f0 env.tol t (step env rec t) := by
  intro t
  cases t with
  | loop f stop child st => exact fun hp => loopStep_goodX ih hp.1 hp.2.1 hp.2.2
  | expr ap skipped f pos => exact fun hp => exprStep_goodX ih hp.1 hp.2
  | pc p f pos =>
    intro ⟨hs, hpp⟩
    show RawSat env.tol (PcContract env.tol (PRes P env.ctx p f)) (rawParse env rec p f pos)
    cases p with
    | general stop require child => exact rawGeneral_goodX ih stop require child f pos hs hpp
    | group d o a => exact rawGroup_goodX ih d o a f pos hs
    | math d => exact rawMath_goodX ih ih2 HP d f pos hs
    | envBody n => exact rawEnvBody_goodX ih n f pos hs
    | macroCall t a =>
      exact rawCall_goodX ih f pos hs fun _ _ h => ⟨rfl, (congrArg (OptArgsM P env.ctx (psInfo f) · _) hpp).mpr h⟩
    | specialsCall t a =>
      exact rawCall_goodX ih f pos hs fun _ _ h => ⟨rfl, (congrArg (OptArgsM P env.ctx (psInfo f) · _) hpp).mpr h⟩
    | envCall t a bm => exact rawEnvCall_goodX ih t a bm f pos hs hpp
    | arguments a => exact rawArguments_goodX ih a f pos hs
    | expression ap => exact pcContract_expr (ih (.expr ap [] f pos) ⟨hs, ListM_nil _⟩)
    | marker c fl ap => exact rawMarker_goodX c fl ap f pos
    | verbatim d => exact rawVerbatim_goodX d f pos

end

theorem run_goodX {P : Str → Str → Bool → Prop} {f0 : PSFields} {env : Env} (HP : MathHyp P f0 env) :
    ∀ (n : Nat) (t : Task), GoodX P env.ctx f0 env.tol t (run env n t) :=
  run_inv_fuel (P := fun _ => GoodX P env.ctx f0 env.tol) (fun t => by cases t <;> exact fun _ => trivial)
    (fun n ih => step_goodX ih (run_good2 env n) HP)

end C10
end Pylx
