/-
  C05Tok — tokenizer facts needed by the crash-freedom proof (C05): which state components a
  `brace_open` / math token depends on, re-reading at the token's own position, specials keys,
  recovery placeholders.
-/
import PylxProofs.C11
namespace Pylx

/-- position `p` of `s` holds a character that is not whitespace -/
def NonSpaceAt (s : Str) (p : Nat) : Prop := ∃ c, s[p]? = some c ∧ isPySpace c = false

/-- `g` is `f` except possibly for the group delimiters -/
def SameBut (f g : PSFields) : Prop := g = { f with groupDelims := g.groupDelims }

/-! ### what holds of every token -/

/-- specials tokens carry a key of the state; environment tokens need environments enabled -/
def AnyTok (ps : PState) (t : Token) : Prop :=
  (t.kind = .specials → t.arg ∈ ps.f.specials) ∧ (t.kind = .beginEnv ∨ t.kind = .endEnv → ps.f.enEnvs = true)

/-- `peekImpl`: tokens satisfy `AnyTok`, placeholders are `char` tokens -/
def ImplOk (ps : PState) : PeekRes → Prop
  | .tok t => AnyTok ps t
  | .err _ _ t _ => t.kind = .char
  | .eos _ => True

theorem testSpecials_mem {keys : List Str} {s : Str} {p : Nat} {k : Str} (h : testSpecials keys s p = some k) :
    k ∈ keys :=
  (testSpecials_some h).1

section layers
variable {ps : PState} {s : Str} {p : Nat} {c : Char} {pre : Str}

theorem envWordAt_noEnvs (he : ps.f.enEnvs = false) : envWordAt ps s p = none := by
  unfold envWordAt envWord
  rw [he]; rfl

theorem mathTok_kind (d : Str) (b : Bool) :
    (mathTok p pre d b).kind = .mathInline ∨ (mathTok p pre d b).kind = .mathDisplay := by
  cases b
  · exact Or.inl rfl
  · exact Or.inr rfl

theorem readMath_spec {t : Token} (h : readMath ps s p pre = some t) : ∃ d b, t = mathTok p pre d b := by
  obtain ⟨d, b, ht, _⟩ := readMath_eq_some.mp h
  exact ⟨d, b, ht⟩

theorem readMath_kind {t : Token} (h : readMath ps s p pre = some t) :
    t.kind = .mathInline ∨ t.kind = .mathDisplay := by
  obtain ⟨d, b, rfl⟩ := readMath_spec h
  exact mathTok_kind d b

theorem readMath_pos5 {t : Token} (h : readMath ps s p pre = some t) : t.pos = p := by
  obtain ⟨d, b, rfl⟩ := readMath_spec h
  rfl

end layers

theorem peekPar_kind (ps : PState) (s : Str) (pos : Nat) (pre : Str) :
    ∃ t, peekPar ps s pos pre = .tok t ∧
      ((t.kind = .specials ∧ t.arg ∈ ps.f.specials) ∨ t.kind = .char) := by
  refine ⟨_, peekPar_eq ps s pos pre, ?_⟩
  cases hp : parSpecials ps with
  | false => exact Or.inr rfl
  | true =>
    unfold parSpecials at hp
    simp only [Bool.and_eq_true] at hp
    exact Or.inl ⟨rfl, List.contains_iff_mem.mp hp.2⟩

theorem peekImpl_any (ps : PState) (s : Str) (pos : Nat) : ImplOk ps (peekImpl ps s pos) := by
  refine peekImpl_cases rfl rfl (fun _ _ => ?_) (fun _ _ => trivial) (fun c _ _ _ => ?_)
  · obtain ⟨t, ht, hk⟩ := peekPar_kind ps s pos (spaceRun s pos)
    rw [ht]
    rcases hk with ⟨h1, h2⟩ | h <;> simp [ImplOk, AnyTok, *]
  apply peekAtChar_leaves
  case math => intro t _ ht; rcases readMath_kind ht with h | h <;> simp [ImplOk, AnyTok, h]
  case env => intro b name e _ hb _; cases b <;> simp [ImplOk, AnyTok, (envWordAt_some hb).1]
  case spec => intro k hk; simp [ImplOk, AnyTok, (testSpecials_some hk).1]
  all_goals intros; simp [ImplOk, AnyTok]

/-! ### the path to a `brace_open` token -/

def braceTok (c : Char) (p : Nat) (pre : Str) : Token :=
  { kind := .braceOpen, arg := [c], pos := p, posEnd := p + 1, pre := pre }

/-- the conditions (other than the group-table test) under which the reader at character `c` of position `p`
    reaches the group-delimiter test -/
structure BraceAt (ps : PState) (s : Str) (p : Nat) (c : Char) : Prop where
  math : (ps.t.mathStart.contains c && ps.f.enMath) = true → readMath ps s p [] = none
  esc : (c == ps.f.escapeChar) = true → envWordAt ps s p = none ∧ ps.f.enMacros = false
  com : ¬ (ps.f.enComments && startsWithAt s ps.f.commentStart p && !ps.f.commentStart.isEmpty) = true
  grp : ps.f.enGroups = true

def setPre (pre : Str) (t : Token) : Token := { t with pre := pre }

section pre
variable {ps : PState} {s : Str} {p : Nat} {c : Char} {pre : Str}

theorem readMathGeneral_pre (pre pre' : Str) :
    readMathGeneral ps s p pre' = (readMathGeneral ps s p pre).map (setPre pre') := by
  unfold readMathGeneral
  rw [Option.map_map]
  rfl

theorem readMath_pre (pre pre' : Str) : readMath ps s p pre' = (readMath ps s p pre).map (setPre pre') := by
  unfold readMath
  split
  · split
    · split
      · rfl
      · exact readMathGeneral_pre pre pre'
    · exact readMathGeneral_pre pre pre'
  · exact readMathGeneral_pre pre pre'

theorem readMath_none_pre (pre pre' : Str) (h : readMath ps s p pre = none) : readMath ps s p pre' = none := by
  rw [readMath_pre pre pre', h]; rfl

/-- a `brace_open` token comes from the group-delimiter test only -/
theorem peekAtChar_brace : TokAll (fun t => t.kind = .braceOpen →
    BraceAt ps s p c ∧ ps.t.groupByOpen.any (fun d => d.1 == [c]) = true ∧ t = braceTok c p pre)
    (peekAtChar ps s p c pre) := by
  apply peekAtChar_cases
  case math =>
    intro t' _ ht t h hk
    cases h
    rcases readMath_kind ht with h | h <;> rw [hk] at h <;> cases h
  intro hm
  apply peekEscape_cases
  case rest =>
    intro he
    apply peekComment_cases
    case rest =>
      intro hcom
      apply peekGroups_cases
      case open_ =>
        intro hg ho t h _
        cases h
        exact ⟨⟨fun h => readMath_none_pre pre [] (hm h), he, hcom, hg⟩, ho, rfl⟩
      case rest =>
        intro _
        apply peekSpecialsOrChar_cases
        all_goals intros; intro t h; cases h <;> (intro hk; cases hk)
      all_goals intros; intro t h; cases h <;> (intro hk; cases hk)
    all_goals intros; intro t h; cases h <;> (intro hk; cases hk)
  case env => intro b _ _ _ _ _ t h; cases h; cases b <;> (intro hk; cases hk)
  all_goals intros; intro t h; cases h <;> (intro hk; cases hk)

theorem peekAtChar_of_brace (hb : BraceAt ps s p c) (hany : ps.t.groupByOpen.any (fun d => d.1 == [c]) = true)
    (pre : Str) : peekAtChar ps s p c pre = .tok (braceTok c p pre) := by
  rw [peekAtChar_eq_escape (fun h => readMath_none_pre [] pre (hb.math h)), peekEscape_eq_comment hb.esc,
    peekComment_eq_groups hb.com, peekGroups_open hb.grp hany]
  rfl

/-- a math token comes from `readMath` only -/
theorem peekAtChar_math : TokAll (fun t => t.kind = .mathInline ∨ t.kind = .mathDisplay →
    (ps.t.mathStart.contains c && ps.f.enMath) = true ∧ readMath ps s p pre = some t)
    (peekAtChar ps s p c pre) := by
  apply peekAtChar_leaves
  case math => intro t' hm ht t h _; cases h; exact ⟨hm, ht⟩
  case env => intro b _ _ _ _ _ t h; cases h; cases b <;> (intro hk; rcases hk with hk | hk <;> cases hk)
  all_goals intros; intro t h; cases h <;> (intro hk; rcases hk with hk | hk <;> cases hk)

/-- changing the group tables does not affect the path conditions -/
theorem BraceAt.setGroups (hb : BraceAt ps s p c) (gd : Pairs) (gc : List Str) :
    BraceAt { f := { ps.f with groupDelims := gd }, t := { ps.t with groupByOpen := gd, groupClose := gc } } s p c :=
  ⟨hb.math, hb.esc, hb.com, hb.grp⟩

/-- enabling environments again does not affect the path conditions, if macros are enabled (or nothing changes) -/
theorem BraceAt.ofNoEnvs (hesc : ps.f.enMacros = true ∨ ps.f.enEnvs = false)
    (hb : BraceAt { f := { ps.f with enEnvs := false }, t := ps.t } s p c) : BraceAt ps s p c := by
  refine ⟨hb.math, ?_, hb.com, hb.grp⟩
  intro hce
  have h2 : ps.f.enMacros = false := (hb.esc hce).2
  rcases hesc with h | h
  · rw [h] at h2; cases h2
  · exact ⟨envWordAt_noEnvs h, h2⟩

end pre

/-! ### what `mkPS` computes -/

theorem mkPS_groupDelims (f : PSFields) (gd : Pairs) :
    mkPS { f with groupDelims := gd } =
      { f := { (mkPS f).f with groupDelims := gd },
        t := { (mkPS f).t with groupByOpen := gd, groupClose := gd.map (·.2) } } := by
  rcases f with ⟨_ | _⟩ <;> rfl

theorem mkPS_noEnvs (f : PSFields) :
    mkPS ({ f with enEnvs := false } : PSFields).normalize =
      { f := { (mkPS f).f with enEnvs := false }, t := (mkPS f).t } := by
  rcases f with ⟨_ | _⟩ <;> rfl

theorem mkPS_groupByOpen (f : PSFields) : (mkPS f).t.groupByOpen = f.groupDelims := by
  rcases f with ⟨_ | _⟩ <;> rfl

theorem mkPS_enMacros (f : PSFields) : (mkPS f).f.enMacros = f.enMacros := by
  rcases f with ⟨_ | _⟩ <;> rfl

theorem mkPS_enEnvs (f : PSFields) : (mkPS f).f.enEnvs = f.enEnvs := by
  rcases f with ⟨_ | _⟩ <;> rfl

/-! ### `peekImpl` producing a `brace_open` / math token -/

theorem peekImpl_atChar {ps : PState} {s : Str} {pos : Nat} {t : Token} (h : peekImpl ps s pos = .tok t)
    (hk : t.kind ≠ .specials ∧ t.kind ≠ .char) :
    ∃ c, s[pos + (spaceRun s pos).length]? = some c ∧ isPySpace c = false ∧
      peekAtChar ps s (pos + (spaceRun s pos).length) c (spaceRun s pos) = .tok t := by
  revert h
  refine peekImpl_cases (P := fun r => r = .tok t → _) rfl rfl ?_ ?_ ?_
  · intro _ _ h
    rw [peekPar_eq] at h
    cases h
    cases hp : parSpecials ps <;> simp [hp] at hk
  · intro _ _ h; cases h
  · exact fun c hc hns _ h => ⟨c, hc, hns, h⟩

theorem peekImpl_brace {ps : PState} {s : Str} {pos : Nat} {t : Token} (h : peekImpl ps s pos = .tok t)
    (hk : t.kind = .braceOpen) :
    ∃ c, s[pos + (spaceRun s pos).length]? = some c ∧ isPySpace c = false ∧
      BraceAt ps s (pos + (spaceRun s pos).length) c ∧ ps.t.groupByOpen.any (fun d => d.1 == [c]) = true ∧
      t = braceTok c (pos + (spaceRun s pos).length) (spaceRun s pos) := by
  obtain ⟨c, hc, hns, hat⟩ := peekImpl_atChar h (by rw [hk]; exact ⟨by decide, by decide⟩)
  exact ⟨c, hc, hns, peekAtChar_brace t hat hk⟩

theorem peekImpl_math {ps : PState} {s : Str} {pos : Nat} {t : Token} (h : peekImpl ps s pos = .tok t)
    (hk : t.kind = .mathInline ∨ t.kind = .mathDisplay) :
    ∃ c, s[pos + (spaceRun s pos).length]? = some c ∧ isPySpace c = false ∧
      (ps.t.mathStart.contains c && ps.f.enMath) = true ∧
      readMath ps s (pos + (spaceRun s pos).length) (spaceRun s pos) = some t := by
  obtain ⟨c, hc, hns, hat⟩ := peekImpl_atChar h (by rcases hk with hk | hk <;> rw [hk] <;> exact ⟨by decide, by decide⟩)
  exact ⟨c, hc, hns, peekAtChar_math t hat hk⟩

/-- recovery placeholders are `char` tokens: a non-char token of the (strict or tolerant) reader is a real token -/
theorem peekTok_nonchar {tol : Bool} {ps : PState} {s : Str} {pos : Nat} {t : Token}
    (h : peekTok tol ps s pos = .tok t) (hk : t.kind ≠ .char) : peekImpl ps s pos = .tok t := by
  rcases peekTok_tok_iff.mp h with h | ⟨_, w, ep, r, h⟩
  · exact h
  · have hany := peekImpl_any ps s pos
    rw [h] at hany
    exact absurd hany hk

/-- every math token of the (strict or tolerant) reader was produced by `readMath` -/
theorem peekTok_readMath {tol : Bool} {ps : PState} {s : Str} {pos : Nat} {t : Token}
    (h : peekTok tol ps s pos = .tok t) (hk : t.kind = .mathInline ∨ t.kind = .mathDisplay) :
    ∃ p pre, readMath ps s p pre = some t := by
  have himpl := peekTok_nonchar h (by rcases hk with e | e <;> rw [e] <;> decide)
  obtain ⟨_, _, _, _, hr⟩ := peekImpl_math himpl hk
  exact ⟨_, _, hr⟩

theorem peekTok_of_impl {tol : Bool} {ps : PState} {s : Str} {pos : Nat} {t : Token}
    (h : peekImpl ps s pos = .tok t) : peekTok tol ps s pos = .tok t :=
  peekTok_tok_iff.mpr (Or.inl h)

theorem peekTok_eos {tol : Bool} {ps : PState} {s : Str} {pos : Nat} {fs : Str}
    (h : peekTok tol ps s pos = .eos fs) : peekImpl ps s pos = .eos fs :=
  peekTok_eos_iff.mp h

theorem peekTok_tol_no_err {ps : PState} {s : Str} {pos : Nat} {w : TokErr} {ep : Nat} {t : Token} {r : Nat} :
    peekTok true ps s pos ≠ .err w ep t r :=
  fun h => Bool.noConfusion (peekTok_err_iff.mp h).1

theorem peekImpl_not_eos {ps : PState} {s : Str} {pos : Nat} (h : NonSpaceAt s pos) (fs : Str) :
    peekImpl ps s pos ≠ .eos fs := by
  obtain ⟨c, hc, hns⟩ := h
  rw [peekImpl_at_nonspace hc hns]
  exact peekAtChar_ne_eos fs

/-- group-opening and math tokens start at a non-space character -/
theorem nonSpaceAt_of_tok {ps : PState} {s : Str} {pos : Nat} {t : Token} (h : peekImpl ps s pos = .tok t)
    (hk : t.kind = .braceOpen ∨ t.kind = .mathInline ∨ t.kind = .mathDisplay) : NonSpaceAt s t.pos := by
  rcases hk with hk | hk
  · obtain ⟨c, hc, hns, _, _, rfl⟩ := peekImpl_brace h hk
    exact ⟨c, hc, hns⟩
  · obtain ⟨c, hc, hns, _, hm⟩ := peekImpl_math h hk
    rw [readMath_pos5 hm]
    exact ⟨c, hc, hns⟩

/-- a `brace_open` token's argument is an opening group delimiter of the state it was read with -/
theorem braceOpen_opener {f : PSFields} {s : Str} {pos : Nat} {t : Token}
    (h : peekImpl (mkPS f) s pos = .tok t) (hk : t.kind = .braceOpen) :
    f.groupDelims.any (fun d => d.1 == t.arg) = true := by
  obtain ⟨c, _, _, _, hany, rfl⟩ := peekImpl_brace h hk
  rw [mkPS_groupByOpen] at hany
  exact hany

/-- re-reading at a `brace_open` token's position, with a state that differs at most in the group delimiters
    but still knows this opener, gives the same token (without leading whitespace) -/
theorem reread_braceOpen {f f' : PSFields} (hsb : SameBut f f') {s : Str} {pos : Nat} {t : Token}
    (h : peekImpl (mkPS f) s pos = .tok t) (hk : t.kind = .braceOpen)
    (hop : f'.groupDelims.any (fun d => d.1 == t.arg) = true) :
    peekImpl (mkPS f') s t.pos = .tok { t with pre := [] } := by
  unfold SameBut at hsb
  rw [hsb]
  obtain ⟨c, hc, hns, hb, _, rfl⟩ := peekImpl_brace h hk
  show peekImpl _ s (pos + (spaceRun s pos).length) = .tok (braceTok c (pos + (spaceRun s pos).length) [])
  rw [peekImpl_at_nonspace hc hns, mkPS_groupDelims]
  exact peekAtChar_of_brace (hb.setGroups _ _) hop []

/-- the expression parser reads with environments disabled and hands a `brace_open` token to the group parser,
    which re-reads with the original state; the same token comes back provided macros are enabled or
    environments were disabled anyway (otherwise an escape character that is also a group opener can start
    `\begin{…}`) -/
theorem reread_braceOpen_expr {f : PSFields} (hesc : f.enMacros = true ∨ f.enEnvs = false) {s : Str} {pos : Nat} {t : Token}
    (h : peekImpl (mkPS ({ f with enEnvs := false } : PSFields).normalize) s pos = .tok t) (hk : t.kind = .braceOpen) :
    peekImpl (mkPS f) s t.pos = .tok { t with pre := [] } := by
  rw [mkPS_noEnvs] at h
  obtain ⟨c, hc, hns, hb, hany, rfl⟩ := peekImpl_brace h hk
  show peekImpl _ s (pos + (spaceRun s pos).length) = .tok (braceTok c (pos + (spaceRun s pos).length) [])
  rw [peekImpl_at_nonspace hc hns]
  have hesc' : (mkPS f).f.enMacros = true ∨ (mkPS f).f.enEnvs = false := by
    rw [mkPS_enMacros, mkPS_enEnvs]; exact hesc
  exact peekAtChar_of_brace (BraceAt.ofNoEnvs hesc' hb) hany []

/-- re-reading at a math token's position with a state that differs at most in the group delimiters -/
theorem reread_math {f f' : PSFields} (hsb : SameBut f f') {s : Str} {pos : Nat} {t : Token}
    (h : peekImpl (mkPS f) s pos = .tok t) (hk : t.kind = .mathInline ∨ t.kind = .mathDisplay) :
    peekImpl (mkPS f') s t.pos = .tok { t with pre := [] } := by
  unfold SameBut at hsb
  rw [hsb]
  obtain ⟨c, hc, hns, hm, ht⟩ := peekImpl_math h hk
  have hr : readMath (mkPS f) s (pos + (spaceRun s pos).length) [] = some { t with pre := [] } := by
    rw [readMath_pre (spaceRun s pos) [], ht]; rfl
  have key : peekImpl (mkPS { f with groupDelims := f'.groupDelims }) s (pos + (spaceRun s pos).length) =
      .tok { t with pre := [] } := by
    rw [peekImpl_at_nonspace hc hns, mkPS_groupDelims]
    exact peekAtChar_eq_math hm hr
  rwa [← readMath_pos5 ht] at key

/-- a specials token carries one of the state's specials keys -/
theorem specials_arg_mem {ps : PState} {s : Str} {pos : Nat} {t : Token}
    (h : peekImpl ps s pos = .tok t) (hk : t.kind = .specials) : t.arg ∈ ps.f.specials := by
  have := peekImpl_any ps s pos
  rw [h] at this
  exact this.1 hk

theorem no_env_tok {ps : PState} (he : ps.f.enEnvs = false) {s : Str} {pos : Nat} {t : Token}
    (h : peekImpl ps s pos = .tok t) : t.kind ≠ .beginEnv ∧ t.kind ≠ .endEnv := by
  have := peekImpl_any ps s pos
  rw [h] at this
  have h2 : t.kind = .beginEnv ∨ t.kind = .endEnv → ps.f.enEnvs = true := this.2
  rw [he] at h2
  exact ⟨fun hk => Bool.noConfusion (h2 (Or.inl hk)), fun hk => Bool.noConfusion (h2 (Or.inr hk))⟩

end Pylx
