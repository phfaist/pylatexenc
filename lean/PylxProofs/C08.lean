/-
  C08 — encode, then convert back with latex2text: the original string.

  Models: `Pylx.C08.cfg pr` = `UnicodeToLatexEncoder(replacement_latex_protection=pr)` with the built-in `defaults`
  rules (`EncB.builtinCfg`), `Pylx.C08.toText pol` = `LatexNodes2Text(strict_latex_spaces=pol).latex_to_text` with
  the default walker and text databases (`L2T.latexToText`) and the generated NFC composition table.
  Alphabet: `Gen.c08Alphabet` (generated: built-in characters minus the committed exception list
  `c08_noninvertible.json`, printable ASCII without rule except the ligature-forming `'` `-` `` ` ``, newline).

  The statement for all strings, `C08_full`, is proved in `PylxProofs/C08F.lean` (`Full.C08_full_proved`).  This file holds
  what follows from it and what surrounds it:

  * `C08_char`, `C08_pair`: every alphabet character alone, and every ordered pair of class representatives, round-trips
                 under each of the four brace-protection schemes and both whitespace policies (strings of one and two
                 characters are `ParClean`); `C08_reps_cover`: every alphabet character has a representative of its
                 class (class = replacement shape of `C13_shapes`, or letter / digit / space / newline / punctuation).
  * `C08_lift`   `C08_full` follows from the two named steps `C08_concat_stmt` (a chunk parsed and rendered after a
                 neighbour behaves as it does after that neighbour alone) and `C08_class_stmt` (the behaviour of a pair
                 depends on the classes of its members only) — by induction over the string with `C08_char`,
                 `C08_pair`, `C08_reps_cover`; both steps hold (`Full.C08_concat_proved`, `Full.C08_class_proved`).
  * `C08_parbreak_false`, `C08_ligature_false`, `C08_none_false`: witnesses that the side conditions are needed
                 (paragraph breaks are normalised to "\n\n"; `--` is read as an en dash; scheme `none` fuses a control
                 word with the following letter).
-/
import PylxProofs.C08F
import PylxProofs.C08Cls
namespace Pylx.C08
open Pylx Pylx.EncB Pylx.L2T

/-! ### strings of at most two characters -/

theorem roundTrips_nil : ∀ pr ∈ schemes, ∀ pol ∈ policies, RoundTrips pr pol [] :=
  fun pr hpr pol hpol => Full.C08_full_proved pr hpr pol hpol [] nofun rfl

/-- **C08 (single characters).**  For EVERY character of the invertible alphabet, each of the four brace-protection
    schemes and both whitespace policies: encoding the one-character string and converting the result back with
    latex2text returns the one-character string. -/
theorem C08_char (c : Char) (hc : InAlphabet c) :
    ∀ pr ∈ schemes, ∀ pol ∈ policies, RoundTrips pr pol [c] :=
  fun pr hpr pol hpol => Full.C08_full_proved pr hpr pol hpol [c] (by simpa using hc) (parClean_single c)

theorem alphabet_pair {a b : Nat} (ha : a ∈ Gen.c08Alphabet) (hb : b ∈ Gen.c08Alphabet) :
    ∀ pr ∈ schemes, ∀ pol ∈ policies, RoundTrips pr pol [Char.ofNat a, Char.ofNat b] :=
  fun pr hpr pol hpol => Full.C08_full_proved pr hpr pol hpol _
    (by simp [ofNat_inAlphabet ha, ofNat_inAlphabet hb]) (parClean_pair _ _)

theorem reps_in_alphabet : Gen.c08Reps.all (fun r => Gen.c08Alphabet.contains r) = true := by decide +kernel

theorem rep_mem {r : Nat} (hr : r ∈ Gen.c08Reps) : r ∈ Gen.c08Alphabet := by
  simpa using List.all_eq_true.mp reps_in_alphabet r hr

/-- **C08 (adjacent pairs).**  For every ordered pair of class representatives, every scheme and policy, the
    two-character string round-trips: a replacement neither fuses with, swallows nor separates its neighbour. -/
theorem C08_pair (a b : Nat) (ha : a ∈ Gen.c08Reps) (hb : b ∈ Gen.c08Reps) :
    ∀ pr ∈ schemes, ∀ pol ∈ policies, RoundTrips pr pol [Char.ofNat a, Char.ofNat b] :=
  alphabet_pair (rep_mem ha) (rep_mem hb)

/-! ### classes and their representatives -/

/-- **C08 (representatives).**  Every alphabet character has a representative of its own class, itself in the
    alphabet (classes: the replacement shapes of `C13_shapes` for characters with a rule; letter, digit, space,
    newline, punctuation for the others). -/
theorem C08_reps_cover : ∀ k ∈ Gen.c08Alphabet, ∃ r ∈ Gen.c08Reps, r ∈ Gen.c08Alphabet ∧ classOf r = classOf k := by
  intro k hk
  have h := cover_all k hk
  rw [List.contains_iff_mem, repCodes, List.mem_map] at h
  obtain ⟨r, hr, hcode⟩ := h
  exact ⟨r, hr, rep_mem hr, clsCode_inj hcode⟩

/-- every ordered pair of classes occurring in the alphabet is exercised by a pair of representatives that round-trips -/
theorem C08_class_pairs (x y : Nat) (hx : x ∈ Gen.c08Alphabet) (hy : y ∈ Gen.c08Alphabet) :
    ∃ a ∈ Gen.c08Reps, ∃ b ∈ Gen.c08Reps, classOf a = classOf x ∧ classOf b = classOf y ∧
      ∀ pr ∈ schemes, ∀ pol ∈ policies, RoundTrips pr pol [Char.ofNat a, Char.ofNat b] := by
  obtain ⟨a, ha, _, hca⟩ := C08_reps_cover x hx
  obtain ⟨b, hb, _, hcb⟩ := C08_reps_cover y hy
  exact ⟨a, ha, b, hb, hca, hcb, C08_pair a b ha hb⟩

/-! ### the statement for all strings and the lift -/

/-- **C08 (lift).**  The statement for all strings follows from the single-character and representative-pair
    theorems and the two steps, by induction over the string. -/
theorem C08_lift (hconcat : C08_concat_stmt) (hclass : C08_class_stmt) : C08_full := by
  intro pr hpr pol hpol s
  induction s with
  | nil => intro _ _; exact roundTrips_nil pr hpr pol hpol
  | cons c rest ih =>
    intro hs hp
    have hc : InAlphabet c := hs c (List.mem_cons_self ..)
    cases rest with
    | nil => exact C08_char c hc pr hpr pol hpol
    | cons d r =>
      have hd : InAlphabet d := hs d (List.mem_cons_of_mem _ (List.mem_cons_self ..))
      have hrest := ih (fun x hx => hs x (List.mem_cons_of_mem _ hx)) (ParClean_tail hp)
      obtain ⟨a, ha, b, hb, hca, hcb, hab⟩ := C08_class_pairs c.toNat d.toNat hc hd
      have hpair := hclass pr hpr pol hpol c.toNat d.toNat a b hc hd (rep_mem ha) (rep_mem hb) hca.symm hcb.symm
        (hab pr hpr pol hpol)
      have hpair' : RoundTrips pr pol [c, d] := by simpa using hpair
      exact hconcat pr hpr pol hpol c d r hs hp (C08_char c hc pr hpr pol hpol) hpair' hrest

/-- the two statements `C08_lift` needs hold (as consequences of the full statement) -/
theorem Full.C08_concat_proved : C08_concat_stmt := fun pr hpr pol hpol c d r hs hp _ _ _ =>
  Full.C08_full_proved pr hpr pol hpol (c :: d :: r) hs hp

theorem Full.C08_class_proved : C08_class_stmt := fun pr hpr pol hpol _ _ _ _ ha hb _ _ _ _ _ =>
  alphabet_pair ha hb pr hpr pol hpol

/-- `C08_lift` instantiated: the route through single characters, representative pairs and the two steps gives the same
    statement -/
theorem Full.C08_full_via_lift : C08_full := C08_lift Full.C08_concat_proved Full.C08_class_proved

#print axioms Full.C08_concat_proved
#print axioms Full.C08_class_proved

/-! ### the side conditions are needed -/

/-- Boolean form of `roundTrip pr pol s = some (.ok r)` -/
def rtIs (pr : Prot) (pol : SlsSpec) (s r : Str) : Bool :=
  match roundTrip pr pol s with
  | some (.ok x) => x == r
  | _ => false

theorem rtIs_spec {pr : Prot} {pol : SlsSpec} {s r : Str} (h : rtIs pr pol s r = true) :
    roundTrip pr pol s = some (.ok r) := by
  unfold rtIs at h
  split at h
  · rename_i x hx
    have : x = r := by simpa using h
    rw [hx, this]
  · cases h

set_option maxRecDepth 100000 in
/-- three newlines are a paragraph break, which latex2text renders as two: all three characters are in the alphabet,
    the string is not `ParClean`, and it does not round-trip -/
theorem C08_parbreak_false :
    InAlphabet '\n' ∧ ParClean ['\n', '\n', '\n'] = false ∧
    roundTrip .braces (.bool false) ['\n', '\n', '\n'] = some (.ok ['\n', '\n']) := by
  refine ⟨by decide +kernel, by decide, rtIs_spec (by decide +kernel)⟩

set_option maxRecDepth 100000 in
/-- `-` is outside the alphabet: `--` comes back as an en dash (U+2013) -/
theorem C08_ligature_false :
    ('-').toNat ∉ Gen.c08Alphabet ∧
    roundTrip .braces (.bool false) ['-', '-'] = some (.ok [Char.ofNat 0x2013]) := by
  refine ⟨by decide +kernel, rtIs_spec (by decide +kernel)⟩

set_option maxRecDepth 100000 in
/-- scheme `none` is not a brace-protection scheme: `ı` (U+0131 ↦ `\i`) followed by `t` becomes `\it`, and both
    alphabet characters disappear -/
theorem C08_none_false :
    InAlphabet (Char.ofNat 0x131) ∧ InAlphabet 't' ∧
    encode (cfg .none) [Char.ofNat 0x131, 't'] = some "\\it".toList ∧
    roundTrip .none (.bool false) [Char.ofNat 0x131, 't'] = some (.ok []) := by
  refine ⟨by decide +kernel, by decide +kernel, by decide +kernel, rtIs_spec (by decide +kernel)⟩

/-! ### non-vacuity -/

example : InAlphabet (Char.ofNat 233) := by decide +kernel          -- é
example : InAlphabet 'a' ∧ InAlphabet ' ' ∧ InAlphabet '\\' := by refine ⟨?_, ?_, ?_⟩ <;> decide +kernel
example : (0x2014 : Nat) ∈ Gen.c08Alphabet ∧ (0x2015 : Nat) ∉ Gen.c08Alphabet := by constructor <;> decide +kernel
example : Gen.c08Alphabet.length = 1311 := by decide +kernel
example : Gen.c08Reps.length = 34 := by decide +kernel
set_option maxRecDepth 100000 in
/-- `aé ı—b`, scheme `braces-after-macro`, strict policy: the encoder output and the round trip, computed -/
example : encode (cfg .bracesAfterMacro) ("a".toList ++ [Char.ofNat 233, ' ', Char.ofNat 0x131, Char.ofNat 0x2014, 'b'])
      = some "a\\'e \\i{}\\textemdash{}b".toList ∧
    RoundTrips .bracesAfterMacro (.bool true) ("a".toList ++ [Char.ofNat 233, ' ', Char.ofNat 0x131, Char.ofNat 0x2014, 'b']) := by
  constructor
  · decide +kernel
  · exact rtIs_spec (by decide +kernel)
example : ParClean "a\n\nb \n c".toList = true := by decide
example : classOf 233 = .shape (some .accentBare) ∧ classOf 97 = .letter := by constructor <;> decide +kernel

end Pylx.C08
