/-
  C13, parse link for all strings — definitions.

  * `CItem` / `CArg`: the small document grammar the encoder's output lives in — single characters (ordinary
    characters, whitespace; the tokenizer's grouping into whitespace runs, paragraph breaks and specials such as `''`,
    `--`, `~` is *not* part of the grammar, the proof follows the tokenizer), brace groups, inline math `$…$`, macro calls
    (a control word with its post-space, or a control symbol) whose arguments — by the signature the context declares —
    are written as brace groups, bracket groups, single characters, single macro tokens, or (optional ones) left out in
    front of a brace.
  * `unI` / `unA`: the source text.
  * `cwfI` / `cwfA`: the decidable well-formedness condition; every condition that looks at the following text only
    inspects the next character and demands that it exists, so that concatenations of well-formed lists are well formed
    (`cwfI_app` in `PylxProofs/C13Full.lean`).
  * `noMathI` / `noMathA`: the document holds no inline math.
  * `conv`: a classifier from the item lists of `C13ParseDefs` to this grammar; it is *not* proved correct — the
    kernel checks for each table entry that the classified document unparses to the entry's text (`rawOk`).
-/
import PylxProofs.C13Parse
import PylxProofs.C02
namespace Pylx.C13.Full
open Pylx Pylx.EncB

mutual
inductive CItem where
  | ch (c : Char)
  | grp (body : List CItem)
  | mac (name post : Str) (args : List CArg)
  | math (body : List CItem)
inductive CArg where
  | absent
  | grp (body : List CItem)
  | br (body : List CItem)
  | tok (c : Char)
  | mtok (name : Str)
end

instance : Inhabited CItem := ⟨.ch ' '⟩
instance : Inhabited CArg := ⟨.absent⟩

mutual
def unI : List CItem → Str
  | [] => []
  | .ch c :: tl => c :: unI tl
  | .grp b :: tl => '{' :: (unI b ++ '}' :: unI tl)
  | .mac n post a :: tl => '\\' :: (n ++ (post ++ (unA a ++ unI tl)))
  | .math b :: tl => '$' :: (unI b ++ '$' :: unI tl)
def unA : List CArg → Str
  | [] => []
  | .absent :: tl => unA tl
  | .grp b :: tl => '{' :: (unI b ++ '}' :: unA tl)
  | .br b :: tl => '[' :: (unI b ++ ']' :: unA tl)
  | .tok c :: tl => c :: unA tl
  | .mtok n :: tl => '\\' :: (n ++ unA tl)
end

/-- the next character: the first one of `F`, or the hint `fc` when `F` is empty -/
def nextCh (F : Str) (fc : Option Char) : Option Char :=
  match F with
  | c :: _ => some c
  | [] => fc

/-- a character the tokenizer reads as (part of) a `char` / whitespace / specials token: not `\ { } $ %` and not a
    delimiter of the enclosing bracket group -/
def plainCh (br : C02.Xp) (c : Char) : Bool :=
  c != '\\' && c != '{' && c != '}' && c != '$' && c != '%' &&
  (match br with
   | none => true
   | some (o, c') => c != o && c != c')

/-- a macro name as written: a control word (not `begin` / `end`) with its post-space (whitespace with fewer than two
    newlines) followed by a character that is not whitespace and, directly behind the name, not a letter; or a control
    symbol (no post-space) -/
def nameOk (name post : Str) (next : Option Char) : Bool :=
  if Doc.isControlWord name then
    name != "begin".toList && name != "end".toList && Doc.isWs post && decide (countNl post < 2) &&
    (match next with
     | some c => !isPySpace c && (!post.isEmpty || !isAsciiAlpha c)
     | none => false)
  else post.isEmpty && Doc.isControlSymbol name

/-- a single character written as a mandatory argument: a text character, or a plain character that is not whitespace
    and starts no specials string of the context -/
def tokOk (ctx : Ctx) (c : Char) : Bool :=
  Doc.isTextChar c ||
  (plainCh none c && !isPySpace c && (Doc.ctxKeys ctx).all (fun k => !Doc.headIs (· == c) k))

mutual
/-- `m` = math mode; `fc` = the character that follows the list, when known (`}` in a brace group, `]` in a bracket
    group, `$` in inline math) -/
def cwfI (ctx : Ctx) (m : Bool) (br : C02.Xp) (fc : Option Char) : List CItem → Bool
  | [] => true
  | .ch c :: tl => plainCh br c && cwfI ctx m br fc tl
  | .grp b :: tl => cwfI ctx m none (some '}') b && cwfI ctx m br fc tl
  | .mac name post args :: tl =>
    nameOk name post (nextCh (unA args ++ unI tl) fc) &&
    (match ctx.macroSpec name with
     | some (.std sig) => cwfA ctx m (unI tl) fc sig args
     | _ => false) &&
    cwfI ctx m br fc tl
  | .math b :: tl => !m && !b.isEmpty && cwfI ctx true none (some '$') b && cwfI ctx m br fc tl
/-- one written value per declared slot; `rest` = the source of the items after the call -/
def cwfA (ctx : Ctx) (m : Bool) (rest : Str) (fc : Option Char) : List ArgSpec → List CArg → Bool
  | [], [] => true
  | sp :: sig, .absent :: tl =>
    (match sp.kind with | .o _ => true | .s => true | _ => false) &&
    nextCh (unA tl ++ rest) fc == some '{' && cwfA ctx m rest fc sig tl
  | sp :: sig, .grp b :: tl =>
    sp.kind == .m && cwfI ctx (Doc.deltaMath m sp.delta) none (some '}') b && cwfA ctx m rest fc sig tl
  | sp :: sig, .br b :: tl =>
    (match sp.kind with | .o _ => true | _ => false) && cwfI ctx (Doc.deltaMath m sp.delta) C02.xbr (some ']') b &&
    cwfA ctx m rest fc sig tl
  | sp :: sig, .tok c :: tl => sp.kind == .m && tokOk ctx c && cwfA ctx m rest fc sig tl
  | sp :: sig, .mtok n :: tl => sp.kind == .m && nameOk n [] (nextCh (unA tl ++ rest) fc) && cwfA ctx m rest fc sig tl
  | _, _ => false
end

mutual
/-- no `.math` item at any depth -/
def noMathI : List CItem → Bool
  | [] => true
  | .ch _ :: tl => noMathI tl
  | .grp b :: tl => noMathI b && noMathI tl
  | .mac _ _ args :: tl => noMathA args && noMathI tl
  | .math _ :: _ => false
def noMathA : List CArg → Bool
  | [] => true
  | .absent :: tl => noMathA tl
  | .grp b :: tl => noMathI b && noMathA tl
  | .br b :: tl => noMathI b && noMathA tl
  | .tok _ :: tl => noMathA tl
  | .mtok _ :: tl => noMathA tl
end

/-! ### classifier (untrusted: its output is checked) -/

def isChr (c : Char) : Item → Bool
  | .chr d => d == c
  | _ => false

def isWsItem : Item → Bool
  | .chr c => isPySpace c
  | _ => false

def itemChar : Item → Char
  | .chr c => c
  | _ => ' '

mutual
def conv (ctx : Ctx) : Nat → List Item → Option (List CItem)
  | 0, _ => none
  | _ + 1, [] => some []
  | f + 1, .chr c :: tl =>
    if c == '$' then
      match tl.dropWhile (fun x => !isChr '$' x) with
      | _ :: r' =>
        match conv ctx f (tl.takeWhile (fun x => !isChr '$' x)), conv ctx f r' with
        | some b', some tl' => some (.math b' :: tl')
        | _, _ => none
      | [] => none
    else (conv ctx f tl).map (fun r => CItem.ch c :: r)
  | f + 1, .grp b :: tl =>
    match conv ctx f b, conv ctx f tl with
    | some b', some tl' => some (.grp b' :: tl')
    | _, _ => none
  | f + 1, .esc c :: tl => convMac ctx f [c] [] tl
  | f + 1, .word n :: tl => convMac ctx f n ((tl.takeWhile isWsItem).map itemChar) (tl.dropWhile isWsItem)
def convMac (ctx : Ctx) : Nat → Str → Str → List Item → Option (List CItem)
  | 0, _, _, _ => none
  | f + 1, name, post, tl =>
    -- nothing follows in this list: no argument can be written, the signature is not needed here (`cwfI` looks it up)
    match (if tl.isEmpty then some (.std []) else ctx.macroSpec name) with
    | some (.std sig) =>
      match convArgs ctx f sig tl with
      | some (args, tl') => (conv ctx f tl').map (fun r => CItem.mac name post args :: r)
      | none => none
    | _ => none
def convArgs (ctx : Ctx) : Nat → List ArgSpec → List Item → Option (List CArg × List Item)
  | 0, _, _ => none
  | _ + 1, [], tl => some ([], tl)
  | f + 1, sp :: sig, tl =>
    match sp.kind with
    | .m =>
      match tl with
      | .grp b :: tl' =>
        match conv ctx f b, convArgs ctx f sig tl' with
        | some b', some (a, r) => some (.grp b' :: a, r)
        | _, _ => none
      | .chr c :: tl' => (convArgs ctx f sig tl').map (fun x => (CArg.tok c :: x.1, x.2))
      | .esc c :: tl' => (convArgs ctx f sig tl').map (fun x => (CArg.mtok [c] :: x.1, x.2))
      | .word n :: tl' => (convArgs ctx f sig tl').map (fun x => (CArg.mtok n :: x.1, x.2))
      | [] => none
    | .o _ =>
      match tl with
      | it :: tl' =>
        if isChr '[' it then
          match tl'.dropWhile (fun x => !isChr ']' x) with
          | _ :: r' =>
            match conv ctx f (tl'.takeWhile (fun x => !isChr ']' x)), convArgs ctx f sig r' with
            | some b', some (a, r) => some (.br b' :: a, r)
            | _, _ => none
          | [] => none
        else (convArgs ctx f sig tl).map (fun x => (CArg.absent :: x.1, x.2))
      | [] => (convArgs ctx f sig tl).map (fun x => (CArg.absent :: x.1, x.2))
    | .s => (convArgs ctx f sig tl).map (fun x => (CArg.absent :: x.1, x.2))
    | _ => none
end

/-- the document a chunk of encoder output is classified as -/
def chunkDoc (u : Str) : Option (List CItem) :=
  match itemsOf u with
  | some l => conv Gen.defaultCtx (4 * u.length + 8) l
  | none => none

/-- the chunk is the source of a well-formed document (the hint "nothing known about what follows") -/
def chunkOk (u : Str) : Bool :=
  match chunkDoc u with
  | some d => unI d == u && cwfI Gen.defaultCtx false none none d
  | none => false

/-- the four brace protection schemes -/
def braceSchemes : List Prot := [.braces, .bracesAll, .bracesAlmostAll, .bracesAfterMacro]

/-- check of a replacement text `r` that covers its four protected forms (`r`, `{r}`, `r{}`): `r` is the source of a
    document that is well formed whatever follows — or `r` ends in a control word (then `braces` and
    `braces-after-macro` protect it), starts with a backslash (then `braces-almost-all` protects it), and the document is
    well formed in front of `}` and in front of `{`; and the document has inline math only if `r` has an unescaped `$` -/
def rawOk (r : Str) : Bool :=
  match chunkDoc r with
  | some d =>
    unI d == r &&
    (cwfI Gen.defaultCtx false none none d ||
     (danglingMacro isAsciiAlpha r && r.head? == some '\\' &&
      cwfI Gen.defaultCtx false none (some '}') d && cwfI Gen.defaultCtx false none (some '{') d)) &&
    (rawOcc '$' false r || noMathI d)
  | none => false

def entryOk (e : Nat × List Nat) : Bool := rawOk (S e.2)

/-- the same with the code points of `skip` left out (finding F19 for `unicode-xml`) -/
def entryOkX (skip : List Nat) (e : Nat × List Nat) : Bool := skip.contains e.1 || rawOk (S e.2)

theorem chunkOk_spec {u : Str} (h : chunkOk u = true) :
    ∃ d, unI d = u ∧ cwfI Gen.defaultCtx false none none d = true := by
  unfold chunkOk at h
  split at h
  · rename_i d _
    simp only [Bool.and_eq_true, beq_iff_eq] at h
    exact ⟨d, h.1, h.2⟩
  · cases h

end Pylx.C13.Full
