/-
  C10 — every node records the mode (text / math, and the opening math delimiter) that the enclosing
  constructs imply.

  The relation (`C10.NodeM` / `ListM` / `OptArgsM` / `ArgListM` / `ArgM`, file C10Lemmas1) says, for the mode
  `cur` handed down by the parent: every node records `cur`; the body of a group is under `cur`; the body of a
  math node opened by `d` is under `{inMath := true, mathDelim := some d}`; argument slot `i` of a call with
  standard argument specifications is under `deltaInfo cur specs[i].delta`; legacy verbatim arguments are
  under `cur`; the body of an environment is under `enterMathInfo` when its specification says so, else `cur`.
  It is parametrised by what is asked of a math node's delimiters (`P dopen dclose display`):
  `ModesOk` asks nothing, `ModesMathOk f` asks `MathCfg f` (the opening delimiter is configured in `f` with
  that closing delimiter and that kind).

  Normalisation: the relation never says "text mode is `{false, none}`" of an inherited mode — a node under
  `Delta.none`, a group body, a verbatim argument records exactly the `cur` it was handed (`psInfo` of the very
  state it ran with), so the theorems hold for every start state, normalised or not (`StartOk` is not used).
  Only the two places where the model itself builds a fresh mode are spelled out: `leaveMath ↦ textInfo`,
  `enterMath ↦ enterMathInfo` (`psInfo_applyDelta`), and `$…$ ↦ mathInfo d` (`psInfo_mathFields`).

  Files: C10Lemmas1 (the relation), C10Lemmas2 (contract `PreX`/`GoodX`, nodes collector; second contract
  `Good2`: a general-nodes parser that returns normally met its stop condition), C10Lemmas3 (the parsers, `step`,
  induction on fuel: `run_goodX`), C10Lemmas4 (where math tokens come from; `MathCfg`; all math nodes of a
  consistent tree), C10Lemmas5 (token-level lemmas: letters, `$`, `$$`, closing delimiter), C10Lemmas6 (the
  parser on `d a d` for a run of letters `a`), this file (the property theorems).

  Results: `C10_modes` (both modes), `C10_math_strict` (strict mode, unconditional), `C10_math_partial`
  (both modes, under `DelimsDisjoint`), `C10_math_counterexample` (the unconditional statement fails in tolerant
  mode), `C10_dollar_closing_wins`, `C10_dollar_display_opens` (token level, every source and position),
  `C10_dollars_inline`, `C10_dollars_display` (all non-empty runs of ASCII letters, both modes).
-/
import PylxProofs.C10Lemmas6
namespace Pylx
open C10

/-- the tree is mode-consistent under the mode `cur` handed down by the parent -/
def ModesOk (ctx : Ctx) (cur : PSInfo) (ns : List Node) : Prop := ListM (fun _ _ _ => True) ctx cur ns

/-- … and every math node's delimiters and kind are those configured in `f` -/
def ModesMathOk (f : PSFields) (ctx : Ctx) (cur : PSInfo) (ns : List Node) : Prop := ListM (MathCfg f) ctx cur ns

/-- **C10 (modes), both modes, any start state.** -/
theorem C10_modes_any (tol : Bool) (ctx : Ctx) (s : Str) (f : PSFields) (n : Nat) (p e : Option Nat) (ns : List Node)
    (pos : Nat) (h : run { tol := tol, ctx := ctx, s := s } n (topTask f) = .ok (.list p e ns) pos) :
    ModesOk ctx (psInfo f) ns := by
  have hg := run_goodX (P := fun _ _ _ => True) (f0 := f) (env := { tol := tol, ctx := ctx, s := s })
    (fun _ _ _ _ _ _ _ _ _ => trivial) n (topTask f) ⟨SD_refl f, trivial⟩
  rw [h] at hg
  exact hg

/-- **C10 (modes).** Strict and tolerant mode. -/
theorem C10_modes (tol : Bool) (ctx : Ctx) (s : Str) (f : PSFields) (_hf : StartOk ctx f) (n : Nat) (p e : Option Nat)
    (ns : List Node) (pos : Nat)
    (h : run { tol := tol, ctx := ctx, s := s } n (topTask f) = .ok (.list p e ns) pos) :
    ModesOk ctx (psInfo f) ns := C10_modes_any tol ctx s f n p e ns pos h

/-- … as a statement about `parseTop` -/
theorem C10_modes_parseTop (tol : Bool) (ctx : Ctx) (s : Str) (f : PSFields) (hf : StartOk ctx f) (p e : Option Nat)
    (ns : List Node) (pos : Nat) (h : parseTop { tol := tol, ctx := ctx, s := s } f = .ok (.list p e ns) pos) :
    ModesOk ctx (psInfo f) ns := C10_modes tol ctx s f hf _ p e ns pos h

/-- **C10 (modes and delimiters)** under the hypothesis that no string is both an inline and a display delimiter. -/
theorem C10_modes_math (tol : Bool) (ctx : Ctx) (s : Str) (f : PSFields) (hd : DelimsDisjoint f) (n : Nat)
    (p e : Option Nat) (ns : List Node) (pos : Nat)
    (h : run { tol := tol, ctx := ctx, s := s } n (topTask f) = .ok (.list p e ns) pos) :
    ModesMathOk f ctx (psInfo f) ns := by
  have hg := run_goodX (P := MathCfg f) (f0 := f) (env := { tol := tol, ctx := ctx, s := s })
    (HP_mathCfg f hd tol s) n (topTask f) ⟨SD_refl f, trivial⟩
  rw [h] at hg
  exact hg

/-- **C10 (modes and delimiters), strict mode**: no hypothesis on the delimiter lists. -/
theorem C10_modes_math_strict (ctx : Ctx) (s : Str) (f : PSFields) (n : Nat)
    (p e : Option Nat) (ns : List Node) (pos : Nat)
    (h : run { tol := false, ctx := ctx, s := s } n (topTask f) = .ok (.list p e ns) pos) :
    ModesMathOk f ctx (psInfo f) ns := by
  have hg := run_goodX (P := MathCfg f) (f0 := f) (env := { tol := false, ctx := ctx, s := s })
    (HP_mathCfg_strict f s) n (topTask f) ⟨SD_refl f, trivial⟩
  rw [h] at hg
  exact hg

/-- **C10 (math), strict mode, full**: every math node anywhere in the result records display / inline and
    the delimiters as configured. -/
theorem C10_math_strict (ctx : Ctx) (s : Str) (f : PSFields) (n : Nat) (p e : Option Nat) (ns : List Node) (pos : Nat)
    (h : run { tol := false, ctx := ctx, s := s } n (topTask f) = .ok (.list p e ns) pos) :
    ∀ m ∈ subnodesList ns, ∀ mp me ps d o c b, m = .math mp me ps d o c b →
      lookupLast o (mathTables f).2.2 = some (c, d) := by
  intro m hm mp me ps d o c b heq
  have h1 := list_math ns _ (C10_modes_math_strict ctx s f n p e ns pos h) m hm
  subst heq
  exact h1

/-- the full statement of `C10_math`: false in tolerant mode for start states in which a string is both an
    inline and a display delimiter (see `C10_math_counterexample`) -/
def C10_math_full : Prop :=
  ∀ (tol : Bool) (ctx : Ctx) (s : Str) (f : PSFields), StartOk ctx f → ∀ (n : Nat) (p e : Option Nat) (ns : List Node)
    (pos : Nat), run { tol := tol, ctx := ctx, s := s } n (topTask f) = .ok (.list p e ns) pos →
    ∀ m ∈ subnodesList ns, ∀ mp me ps d o c b, m = .math mp me ps d o c b →
      lookupLast o (mathTables f).2.2 = some (c, d)

/-- **C10 (math), partial**: every math node anywhere in the result records display / inline and the
    delimiters as configured — provided no string is both an inline and a display delimiter. -/
theorem C10_math_partial (tol : Bool) (ctx : Ctx) (s : Str) (f : PSFields) (hd : DelimsDisjoint f) (n : Nat)
    (p e : Option Nat) (ns : List Node) (pos : Nat)
    (h : run { tol := tol, ctx := ctx, s := s } n (topTask f) = .ok (.list p e ns) pos) :
    ∀ m ∈ subnodesList ns, ∀ mp me ps d o c b, m = .math mp me ps d o c b →
      lookupLast o (mathTables f).2.2 = some (c, d) := by
  intro m hm mp me ps d o c b heq
  have h1 := list_math ns _ (C10_modes_math tol ctx s f hd n p e ns pos h) m hm
  subst heq
  exact h1

/-- … in the vocabulary of the configuration: an inline formula's delimiters are a pair of `inlineDelims`, a
    display formula's a pair of `displayDelims` -/
theorem C10_math_pairs (tol : Bool) (ctx : Ctx) (s : Str) (f : PSFields) (hd : DelimsDisjoint f) (n : Nat)
    (p e : Option Nat) (ns : List Node) (pos : Nat)
    (h : run { tol := tol, ctx := ctx, s := s } n (topTask f) = .ok (.list p e ns) pos) :
    ∀ m ∈ subnodesList ns, ∀ mp me ps d o c b, m = .math mp me ps d o c b →
      (o, c) ∈ (if d then f.displayDelims else f.inlineDelims) := by
  intro m hm mp me ps d o c b heq
  have h1 := C10_math_partial tol ctx s f hd n p e ns pos h m hm mp me ps d o c b heq
  have h2 := lookupLast_mem _ _ _ h1
  simp only [mathTables, List.mem_append, List.mem_map] at h2
  rcases h2 with ⟨pr, hpr, heq2⟩ | ⟨pr, hpr, heq2⟩
  · cases heq2; exact hpr
  · cases heq2; exact hpr

theorem delimsDisjoint_default : DelimsDisjoint {} := by
  intro x h1 h2
  have e1 : flattenPairs ({} : PSFields).inlineDelims = [['$'],['$'],['\\','('],['\\',')']] := rfl
  have e2 : flattenPairs ({} : PSFields).displayDelims = [['$','$'],['$','$'],['\\','['],['\\',']']] := rfl
  rw [e1] at h1; rw [e2] at h2
  simp only [List.mem_cons, List.not_mem_nil, or_false] at h1 h2
  rcases h1 with h | h | h | h <;> subst h <;> revert h2 <;> decide


/-! ### the full statement of `C10_math` fails in tolerant mode -/

/-- a start state in which `$` opens both an inline (`$…$`) and a display (`$…!`) formula -/
def fbad : PSFields := { inlineDelims := [(['$'], ['$'])], displayDelims := [(['$'], ['!'])] }

theorem fbad_start : StartOk {} fbad := ⟨rfl, rfl, by decide, by decide, by decide, rfl⟩

/-- tolerant parsing of `$a!`: the tokenizer calls `$` inline (first match of the sorted table), the closing
    delimiter is looked up in the dictionary of opening delimiters, where the display entry `$ → !` wins; the
    formula is never closed (the stop condition asks for an *inline* token `!`), and recovery returns an
    inline math node with closing delimiter `!` -/
theorem fbad_run : run { tol := true, ctx := {}, s := ['$', 'a', '!'] } 64 (topTask fbad) =
    .ok (.list (some 0) (some 3)
      [.math 0 3 {} false ['$'] ['!'] (some [.chars 1 2 { inMath := true, mathDelim := some ['$'] } ['a']])]) 3 := by
  rfl

theorem C10_math_counterexample : ¬ C10_math_full := by
  intro h
  have h1 := h true {} ['$', 'a', '!'] fbad fbad_start 64 _ _ _ _ fbad_run
    (.math 0 3 {} false ['$'] ['!'] (some [.chars 1 2 { inMath := true, mathDelim := some ['$'] } ['a']]))
    (by simp [subnodesList, Node.subnodes]) _ _ _ _ _ _ _ rfl
  revert h1
  decide

/-! ### non-vacuity -/

/-- `\textbf{a$x$}\ensuremath{y}`, default context: the result exists, so `C10_modes` says something -/
def exampleStr : Str := "\\textbf{a$x$}\\ensuremath{y}".toList

example : ∃ p e ns pos, run { tol := false, ctx := Gen.defaultCtx, s := exampleStr } 300 (topTask f₀) =
    .ok (.list p e ns) pos ∧ ns.length = 2 :=
  ⟨_, _, _, _, rfl, rfl⟩

/-- the theorems apply to it (hypotheses instantiated) -/
example : ∃ ns, (ModesOk Gen.defaultCtx (psInfo f₀) ns ∧ ModesMathOk f₀ Gen.defaultCtx (psInfo f₀) ns) ∧ ns.length = 2 :=
  ⟨_, ⟨C10_modes false Gen.defaultCtx exampleStr f₀ ⟨rfl, rfl, by decide, by decide, by decide, rfl⟩ 300 _ _ _ _ rfl,
    C10_modes_math_strict Gen.defaultCtx exampleStr f₀ 300 _ _ _ _ rfl⟩, rfl⟩

/-- the relation is not trivially true: a text-mode parent does not accept a child recorded in math mode,
    nor a `\\ensuremath` argument recorded in text mode -/
example : ¬ ModesOk Gen.defaultCtx {} [.chars 0 1 { inMath := true } ['a']] := by
  simp [ModesOk, ListM, NodeM]

example : ¬ ModesOk Gen.defaultCtx {}
    [.mac 0 14 {} ['e', 'n', 's', 'u', 'r', 'e', 'm', 'a', 't', 'h'] [] (some [.node (.chars 12 13 {} ['y'])])] := by
  have h : Gen.defaultCtx.macroSpec ['e', 'n', 's', 'u', 'r', 'e', 'm', 'a', 't', 'h'] =
      some (.std [⟨.m, .enterMath⟩]) := by decide
  simp [ModesOk, ListM, NodeM, h, OptArgsM, ArgListM, ArgM, deltaInfo, enterMathInfo]

/-- the hypothesis of `C10_math_partial` holds of the default state -/
example : DelimsDisjoint f₀ := delimsDisjoint_default

example : StartOk Gen.defaultCtx f₀ := ⟨rfl, rfl, by decide, by decide, by decide, rfl⟩

/-! ### dollar runs: the two token-level facts -/

theorem normalize_enMath (f : PSFields) : f.normalize.enMath = f.enMath := by
  unfold PSFields.normalize; split <;> rfl

theorem mkPS_mathStart (f : PSFields) : (mkPS f).t.mathStart = (mathTables f).1 := by
  simp only [mkPS, PState.fresh, computeTables]
  rw [mathTables_congr f.normalize f (normalize_inline f) (normalize_display f)]

/-- the delimiter lists are the default ones -/
def DefaultDelims (f : PSFields) : Prop :=
  f.inlineDelims = ({} : PSFields).inlineDelims ∧ f.displayDelims = ({} : PSFields).displayDelims

theorem mathTables_default {f : PSFields} (h : DefaultDelims f) : mathTables f = mathTables {} :=
  mathTables_congr f {} h.1 h.2

/-- **C10 (dollar runs, i).** In math mode opened by `$`, where the source continues with `$$`, the token is the
    *inline* delimiter `$` of length 1: the expected closing delimiter wins over the longer `$$`.
    For every source and position, every state with the default delimiter lists. -/
theorem C10_dollar_closing_wins (f : PSFields) (hdl : DefaultDelims f) (hm : f.inMath = true)
    (hd : f.mathDelim = some ['$']) (hen : f.enMath = true) (s : Str) (pos : Nat)
    (h : startsWithAt s ['$', '$'] pos = true) :
    peekImpl (mkPS f) s pos =
      .tok { kind := .mathInline, arg := ['$'], pos := pos, posEnd := pos + 1, pre := [], post := [] } := by
  obtain ⟨rest, hr⟩ := drop_of_startsWith _ h
  have hnorm : f.normalize = f := by simp [PSFields.normalize, hm]
  have hec : (mkPS f).t.expectClose = some (['$'], false) := by
    rw [mkPS_expectClose, hnorm, mathTables_default hdl]
    simp only [expectCloseOf, hm, hd]
    decide
  have hms : (mkPS f).t.mathStart.contains '$' = true := by
    rw [mkPS_mathStart, mathTables_default hdl]; decide
  exact peek_close (mkPS f) s pos ['$'] false '$' [] ('$' :: rest) rfl hr (by decide) hms
    (by show f.normalize.enMath = true; rw [normalize_enMath, hen])
    (by show f.normalize.inMath = true; rw [normalize_inMath, hm]) hec

/-- **C10 (dollar runs, ii).** In text mode `$$` is the *display* delimiter `$$` of length 2. -/
theorem C10_dollar_display_opens (f : PSFields) (hdl : DefaultDelims f) (hm : f.inMath = false)
    (hen : f.enMath = true) (s : Str) (pos : Nat) (h : startsWithAt s ['$', '$'] pos = true) :
    peekImpl (mkPS f) s pos =
      .tok { kind := .mathDisplay, arg := ['$', '$'], pos := pos, posEnd := pos + 2, pre := [], post := [] } := by
  obtain ⟨rest, hr⟩ := drop_of_startsWith _ h
  have hms : (mkPS f).t.mathStart.contains '$' = true := by
    rw [mkPS_mathStart, mathTables_default hdl]; decide
  have hall : (mkPS f).t.mathAll = defaultMathAll := by
    rw [mkPS_mathAll, mathTables_default hdl]; decide
  exact peek_text_display (mkPS f) s pos rest hr hms
    (by show f.normalize.enMath = true; rw [normalize_enMath, hen])
    (by show f.normalize.inMath = false; rw [normalize_inMath, hm]) hall

/-- … and a single `$` (followed by something else) the inline delimiter -/
theorem C10_dollar_inline_opens (f : PSFields) (hdl : DefaultDelims f) (hm : f.inMath = false)
    (hen : f.enMath = true) (s : Str) (pos : Nat) (c : Char) (rest : Str) (h : s.drop pos = '$' :: c :: rest)
    (hc : c ≠ '$') :
    peekImpl (mkPS f) s pos =
      .tok { kind := .mathInline, arg := ['$'], pos := pos, posEnd := pos + 1, pre := [], post := [] } := by
  have hms : (mkPS f).t.mathStart.contains '$' = true := by
    rw [mkPS_mathStart, mathTables_default hdl]; decide
  have hall : (mkPS f).t.mathAll = defaultMathAll := by
    rw [mkPS_mathAll, mathTables_default hdl]; decide
  exact peek_text_inline (mkPS f) s pos c rest h hc hms
    (by show f.normalize.enMath = true; rw [normalize_enMath, hen])
    (by show f.normalize.inMath = false; rw [normalize_inMath, hm]) hall

example : peekImpl (mkPS (mathFields f₀ ['$'])) "$a$$b$".toList 2 =
    .tok { kind := .mathInline, arg := ['$'], pos := 2, posEnd := 3 } :=
  C10_dollar_closing_wins (mathFields f₀ ['$']) ⟨rfl, rfl⟩ rfl rfl rfl "$a$$b$".toList 2 (by decide)

example : peekImpl (mkPS f₀) "x$$a$$".toList 1 = .tok { kind := .mathDisplay, arg := ['$', '$'], pos := 1, posEnd := 3 } :=
  C10_dollar_display_opens f₀ ⟨rfl, rfl⟩ rfl rfl "x$$a$$".toList 1 (by decide)

/-! ### dollar runs: the full theorems -/

theorem f₀_default : DefaultDelims f₀ := ⟨rfl, rfl⟩

theorem plain_head {a : Str} (ha : PlainX a) : ∃ x xs, a = x :: xs ∧ x ≠ '$' := by
  obtain ⟨hne, hal⟩ := ha
  cases a with
  | nil => exact absurd rfl hne
  | cons x xs =>
    refine ⟨x, xs, rfl, ?_⟩
    intro e
    have := hal x (by simp)
    rw [e] at this
    revert this; decide

/-- the general-nodes parser at top level, from what its collector returns -/
theorem top_pc (tol : Bool) (s : Str) (n : Nat) (ns : List Node) (q : Nat)
    (h : run (denv tol s) n (.loop f₀ .none .same { pos := 0 }) =
      .loopEnd { nodes := ns, pos := q, stopTok := none, err := none }) :
    run (denv tol s) (n + 1) (topTask f₀) = .ok (listOf ns (some 0) (some 0)) q := by
  rw [run_step, topTask, step_pc, rawParse_general, rawGeneral_loopEnd h]
  rfl

/-- **C10 (dollar runs): `$a$$b$` is two inline formulas**, for all non-empty runs of letters `a`, `b`. -/
theorem C10_dollars_inline (tol : Bool) (a b : Str) (ha : PlainX a) (hb : PlainX b) :
    parseTop { tol := tol, ctx := Gen.defaultCtx, s := ['$'] ++ a ++ ['$', '$'] ++ b ++ ['$'] } f₀ =
      .ok (.list (some 0) (some (a.length + b.length + 4))
        [.math 0 (a.length + 2) {} false ['$'] ['$'] (some [.chars 1 (1 + a.length) (mathInfo ['$']) a]),
         .math (a.length + 2) (a.length + b.length + 4) {} false ['$'] ['$']
           (some [.chars (a.length + 3) (a.length + 3 + b.length) (mathInfo ['$']) b])])
        (a.length + b.length + 4) := by
  generalize hs : ['$'] ++ a ++ ['$', '$'] ++ b ++ ['$'] = s
  have hlen : s.length = a.length + b.length + 4 := by rw [← hs]; simp; omega
  have hd0 : s.drop 0 = ['$'] ++ (a ++ (['$'] ++ ('$' :: (b ++ ['$'])))) := by rw [← hs]; simp
  have hd1 : s.drop (0 + (['$'] ++ (a ++ ['$'])).length) = ['$'] ++ (b ++ (['$'] ++ [])) :=
    drop_add (p := 0) (['$'] ++ (a ++ ['$'])) _ (by rw [← hs]; simp)
  have e1 : 0 + (['$'] ++ (a ++ ['$'])).length = a.length + 2 := by simp
  rw [e1] at hd1
  have hd2 : s.drop (a.length + b.length + 4) = [] := by rw [← hlen]; simp
  obtain ⟨x, xs, hax, hx⟩ := plain_head ha
  obtain ⟨y, ys, hby, hy⟩ := plain_head hb
  have ho0 : peekImpl (mkPS f₀) s 0 = .tok (mathTok 0 [] ['$'] false) :=
    C10_dollar_inline_opens f₀ f₀_default rfl rfl s 0 x _ (by rw [hd0, hax]; rfl) hx
  have ho1 : peekImpl (mkPS f₀) s (a.length + 2) = .tok (mathTok (a.length + 2) [] ['$'] false) :=
    C10_dollar_inline_opens f₀ f₀_default rfl rfl s _ y _ (by rw [hd1, hby]; rfl) hy
  have hD : Dollar ['$'] false := Or.inl ⟨rfl, rfl⟩
  show run (denv tol s) (fuelFor s) (topTask f₀) = _
  obtain ⟨n, hn⟩ : ∃ n, fuelFor s = (n + 1 + 1 + 1) + 1 := ⟨fuelFor s - 4, by unfold fuelFor; omega⟩
  have hn2 : a.length + 3 ≤ n + 1 + 1 ∧ b.length + 3 ≤ n + 1 := by
    unfold fuelFor at hn; omega
  have hloop : run (denv tol s) (n + 1 + 1 + 1) (.loop f₀ .none .same { pos := 0 }) =
      .loopEnd { nodes := [formula 0 ['$'] false a, formula (a.length + 2) ['$'] false b],
                 pos := a.length + b.length + 4, stopTok := none, err := none } := by
    rw [top_formula tol s hD a ha 0 _ [] hd0 ho0 (n + 1 + 1) hn2.1]
    have e2 : 0 + a.length + 2 * ['$'].length = a.length + 2 := by simp
    rw [e2]
    rw [top_formula tol s hD b hb (a.length + 2) _ _ hd1 ho1 (n + 1) hn2.2]
    have e3 : a.length + 2 + b.length + 2 * ['$'].length = a.length + b.length + 4 := by simp; omega
    rw [e3]
    rw [top_eos tol s _ _ hd2 n]
    rfl
  rw [hn, top_pc tol s _ _ _ hloop]
  simp [listOf, formula, Node.pos, Node.posEnd]
  omega

/-- **C10 (dollar runs): `$$a$$` is one display formula**, for every non-empty run of letters `a`. -/
theorem C10_dollars_display (tol : Bool) (a : Str) (ha : PlainX a) :
    parseTop { tol := tol, ctx := Gen.defaultCtx, s := ['$', '$'] ++ a ++ ['$', '$'] } f₀ =
      .ok (.list (some 0) (some (a.length + 4))
        [.math 0 (a.length + 4) {} true ['$', '$'] ['$', '$']
          (some [.chars 2 (2 + a.length) (mathInfo ['$', '$']) a])])
        (a.length + 4) := by
  generalize hs : ['$', '$'] ++ a ++ ['$', '$'] = s
  have hlen : s.length = a.length + 4 := by rw [← hs]; simp
  have hd0 : s.drop 0 = ['$', '$'] ++ (a ++ (['$', '$'] ++ [])) := by rw [← hs]; simp
  have hd2 : s.drop (a.length + 4) = [] := by rw [← hlen]; simp
  have ho0 : peekImpl (mkPS f₀) s 0 = .tok (mathTok 0 [] ['$', '$'] true) :=
    C10_dollar_display_opens f₀ f₀_default rfl rfl s 0 (startsWith_of_drop _ _ hd0)
  have hD : Dollar ['$', '$'] true := Or.inr ⟨rfl, rfl⟩
  show run (denv tol s) (fuelFor s) (topTask f₀) = _
  obtain ⟨n, hn⟩ : ∃ n, fuelFor s = (n + 1 + 1) + 1 := ⟨fuelFor s - 3, by unfold fuelFor; omega⟩
  have hn2 : a.length + 3 ≤ n + 1 := by unfold fuelFor at hn; omega
  have hloop : run (denv tol s) (n + 1 + 1) (.loop f₀ .none .same { pos := 0 }) =
      .loopEnd { nodes := [formula 0 ['$', '$'] true a], pos := a.length + 4, stopTok := none, err := none } := by
    rw [top_formula tol s hD a ha 0 _ [] hd0 ho0 (n + 1) hn2]
    have e2 : 0 + a.length + 2 * ['$', '$'].length = a.length + 4 := by simp
    rw [e2]
    rw [top_eos tol s _ _ hd2 n]
    rfl
  rw [hn, top_pc tol s _ _ _ hloop]
  simp [listOf, formula, Node.pos, Node.posEnd]

example : PlainX "ab".toList := ⟨by decide, by decide⟩


end Pylx
