/-
  C06 — "With tolerant_parsing=True (the default), parsing any string terminates and raises no exception.
  If the same input parses in strict mode the two trees are identical; if it does not, the nodes parsed
  before the first syntax error are still returned."

  Model-level core for `Pylx.parseTop` / `Pylx.run`:
  * `run_mono`, `C06_agree`            (PylxProofs/C06Sim.lean)
  * `run_adv`  — reader monotonicity   (PylxProofs/C06Adv.lean)
  * `run_nf`   — progress / fuel bound (PylxProofs/C06Fuel.lean)
  * `C06_prefix` — recovery nodes are continued (PylxProofs/C06Prefix.lean)
  * here: `C06_no_fuel`, `C06_no_perr`, `C06_total_of_no_crash`, `C06_agree_top`, `C06_prefix_top`.
-/
import PylxProofs.C06Sim
import PylxProofs.C06Fuel
import PylxProofs.C06Prefix
namespace Pylx

/-- fuel for which termination is proved: `4 * len + 3` (the model's `fuelFor` is `8 * len + 40`) -/
def fuelEnough (s : Str) : Nat := 4 * s.length + 3

theorem fuelEnough_le_fuelFor (s : Str) : fuelEnough s ≤ fuelFor s := by
  unfold fuelEnough fuelFor; omega

theorem topTask_ok {f : PSFields} (hd : DelimsOk f) : (topTask f).Ok := ⟨trivial, hd⟩

/-- **C06 (termination, both modes).** With `fuelEnough s` units of fuel — hence with `fuelFor s` — the
    top-level parse never runs out of fuel, for every context (closed or not), every input and every parsing
    state whose math delimiters are non-empty strings. -/
theorem C06_no_fuel_run (env : Env) (f : PSFields) (hd : DelimsOk f) (n : Nat) (hn : fuelEnough env.s ≤ n) :
    run env n (topTask f) ≠ .fuel :=
  run_nf env n (topTask f) (topTask_ok hd) (by
    show 4 * (env.s.length - 0) + 3 ≤ n
    unfold fuelEnough at hn; omega)

theorem C06_no_fuel (env : Env) (f : PSFields) (hd : DelimsOk f) : parseTop env f ≠ .fuel :=
  C06_no_fuel_run env f hd (fuelFor env.s) (fuelEnough_le_fuelFor env.s)

/-- the result of `parseTop` is the stable one: every fuel ≥ `fuelEnough s` gives the same result -/
theorem parseTop_stable (env : Env) (f : PSFields) (hd : DelimsOk f) (n : Nat) (hn : fuelEnough env.s ≤ n) :
    run env n (topTask f) = run env (fuelEnough env.s) (topTask f) :=
  run_mono env (fuelEnough env.s) n (topTask f) (C06_no_fuel_run env f hd _ (Nat.le_refl _)) hn

theorem parseTop_eq (env : Env) (f : PSFields) (hd : DelimsOk f) :
    parseTop env f = run env (fuelEnough env.s) (topTask f) :=
  parseTop_stable env f hd (fuelFor env.s) (fuelEnough_le_fuelFor env.s)

/-- **C06 (no exception).** A tolerant `parse_content` call never returns a parse error, whatever the fuel. -/
theorem C06_no_perr (ctx : Ctx) (s : Str) (n : Nat) (p : Parser) (f : PSFields) (pos : Nat) (e : PErr) :
    run { tol := true, ctx := ctx, s := s } n (.pc p f pos) ≠ .perr e :=
  fun h => Bool.noConfusion (run_pc_perr h)

theorem rawGeneral_ne_loopEnd (rec : Task → Ret) (stop : StopTok) (require : Bool) (child : ChildPS) (f : PSFields)
    (pos : Nat) (le : LoopEnd) : rawGeneral rec stop require child f pos ≠ .ret (.loopEnd le) := by
  refine rawGeneral_elim (motive := (· ≠ .ret (.loopEnd le))) ?_ ?_ ?_ ?_ ?_ ?_
  all_goals intros; exact fun h => nomatch h

theorem top_ne_loopEnd (env : Env) (n : Nat) (f : PSFields) (le : LoopEnd) : run env n (topTask f) ≠ .loopEnd le := by
  cases n with
  | zero => exact fun h => nomatch h
  | succ n =>
    refine parseContent_elim (motive := (· ≠ .loopEnd le)) ?_ ?_ ?_
    · intro _ _ h; cases h
    · intro _ _; split <;> exact fun h => nomatch h
    · intro r hr _ h
      exact rawGeneral_ne_loopEnd _ _ _ _ _ _ le (hr.trans (congrArg Raw.ret h))

/-- **C06 (totality) with the proved bound.** The tolerant parser is total: for every context, every input and every
    start state whose math delimiters are non-empty, every fuel from `fuelEnough s` on gives the same result (no error,
    no fuel exhaustion), provided the model does not hit one of its explicit `crash` outcomes. -/
theorem C06_total_fuelEnough_of_no_crash (ctx : Ctx) (s : Str) (f : PSFields) (hd : DelimsOk f)
    (hnc : ∀ n k, run { tol := true, ctx := ctx, s := s } n (topTask f) ≠ .crash k) :
    ∃ r pos, ∀ n, fuelEnough s ≤ n → run { tol := true, ctx := ctx, s := s } n (topTask f) = .ok r pos := by
  cases hr : run { tol := true, ctx := ctx, s := s } (fuelEnough s) (topTask f) with
  | ok r pos =>
    refine ⟨r, pos, fun n hn => ?_⟩
    rw [← hr]
    exact parseTop_stable { tol := true, ctx := ctx, s := s } f hd n hn
  | perr e => exact absurd hr (C06_no_perr ctx s _ _ f 0 e)
  | loopEnd le => exact absurd hr (top_ne_loopEnd _ _ f le)
  | crash k => exact absurd hr (hnc _ k)
  | fuel => exact absurd hr (C06_no_fuel_run { tol := true, ctx := ctx, s := s } f hd _ (Nat.le_refl _))

/-- the same with the model's own fuel.  The crash-freedom hypothesis is what `C05_no_crash_partial` proves; `C06Total` combines the two. -/
theorem C06_total_of_no_crash (ctx : Ctx) (_hc : ctx.Closed) (s : Str) (f : PSFields) (hf : StartOk ctx f)
    (hnc : ∀ n k, run { tol := true, ctx := ctx, s := s } n (topTask f) ≠ .crash k) :
    ∃ r pos, parseTop { tol := true, ctx := ctx, s := s } f = .ok r pos := by
  obtain ⟨r, pos, h⟩ := C06_total_fuelEnough_of_no_crash ctx s f hf.mathDelims hnc
  exact ⟨r, pos, h _ (fuelEnough_le_fuelFor s)⟩

/-- **C06 (agreement).** If the strict parse succeeds, the tolerant parse returns the identical tree and final position. -/
theorem C06_agree_top (ctx : Ctx) (s : Str) (f : PSFields) (r : Res) (pos : Nat)
    (h : parseTop { tol := false, ctx := ctx, s := s } f = .ok r pos) :
    parseTop { tol := true, ctx := ctx, s := s } f = .ok r pos :=
  C06_agree ctx s f (fuelFor s) r pos h

/-- **Monotonicity at the top.** Whatever the mode, a successful `parse_content` leaves the reader at or after its start. -/
theorem C06_reader_monotone (env : Env) (n : Nat) (p : Parser) (f : PSFields) (pos : Nat) (hp : p.Ok) (hd : DelimsOk f)
    (r : Res) (q : Nat) (h : run env n (.pc p f pos) = .ok r q) : pos ≤ q := by
  have := run_adv env n (.pc p f pos) ⟨hp, hd⟩
  rw [h] at this
  exact PQ_le this

/-- **C06 (prefix) for `parseTop`.** -/
theorem C06_prefix_top (ctx : Ctx) (s : Str) (f : PSFields) (e : PErr)
    (h : parseTop { tol := false, ctx := ctx, s := s } f = .perr e) :
    ∃ p q ns, e.recNodes = .list p q ns ∧
      ∀ r pos, parseTop { tol := true, ctx := ctx, s := s } f = .ok r pos →
        ∃ p' q' ns', r = .list p' q' ns' ∧ Continues ns ns' :=
  C06_prefix ctx s f (fuelFor s) e h

/-! ### non-vacuity -/

private def exCtx : Ctx :=
  { macros := [("a".toList, .std [⟨.m, .none⟩]), ("verb".toList, .legacyVerb)],
    envs := [("e".toList, (.std [⟨.o false, .none⟩], false))],
    specials := [("~".toList, .std [])] }
private def exF : PSFields := { specials := ["~".toList] }
private def Ret.isOk' : Ret → Bool
  | .ok _ _ => true
  | _ => false

/-- the hypotheses of `C06_total_of_no_crash` are satisfiable: a closed context and its start state -/
example : exCtx.Closed ∧ StartOk exCtx exF := by
  refine ⟨⟨?_, ?_, ?_, ?_, ?_⟩, ⟨rfl, rfl, ?_, ?_, ?_, rfl⟩⟩
  · intro p hp
    simp only [exCtx, List.mem_cons, List.not_mem_nil, or_false] at hp
    rcases hp with rfl | rfl <;> trivial
  · intro p hp
    simp only [exCtx, List.mem_cons, List.not_mem_nil, or_false] at hp
    subst hp; trivial
  · intro p hp
    simp only [exCtx, List.mem_cons, List.not_mem_nil, or_false] at hp
    subst hp; trivial
  · intro a h; cases h
  · intro a h; cases h
  · decide
  · decide
  · decide

/-- a broken input (unclosed group, unknown macro, stray `}`) parses in tolerant mode with the model's fuel, and
    already with `fuelEnough`; the strict parse fails -/
example : (parseTop { tol := true, ctx := exCtx, s := "x\\a{b \\zz}} $".toList } exF).isOk' = true
    ∧ (run { tol := true, ctx := exCtx, s := "x\\a{b \\zz}} $".toList } (fuelEnough "x\\a{b \\zz}} $".toList) (topTask exF)).isOk' = true
    ∧ (parseTop { tol := false, ctx := exCtx, s := "x\\a{b \\zz}} $".toList } exF).isOk' = false := by decide +kernel

/-- `C06_no_fuel` applied to a concrete input -/
example : parseTop { tol := true, ctx := exCtx, s := "\\begin{e}[~]\\verb|x|".toList } exF ≠ .fuel :=
  C06_no_fuel _ exF (by unfold DelimsOk; decide)

/-- the bound `4 * len + 3` is close to what the model really needs: `~{~{~{` with an argument-taking specials
    needs 23 = 3.5 * 6 + 2 units -/
private def exCtx2 : Ctx := { specials := [("~".toList, .std [⟨.m, .none⟩])] }
private def Ret.isFuel' : Ret → Bool
  | .fuel => true
  | _ => false
example :
    (run { tol := true, ctx := exCtx2, s := "~{~{~{".toList } 22 (topTask exF)).isFuel' = true
    ∧ (run { tol := true, ctx := exCtx2, s := "~{~{~{".toList } 23 (topTask exF)).isOk' = true := by decide +kernel

/-! ### non-vacuity for expression arguments without leading whitespace (`ArgKind.m0`)

`\p` has the signature `[m, m0]`; the source `\p{a} {b}` puts a blank in front of the second argument.
Strict mode: located error "expected expression w/o leading whitespace" at the blank (offset 5).
Tolerant mode: `_parse_single_token` has already consumed the offending token (the `{` with its leading blank);
the recovery retries *after* it, so `b` becomes the argument, and the now unmatched `}` is skipped by the
collector's own recovery (reader ends at 9, the node list at 8). -/

private def m0Ctx : Ctx := { macros := [(['p'], .std [⟨.m, .none⟩, ⟨.m0, .none⟩])] }
private def m0Src : Str := ['\\', 'p', '{', 'a', '}', ' ', '{', 'b', '}']
private def m0Src2 : Str := ['\\', 'p', '{', 'a', '}', ' ', 'b']

private def m0Tree : Ret :=
  .ok (.list (some 0) (some 8)
    [Node.mac 0 8 {} ['p'] [] (some [.node (Node.group 2 5 {} ['{'] ['}'] (some [Node.chars 3 4 {} ['a']])),
                                      .node (Node.chars 7 8 {} ['b'])])]) 9

/-- a plain character after the blank is dropped in the same way; the slot is then filled at the end of the input
    by the empty placeholder group -/
private def m0Tree2 : Ret :=
  .ok (.list (some 0) (some 7)
    [Node.mac 0 7 {} ['p'] [] (some [.node (Node.group 2 5 {} ['{'] ['}'] (some [Node.chars 3 4 {} ['a']])),
                                      .node (Node.group 7 7 {} [] [] (some []))])]) 7

private def isM0Tree : Ret → Bool
  | .ok (.list (some 0) (some 8)
      [Node.mac 0 8 ⟨false, none⟩ ['p'] []
        (some [.node (Node.group 2 5 ⟨false, none⟩ ['{'] ['}'] (some [Node.chars 3 4 ⟨false, none⟩ ['a']])),
               .node (Node.chars 7 8 ⟨false, none⟩ ['b'])])]) 9 => true
  | _ => false

private def isM0Tree2 : Ret → Bool
  | .ok (.list (some 0) (some 7)
      [Node.mac 0 7 ⟨false, none⟩ ['p'] []
        (some [.node (Node.group 2 5 ⟨false, none⟩ ['{'] ['}'] (some [Node.chars 3 4 ⟨false, none⟩ ['a']])),
               .node (Node.group 7 7 ⟨false, none⟩ [] [] (some []))])]) 7 => true
  | _ => false

private theorem eq_of_isM0Tree (r : Ret) (h : isM0Tree r = true) : r = m0Tree := by
  unfold isM0Tree at h
  split at h
  · rfl
  · cases h

private theorem eq_of_isM0Tree2 (r : Ret) (h : isM0Tree2 r = true) : r = m0Tree2 := by
  unfold isM0Tree2 at h
  split at h
  · rfl
  · cases h

/-- what, position and recovery node list of a strict failure -/
private def Ret.errInfo : Ret → Option (ErrWhat × Option Nat × Nat)
  | .perr e => some (e.what, e.pos, match e.recNodes with | .list _ _ ns => ns.length | _ => 0)
  | _ => none

set_option maxRecDepth 100000 in
/-- tolerant parse of `\p{a} {b}` under `[m, m0]`: terminates (with the model's fuel and already with `fuelEnough`)
    with exactly this tree — kernel evaluation of the model -/
example : parseTop { tol := true, ctx := m0Ctx, s := m0Src } {} = m0Tree
    ∧ run { tol := true, ctx := m0Ctx, s := m0Src } (fuelEnough m0Src) (topTask {}) = m0Tree :=
  ⟨eq_of_isM0Tree _ (by decide +kernel), eq_of_isM0Tree _ (by decide +kernel)⟩

set_option maxRecDepth 100000 in
/-- tolerant parse of `\p{a} b` (blank before a plain token — the input class on which a non-advancing retry
    would loop for ever): terminates, the token is skipped -/
example : parseTop { tol := true, ctx := m0Ctx, s := m0Src2 } {} = m0Tree2 :=
  eq_of_isM0Tree2 _ (by decide +kernel)

set_option maxRecDepth 100000 in
/-- strict parse of the same inputs: the located error `expression_required_got_unexpected:whitespace` at the
    blank (offset 5), no recovery nodes at top level before it -/
example : (parseTop { tol := false, ctx := m0Ctx, s := m0Src } {}).errInfo = some (.exprWhitespace, some 5, 0)
    ∧ (parseTop { tol := false, ctx := m0Ctx, s := m0Src2 } {}).errInfo = some (.exprWhitespace, some 5, 0) := by
  decide +kernel

/-- the general theorems apply to this context: it is closed, `{}` is its start state -/
example : m0Ctx.Closed ∧ StartOk m0Ctx {} := by
  refine ⟨⟨?_, ?_, ?_, ?_, ?_⟩, ⟨rfl, rfl, ?_, ?_, ?_, rfl⟩⟩
  · intro p hp
    simp only [m0Ctx, List.mem_cons, List.not_mem_nil, or_false] at hp
    subst hp; trivial
  · intro p hp; cases hp
  · intro p hp; cases hp
  · intro a h; cases h
  · intro a h; cases h
  · decide
  · decide
  · decide

/-- `C06_no_fuel` instantiated on it -/
example : parseTop { tol := true, ctx := m0Ctx, s := m0Src } {} ≠ .fuel :=
  C06_no_fuel _ {} (by unfold DelimsOk; decide)

#print axioms run_mono
#print axioms C06_agree
#print axioms run_adv
#print axioms run_nf
#print axioms C06_no_fuel
#print axioms C06_no_perr
#print axioms C06_total_of_no_crash
#print axioms C06_total_fuelEnough_of_no_crash
#print axioms C06_agree_top
#print axioms C06_reader_monotone
#print axioms C06_prefix_top

end Pylx
