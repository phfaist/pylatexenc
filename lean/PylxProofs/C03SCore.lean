/-
  C03SCore — the side conditions `specOk` of `C03_full_partial` follow, for the generated default databases, from
  `Doc.Core` and `CoreText`: the walker signatures of the macros the core sublanguage calls (formatting macros,
  accents, `\frac`, `\sqrt`, `\item`) are made of mandatory arguments with at most one leading optional argument
  (`tableOk`, kernel-checked over both generated tables), and `Doc.Core` types the written arguments by the signature.
-/
import PylxProofs.C03SFull
namespace Pylx.L2T.C03S
open Pylx Pylx.L2T Pylx.Doc
open Pylx.L2T.C03 (isBareArgs argWritten coreText coreTextArgs isFormatRepl)

/-- a signature of mandatory arguments only -/
def sigAllM (sig : List ArgSpec) : Bool := sig.all (fun a => a.kind == .m)

/-- one optional bracket argument, then mandatory arguments only -/
def sigOptM : List ArgSpec → Bool
  | a :: tl => (match a.kind with | .o _ => true | _ => false) && sigAllM tl
  | [] => false

theorem argspec_allM : ∀ (sig : List ArgSpec), sigAllM sig = true →
    (sig.flatMap fun a => argKindSpec a.kind).all (· == '{') = true
  | [], _ => rfl
  | a :: tl, h => by
    simp only [sigAllM, List.all_cons, Bool.and_eq_true] at h
    have ih := argspec_allM tl (by simpa [sigAllM] using h.2)
    simp only [List.flatMap_cons, List.all_append, Bool.and_eq_true]
    refine ⟨?_, ih⟩
    rw [C02.argKind_m_of_beq _ h.1]
    rfl

theorem legacyOf_allM (sig : List ArgSpec) (h : sigAllM sig = true) :
    legacyOf (sig.flatMap fun a => argKindSpec a.kind) = ⟨none, 0⟩ := by
  cases sig with
  | nil => rfl
  | cons a tl =>
    simp only [sigAllM, List.all_cons, Bool.and_eq_true] at h
    simp only [List.flatMap_cons, C02.argKind_m_of_beq _ h.1, argKindSpec]
    rfl

theorem legacyOf_optM (sig : List ArgSpec) (h : sigOptM sig = true) :
    legacyOf (sig.flatMap fun a => argKindSpec a.kind) = ⟨some 0, 1⟩ := by
  cases sig with
  | nil => cases h
  | cons a tl =>
    simp only [sigOptM, Bool.and_eq_true] at h
    obtain ⟨ha, htl⟩ := h
    have hall := argspec_allM tl htl
    cases hk : a.kind with
    | o ap =>
      simp only [List.flatMap_cons, hk, argKindSpec]
      show legacyOf ('[' :: (tl.flatMap fun a => argKindSpec a.kind)) = _
      unfold legacyOf
      have e1 : starCount ('[' :: (tl.flatMap fun a => argKindSpec a.kind)) = 0 := rfl
      simp only [e1, List.drop_zero, List.head?_cons, List.drop_succ_cons, hall]
      rfl
    | _ => rw [hk] at ha; cases ha

/-- `Doc.Core` types the written arguments by the signature: one value per slot, mandatory slots written -/
theorem coreArgs_allM (ctx : Ctx) (m : Bool) (rest : Str) : ∀ (sig : List ArgSpec) (args : List ArgVal),
    sigAllM sig = true → coreArgs ctx m rest sig args = true → args.all argWritten = true ∧ args.length = sig.length
  | [], [], _, _ => ⟨rfl, rfl⟩
  | [], _ :: _, _, hc => by simp [coreArgs] at hc
  | _ :: _, [], _, hc => by simp [coreArgs] at hc
  | sp :: sig, a :: tl, hs, hc => by
    simp only [sigAllM, List.all_cons, Bool.and_eq_true] at hs
    have hs2 : sigAllM sig = true := by simpa [sigAllM] using hs.2
    have hk : sp.kind = .m := C02.argKind_m_of_beq _ hs.1
    cases a with
    | absent =>
      simp only [coreArgs, hk, Bool.false_and] at hc
      cases hc
    | star =>
      simp only [coreArgs, Bool.and_eq_true, hk] at hc
      obtain ⟨h1, _⟩ := hc
      cases h1
    | marker c =>
      simp only [coreArgs, Bool.and_eq_true, hk] at hc
      obtain ⟨⟨h1, _⟩, _⟩ := hc
      cases h1
    | br b =>
      simp only [coreArgs, hk, Bool.false_and] at hc
      cases hc
    | grp b =>
      simp only [coreArgs, Bool.and_eq_true] at hc
      obtain ⟨ih1, ih2⟩ := coreArgs_allM ctx m rest sig tl hs2 hc.2
      exact ⟨by simp [argWritten, ih1], by simp [ih2]⟩
    | tok c =>
      simp only [coreArgs, Bool.and_eq_true] at hc
      obtain ⟨ih1, ih2⟩ := coreArgs_allM ctx m rest sig tl hs2 hc.2
      exact ⟨by simp [argWritten, ih1], by simp [ih2]⟩
    | del o c b =>
      simp only [coreArgs, Bool.and_eq_true, hk, Bool.or_eq_true] at hc
      obtain ⟨⟨⟨⟨⟨h1, _⟩, _⟩, _⟩, _⟩, _⟩ := hc
      rcases h1 with h1 | h1 <;> cases h1
    | verb _ _ _ => simp [coreArgs] at hc

theorem any_of_all {l : List ArgVal} (h : l.all argWritten = true) : l.any argWritten = !l.isEmpty := by
  cases l with
  | nil => rfl
  | cons a tl =>
    simp only [List.all_cons, Bool.and_eq_true] at h
    simp [h.1]

/-- `_is_bare_macro_node` agrees with "no argument written" for the two shapes of signatures -/
theorem bareOf_shape (ctx : Ctx) (m : Bool) (rest : Str) (name : Str) (sig : List ArgSpec) (args : List ArgVal)
    (hspec : ctx.macroSpec name = some (.std sig)) (hsh : (sigAllM sig || sigOptM sig) = true)
    (hc : coreArgs ctx m rest sig args = true) :
    bareOf ctx name args = some (isBareArgs args) := by
  have hleg : legacyOfMacro ctx name = legacyOf (sig.flatMap fun a => argKindSpec a.kind) := by
    unfold legacyOfMacro; rw [hspec]; rfl
  cases args with
  | nil => rfl
  | cons a tl =>
    simp only [bareOf]
    rw [Bool.or_eq_true] at hsh
    rcases hsh with h | h
    · rw [hleg, legacyOf_allM sig h]
      obtain ⟨hall, _⟩ := coreArgs_allM ctx m rest sig (a :: tl) h hc
      simp only [Option.some.injEq]
      unfold isBareArgs
      rw [any_of_all hall]
      rfl
    · rw [hleg, legacyOf_optM sig h]
      cases sig with
      | nil => cases h
      | cons sp sig' =>
        simp only [sigOptM, Bool.and_eq_true] at h
        have htl := C02.coreArgs_tail hc
        obtain ⟨hall, _⟩ := coreArgs_allM ctx m rest sig' tl h.2 htl
        simp only [List.getElem?_cons_zero, List.drop_succ_cons, List.drop_zero, Option.some.injEq]
        unfold isBareArgs
        rw [List.any_cons, any_of_all hall]
        cases argWritten a <;> cases tl.isEmpty <;> rfl

/-- the walker signatures of the macros the core sublanguage calls with arguments -/
def tableOk (ctx : Ctx) (db : TextDb) : Bool :=
  db.macros.all fun q =>
    match ctx.macroSpec q.1 with
    | some (.std sig) =>
      (match q.2.repl with
       | .none => !isFormatRepl q.2 || sigAllM sig || sigOptM sig
       | .accent _ => sigAllM sig
       | .fmt _ _ => !(q.1 == "frac".toList || q.1 == "sqrt".toList) || sigAllM sig || sigOptM sig
       | .item => sig.isEmpty || sigOptM sig
       | _ => true)
    | _ => true

theorem macOk_of_core (ctx : Ctx) (db : TextDb) (htab : tableOk ctx db = true) (m : Bool) (rest : Str) (name : Str)
    (sig : List ArgSpec) (args : List ArgVal) (hspec : ctx.macroSpec name = some (.std sig))
    (hc : coreArgs ctx m rest sig args = true)
    (hcore : (match lookupFirst name db.macros with
      | none => args.isEmpty
      | some sp =>
        match sp.repl with
        | .lit _ => args.isEmpty
        | .const _ => args.isEmpty
        | .none => isFormatRepl sp
        | .accent _ => args.length == 1
        | .fmt _ _ => name == "frac".toList || name == "sqrt".toList
        | .item => true
        | _ => false) = true) :
    macOk ctx db name args = true := by
  have hlen : args.length = sig.length := by
    clear hcore htab hspec
    induction sig generalizing args with
    | nil =>
      cases args with
      | nil => rfl
      | cons _ _ => simp [coreArgs] at hc
    | cons sp sig ih =>
      cases args with
      | nil => simp [coreArgs] at hc
      | cons a tl =>
        have := ih tl (C02.coreArgs_tail hc)
        simp [this]
  have hnil : args.isEmpty = true → bareOf ctx name args = some (isBareArgs args) := by
    intro he
    have : args = [] := List.isEmpty_iff.mp he
    subst this
    rfl
  cases hl : lookupFirst name db.macros with
  | none =>
    rw [hl] at hcore
    unfold macOk
    rw [hl, hnil hcore]
    simp
  | some sp =>
    rw [hl] at hcore
    simp only at hcore
    have hmem := lookupFirst_mem name _ sp hl
    unfold tableOk at htab
    rw [List.all_eq_true] at htab
    have ht := htab _ hmem
    simp only [hspec] at ht
    unfold macOk
    rw [hl]
    simp only
    cases hr : sp.repl with
    | lit s => rw [hr] at hcore; rw [hnil hcore]; simp
    | const s => rw [hr] at hcore; rw [hnil hcore]; simp
    | none =>
      rw [hr] at hcore ht
      simp only [hcore, Bool.not_true, Bool.false_or] at ht
      rw [bareOf_shape ctx m rest name sig args hspec ht hc]
      simp
    | accent comb =>
      rw [hr] at ht
      simp only at ht
      rw [bareOf_shape ctx m rest name sig args hspec (by rw [ht]; rfl) hc]
      have : legacyOfMacro ctx name = ⟨none, 0⟩ := by
        unfold legacyOfMacro; rw [hspec]; exact legacyOf_allM sig ht
      simp [this]
    | fmt raw segs =>
      rw [hr] at hcore ht
      simp only [hcore, Bool.not_true, Bool.false_or] at ht
      rw [bareOf_shape ctx m rest name sig args hspec ht hc]
      have : ((ctx.macroSpec name).map sigLen).getD 0 = sig.length := by rw [hspec]; rfl
      simp [this, hlen]
    | item =>
      rw [hr] at ht
      simp only [Bool.or_eq_true] at ht
      rcases ht with ht | ht
      · have h0 : sig = [] := List.isEmpty_iff.mp ht
        have : args = [] := by
          cases args with
          | nil => rfl
          | cons _ _ => rw [h0] at hlen; simp at hlen
        subst this
        simp [bareOf, isBareArgs]
      · rw [bareOf_shape ctx m rest name sig args hspec (by rw [ht]; simp) hc]
        have : (legacyOfMacro ctx name).optIdx = some 0 := by
          unfold legacyOfMacro; rw [hspec]
          show (legacyOf (sig.flatMap fun a => argKindSpec a.kind)).optIdx = _
          rw [legacyOf_optM sig ht]
        simp [this]
    | _ => rw [hr] at hcore; simp at hcore

/-! ### `specOk` from `Doc.Core` and `CoreText` -/

mutual
theorem specOk_of_core (ctx : Ctx) (db : TextDb) (htab : tableOk ctx db = true) :
    ∀ (d : List Item) (m : Bool) (after : Str), coreItems ctx m after d = true → coreText db d = true → specOk ctx db d = true
  | [], _, _, _, _ => by simp only [specOk]
  | .T t :: tl, m, after, hc, ht => by
    simp only [coreItems, Bool.and_eq_true] at hc
    simp only [coreText] at ht
    simp only [specOk]
    exact specOk_of_core ctx db htab tl m after hc.2 ht
  | .W w :: tl, m, after, hc, ht => by
    simp only [coreItems, Bool.and_eq_true] at hc
    simp only [coreText] at ht
    simp only [specOk]
    exact specOk_of_core ctx db htab tl m after hc.2 ht
  | .P w :: tl, m, after, hc, ht => by
    simp only [coreItems, Bool.and_eq_true] at hc
    simp only [coreText] at ht
    simp only [specOk]
    exact specOk_of_core ctx db htab tl m after hc.2 ht
  | .C text tail :: tl, m, after, hc, ht => by
    have hc2 : coreItems ctx m after tl = true := by
      cases tl with
      | nil => simp only [coreItems]
      | cons it tl' =>
        cases it <;> (rw [coreItems] at hc <;> first
          | (simp only [Bool.and_eq_true] at hc; exact hc.2)
          | (intro _ _ h; cases h))
    simp only [coreText] at ht
    simp only [specOk]
    exact specOk_of_core ctx db htab tl m after hc2 ht
  | .S name args :: tl, m, after, hc, ht => by
    simp only [coreItems, Bool.and_eq_true] at hc
    simp only [coreText, Bool.and_eq_true] at ht
    simp only [specOk]
    exact specOk_of_core ctx db htab tl m after hc.2 ht.2
  | .G b :: tl, m, after, hc, ht => by
    simp only [coreItems, Bool.and_eq_true] at hc
    simp only [coreText, Bool.and_eq_true] at ht
    simp only [specOk, Bool.and_eq_true]
    exact ⟨specOk_of_core ctx db htab b m _ hc.1 ht.1, specOk_of_core ctx db htab tl m after hc.2 ht.2⟩
  | .F k b :: tl, m, after, hc, ht => by
    simp only [coreItems, Bool.and_eq_true] at hc
    simp only [coreText, Bool.and_eq_true] at ht
    simp only [specOk, Bool.and_eq_true]
    exact ⟨specOk_of_core ctx db htab b true _ hc.1.1.2 ht.1, specOk_of_core ctx db htab tl m after hc.2 ht.2⟩
  | .E name args body :: tl, m, after, hc, ht => by
    obtain ⟨sig, bm, _, _, hbody⟩ := C02.coreItems_E hc
    simp only [coreText, Bool.and_eq_true] at ht
    simp only [specOk, Bool.and_eq_true]
    exact ⟨specOk_of_core ctx db htab body (m || bm) _ hbody ht.1.2,
      specOk_of_core ctx db htab tl m after (C02.coreItems_tail hc) ht.2⟩
  | .M name post args :: tl, m, after, hc, ht => by
    obtain ⟨sig, hms, hargs⟩ := C02.coreItems_M hc
    simp only [coreText, Bool.and_eq_true] at ht
    simp only [specOk, Bool.and_eq_true]
    obtain ⟨⟨htm, hta⟩, htt⟩ := ht
    exact ⟨⟨macOk_of_core ctx db htab m _ name sig args hms hargs htm, specOkArgs_of_core ctx db htab sig args m _ hargs hta⟩,
      specOk_of_core ctx db htab tl m after (C02.coreItems_tail hc) htt⟩
  | .V _ _ :: _, _, _, _, ht => by simp [coreText] at ht
  | .VE _ _ _ _ :: _, _, _, _, ht => by simp [coreText] at ht
termination_by d => sizeOf d
theorem specOkArgs_of_core (ctx : Ctx) (db : TextDb) (htab : tableOk ctx db = true) :
    ∀ (sig : List ArgSpec) (args : List ArgVal) (m : Bool) (rest : Str), coreArgs ctx m rest sig args = true →
      coreTextArgs db args = true → specOkArgs ctx db args = true
  | _, [], _, _, _, _ => by simp only [specOkArgs]
  | [], _ :: _, _, _, hc, _ => by simp [coreArgs] at hc
  | sp :: sig, .absent :: tl, m, rest, hc, ht => by
    simp only [coreArgs, Bool.and_eq_true] at hc
    simp only [coreTextArgs] at ht
    simp only [specOkArgs]
    exact specOkArgs_of_core ctx db htab sig tl m rest hc.2 ht
  | sp :: sig, .grp b :: tl, m, rest, hc, ht => by
    simp only [coreArgs, Bool.and_eq_true] at hc
    simp only [coreTextArgs, Bool.and_eq_true] at ht
    simp only [specOkArgs, Bool.and_eq_true]
    exact ⟨specOk_of_core ctx db htab b _ _ hc.1.2 ht.1, specOkArgs_of_core ctx db htab sig tl m rest hc.2 ht.2⟩
  | sp :: sig, .br b :: tl, m, rest, hc, ht => by
    simp only [coreArgs, Bool.and_eq_true] at hc
    simp only [coreTextArgs, Bool.and_eq_true] at ht
    simp only [specOkArgs, Bool.and_eq_true]
    exact ⟨specOk_of_core ctx db htab b _ _ hc.1.2 ht.1, specOkArgs_of_core ctx db htab sig tl m rest hc.2 ht.2⟩
  | sp :: sig, .tok c :: tl, m, rest, hc, ht => by
    simp only [coreArgs, Bool.and_eq_true] at hc
    simp only [coreTextArgs] at ht
    simp only [specOkArgs, Bool.and_eq_true, Bool.not_eq_eq_eq_not, Bool.not_true]
    exact ⟨(C02.textChar_ne hc.1.2).2.2.2.2.2, specOkArgs_of_core ctx db htab sig tl m rest hc.2 ht⟩
  | _ :: _, .star :: _, _, _, _, ht => by simp [coreTextArgs] at ht
  | _ :: _, .marker _ :: _, _, _, _, ht => by simp [coreTextArgs] at ht
  | _ :: _, .del _ _ _ :: _, _, _, _, ht => by simp [coreTextArgs] at ht
  | _ :: _, .verb _ _ _ :: _, _, _, _, ht => by simp [coreTextArgs] at ht
termination_by _ args => sizeOf args
end

set_option maxRecDepth 100000 in
/-- kernel-checked over both generated tables: every formatting macro, accent macro, `\frac`, `\sqrt` and `\item` of the
    default text database has a walker signature of mandatory arguments with at most one leading optional argument
    (accents: mandatory arguments only; `\item`: exactly the leading optional argument) -/
theorem default_tableOk : tableOk Gen.defaultCtx Gen.defaultTextDb = true := by
  decide +kernel

/-- **C03_full_core**: the string-level statement `C03.C03_full` for every option set, all library oracles and every
    document of the core sublanguage (`CoreText`) in the fragment of the exact round trip (`Doc.Core`) — no further
    hypothesis. -/
theorem C03_full_core (opts : Opts) (lib : Lib) (d : List Item)
    (hcore : Core Gen.defaultCtx d = true) (hct : C03.CoreText d = true) :
    latexToText opts lib (unparse d) = .ok (C03.specText opts lib d) := by
  have hc := hcore
  unfold Core at hc
  rw [Bool.and_eq_true] at hc
  exact C03_full_partial opts lib d hcore hct (specOk_of_core _ _ default_tableOk d false [] hc.2 hct)

/-- non-vacuity: the example documents of `C03.C03_instances` (every rule of the core sublanguage) satisfy the two
    hypotheses; the statement then holds for them under *every* option set and every library oracle -/
example (opts : Opts) (lib : Lib) : latexToText opts lib (unparse C03.exDocA) = .ok (C03.specText opts lib C03.exDocA) :=
  C03_full_core opts lib _ exDocs_hyps.1 exDocs_hyps.2.1
example (opts : Opts) (lib : Lib) : latexToText opts lib (unparse C03.exDocB) = .ok (C03.specText opts lib C03.exDocB) :=
  C03_full_core opts lib _ exDocs_hyps.2.2.2.1 exDocs_hyps.2.2.2.2.1

#print axioms C03_full_core

end Pylx.L2T.C03S
