/-
  C08 — definitions and statements: schemes and policies of the property, the alphabet, the encoder output as a
  concatenation of per-character chunks, the statement for all strings (`C08_full`, proved in `C08F`), the classes of
  alphabet characters (replacement shape of `C13_shapes` / kind of ASCII character), paragraph breaks.
-/
import PylxProofs.C13Parse
import Pylx.C08Drv
namespace Pylx.C08
open Pylx Pylx.EncB Pylx.L2T

/-- the four brace-protection schemes of the property (`none` is not one) -/
def schemes : List Prot := [.braces, .bracesAll, .bracesAlmostAll, .bracesAfterMacro]

/-- `strict_latex_spaces=False` (the documented default, = `'macros'`) and `True` (strict LaTeX spacing) -/
def policies : List SlsSpec := [.bool false, .bool true]

/-- the string survives: encoding succeeds and latex2text of the result is the string itself -/
def RoundTrips (pr : Prot) (pol : SlsSpec) (s : Str) : Prop := roundTrip pr pol s = some (.ok s)

/-! ### the encoder is a homomorphism -/

/-- the replacement text of the built-in rule for `c`, if any -/
def repl (c : Char) : Option Str := (tableOf .defaults).lookup c.toNat

/-- the chunk emitted for `c` given the result of the table lookup (policy `keep`: other characters are copied) -/
def chunkOf (pr : Prot) (c : Char) : Option Str → Str
  | some r => protect isAsciiAlpha pr r
  | none => [c]

/-- the chunk the encoder emits for one character -/
def chunk (pr : Prot) (c : Char) : Str := chunkOf pr c (repl c)

theorem stepAt_chunk (pr : Prot) (c : Char) : stepAt (cfg pr) [c] 0 c = .emit (chunk pr c) 1 := by
  unfold cfg chunk repl
  rw [C13.stepAt_builtin]
  cases (tableOf .defaults).lookup c.toNat with
  | some r => rfl
  | none => by_cases hc : isCopyChar c = true <;> simp [hc, unknownChar, chunkOf]

theorem encChars_chunks (pr : Prot) (s : Str) : encChars (cfg pr) s = .ok (s.map (chunk pr)) := by
  induction s with
  | nil => rfl
  | cons c cs ih => simp [encChars, stepAt_chunk, ih, EncRes.cons]

/-- **C08 (chunks, encoder side).**  Under every scheme the encoder output for a string is the concatenation of
    the chunks of its characters, each of which depends on that character only (`C04_concat` for the built-in
    rule set, policy `keep`: the encoder never fails). -/
theorem C08_encode_chunks (pr : Prot) (s : Str) : encode (cfg pr) s = some (s.flatMap (chunk pr)) := by
  unfold encode
  rw [show cfg pr = builtinCfg .defaults pr .keep false from rfl,
    encodeChunks_eq_encChars (C13.builtin_perChar .defaults pr .keep false)]
  rw [show builtinCfg .defaults pr .keep false = cfg pr from rfl, encChars_chunks]
  simp [EncRes.joined, List.flatMap]

/-- forces the table lookup once (the kernel evaluates lazily: without this every scheme repeats it) -/
def force {β : Type} (o : Option Str) (f : Option Str → β) : β :=
  match o with
  | some r => f (some r)
  | none => f none

theorem force_eq {β : Type} (o : Option Str) (f : Option Str → β) : force o f = f o := by
  cases o <;> rfl

/-! ### classes -/

inductive Cls where
  | shape (s : Option C13.Shape)     -- the character has a rule: shape of its replacement text
  | letter | digit | space | newline | punct
deriving DecidableEq, Repr

def asciiCls (c : Char) : Cls :=
  if c == '\n' then .newline else if c == ' ' then .space
  else if isAsciiAlpha c then .letter else if '0' ≤ c && c ≤ '9' then .digit else .punct

/-- class of an alphabet code point -/
def classOf (k : Nat) : Cls :=
  match (tableOf .defaults).lookup k with
  | some r => .shape ((C13.itemsOf r).map C13.shapeOf)
  | none => asciiCls (Char.ofNat k)

/-! ### paragraph breaks -/

/-- the string starts with a run of white space that latex2text normalises to `"\n\n"` and that is not `"\n\n"`
    itself: three newlines, or two newlines separated by spaces -/
def parBad : Str → Bool
  | '\n' :: '\n' :: '\n' :: _ => true
  | '\n' :: ' ' :: r => (r.dropWhile (· == ' ')).head? == some '\n'
  | _ => false

/-- no paragraph break other than exactly `"\n\n"` (latex2text renders every paragraph break as `"\n\n"`) -/
def ParClean : Str → Bool
  | [] => true
  | c :: r => !parBad (c :: r) && ParClean r

theorem ParClean_tail {c : Char} {r : Str} (h : ParClean (c :: r) = true) : ParClean r = true := by
  simp only [ParClean, Bool.and_eq_true] at h
  exact h.2

theorem parBad_short1 (x : Char) : parBad [x] = false := by
  unfold parBad
  split <;> simp_all

theorem parBad_short2 (x y : Char) : parBad [x, y] = false := by
  unfold parBad
  split <;> simp_all

theorem parClean_single (x : Char) : ParClean [x] = true := by
  simp only [ParClean, parBad_short1, Bool.not_false, Bool.and_self]

theorem parClean_pair (x y : Char) : ParClean [x, y] = true := by
  simp only [ParClean, parBad_short1, parBad_short2, Bool.not_false, Bool.and_self]

/-! ### the alphabet and the statement for all strings -/

theorem mem_chunks {p : Nat → Bool} (h : Gen.c08AlphaChunks.all (fun ch => ch.all p) = true) :
    ∀ k ∈ Gen.c08Alphabet, p k = true := by
  intro k hk
  simp only [Gen.c08Alphabet, List.mem_flatten] at hk
  obtain ⟨ch, hch, hk⟩ := hk
  exact List.all_eq_true.mp (List.all_eq_true.mp h ch hch) k hk

/-- membership of a character in the alphabet of the property -/
def InAlphabet (c : Char) : Prop := c.toNat ∈ Gen.c08Alphabet

instance (c : Char) : Decidable (InAlphabet c) := inferInstanceAs (Decidable (c.toNat ∈ Gen.c08Alphabet))

theorem ofNat_inAlphabet {k : Nat} (hk : k ∈ Gen.c08Alphabet) : InAlphabet (Char.ofNat k) := by
  have h := mem_chunks (p := fun k => decide ((Char.ofNat k).toNat = k)) (by decide +kernel) k hk
  unfold InAlphabet
  rw [of_decide_eq_true h]
  exact hk

/-- **C08, full statement** (proved in `PylxProofs/C08F.lean`: `Pylx.C08.Full.C08_full_proved`).  Every string over the invertible alphabet without a paragraph break other
    than exactly `"\n\n"` round-trips under every brace-protection scheme and both whitespace policies. -/
def C08_full : Prop :=
  ∀ pr ∈ schemes, ∀ pol ∈ policies, ∀ s : Str, (∀ c ∈ s, InAlphabet c) → ParClean s = true → RoundTrips pr pol s

/-- **Step 1 of the lift (chunk independence;** proved in `PylxProofs/C08.lean` as a consequence of `C08_full`**).**  Prefixing a character to a string that round-trips gives a string that
    round-trips, provided the character alone and the character with its new neighbour do: the chunk of `c` is
    self-delimiting under a brace-protection scheme, so the parser reads `chunk c ++ rest` as the nodes of
    `chunk c` followed by the nodes of `rest` (positions shifted), up to the interaction with the first chunk of
    `rest` that the two-character string already shows; and the renderer's output concatenates. -/
def C08_concat_stmt : Prop :=
  ∀ pr ∈ schemes, ∀ pol ∈ policies, ∀ (c d : Char) (r : Str),
    (∀ x ∈ c :: d :: r, InAlphabet x) → ParClean (c :: d :: r) = true →
    RoundTrips pr pol [c] → RoundTrips pr pol [c, d] → RoundTrips pr pol (d :: r) → RoundTrips pr pol (c :: d :: r)

/-- **Step 2 of the lift (class invariance;** proved in `PylxProofs/C08.lean` as a consequence of `C08_full`**).**  Whether a two-character string round-trips depends on the classes of the
    two characters only. -/
def C08_class_stmt : Prop :=
  ∀ pr ∈ schemes, ∀ pol ∈ policies, ∀ a b a' b' : Nat,
    a ∈ Gen.c08Alphabet → b ∈ Gen.c08Alphabet → a' ∈ Gen.c08Alphabet → b' ∈ Gen.c08Alphabet →
    classOf a = classOf a' → classOf b = classOf b' →
    RoundTrips pr pol [Char.ofNat a', Char.ofNat b'] → RoundTrips pr pol [Char.ofNat a, Char.ofNat b]

end Pylx.C08
