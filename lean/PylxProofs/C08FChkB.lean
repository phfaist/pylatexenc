/-
  C08, all strings — the per-chunk facts for one quarter of the alphabet, by kernel evaluation: for every character and
  each of its protected chunks the classified document unparses to the chunk, is well formed, specials-safe and solid,
  and the position-free renderer turns its exact tree into the character (both policies, fresh converter state before
  and after); for the wrapped form `{r}` of a chunk `r` only that the classifier answers with the document of `r` in a group.  One declaration per six chunks of the alphabet (thirty characters) keeps each evaluation well inside
  the default heartbeat limit.
-/
import PylxProofs.C08FDefs
namespace Pylx.C08.Full
open Pylx Pylx.C08

theorem k11 : ((Gen.c08AlphaChunks.drop 66).take 6).all ChunksOk = true := by decide +kernel
theorem k12 : ((Gen.c08AlphaChunks.drop 72).take 6).all ChunksOk = true := by decide +kernel
theorem k13 : ((Gen.c08AlphaChunks.drop 78).take 6).all ChunksOk = true := by decide +kernel
theorem k14 : ((Gen.c08AlphaChunks.drop 84).take 6).all ChunksOk = true := by decide +kernel
theorem k15 : ((Gen.c08AlphaChunks.drop 90).take 6).all ChunksOk = true := by decide +kernel
theorem k16 : ((Gen.c08AlphaChunks.drop 96).take 6).all ChunksOk = true := by decide +kernel
theorem k17 : ((Gen.c08AlphaChunks.drop 102).take 6).all ChunksOk = true := by decide +kernel
theorem k18 : ((Gen.c08AlphaChunks.drop 108).take 6).all ChunksOk = true := by decide +kernel
theorem k19 : ((Gen.c08AlphaChunks.drop 114).take 6).all ChunksOk = true := by decide +kernel
theorem k20 : ((Gen.c08AlphaChunks.drop 120).take 6).all ChunksOk = true := by decide +kernel
theorem k21 : ((Gen.c08AlphaChunks.drop 126).take 6).all ChunksOk = true := by decide +kernel

end Pylx.C08.Full
