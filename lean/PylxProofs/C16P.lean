/-
  C16P — `MacroStandardArgsParser.parse_args` (legacy) against `LatexArgumentsParser.parse` (new):
  the facts `ParserFacts` that `C16_legacy_args_partial` assumes are proved from the parser model, and the
  equivalence is stated without assuming a lexically clean input.
-/
import PylxProofs.C16
import PylxProofs.C05Tok
import Pylx.Gen.WalkerDb
namespace Pylx.Legacy.C16P
open Pylx Pylx.Legacy

/-- the second alternative is for a paragraph break, a `char` token of several whitespace characters -/
def StarTok (t : Token) : Prop :=
  t.kind = .char → (∃ c, t.arg = [c] ∧ t.posEnd = t.pos + 1) ∨ t.arg.head? ≠ some '*'

/-- what `impl_peek_token` returns with the reader at `p0`: the token, or the recovery placeholder of a token
    error, starts after its own leading whitespace; a token satisfies `StarTok`, and so does a placeholder unless
    `*` is the escape character -/
def ReadOk (ps : PState) (p0 : Nat) : PeekRes → Prop
  | .tok t => t.pos = p0 + t.pre.length ∧ StarTok t
  | .err _ _ t _ => t.pos = p0 + t.pre.length ∧ (ps.f.escapeChar ≠ '*' → StarTok t)
  | .eos _ => True

theorem peekAtChar_read {ps : PState} {s : Str} {p0 : Nat} {c : Char} {pre : Str} :
    ReadOk ps p0 (peekAtChar ps s (p0 + pre.length) c pre) := by
  apply peekAtChar_leaves
  case math =>
    intro t _ ht
    obtain ⟨d, b, rfl⟩ := readMath_spec ht
    exact ⟨rfl, fun h => by cases b <;> cases h⟩
  -- the placeholder of a malformed `\begin` / `\end` begins with the escape character
  case envErr => exact fun b _ _ => ⟨rfl, fun hesc _ => Or.inr fun h => hesc (Option.some.inj h)⟩
  case env => intro b _ _ _ _ _; cases b <;> exact ⟨rfl, fun h => by cases h⟩
  case escEnd => exact fun _ _ => ⟨rfl, fun _ _ => Or.inr fun h => by cases h⟩
  case bad => exact fun _ => ⟨rfl, fun _ _ => Or.inl ⟨c, rfl, rfl⟩⟩
  case chr => exact fun _ => ⟨rfl, fun _ => Or.inl ⟨c, rfl, rfl⟩⟩
  all_goals intros; exact ⟨rfl, fun h => by cases h⟩

theorem mem_takeWhile {α : Type} (q : α → Bool) : ∀ (l : List α) (x : α), x ∈ l.takeWhile q → q x = true
  | [], _, h => by cases h
  | a :: l, x, h => by
    rw [List.takeWhile_cons] at h
    cases hq : q a with
    | true =>
      rw [hq] at h
      rcases List.mem_cons.mp h with h | h
      · rw [h]; exact hq
      · exact mem_takeWhile q l x h
    | false => rw [hq] at h; cases h

theorem mem_slice_spaceRun {s : Str} {p0 i j : Nat} {x : Char} (hj : j ≤ (spaceRun s p0).length)
    (h : x ∈ slice s (p0 + i) (p0 + j)) : isPySpace x = true := by
  rcases Nat.lt_or_ge j i with hlt | hge
  · have : slice s (p0 + i) (p0 + j) = [] := by
      unfold slice
      have : p0 + j - (p0 + i) = 0 := by omega
      rw [this]; rfl
    rw [this] at h; cases h
  · have happ := slice_slice_append s p0 (p0 + i) (p0 + j) (by omega) (by omega)
    have hx : x ∈ slice s p0 (p0 + j) := by rw [← happ]; exact List.mem_append_right _ h
    rw [slice_of_prefix_take s _ p0 j (spaceRun_prefix s p0) hj] at hx
    exact mem_takeWhile isPySpace _ x (List.mem_of_mem_take hx)

theorem peekImpl_read (ps : PState) (s : Str) (p0 : Nat) : ReadOk ps p0 (peekImpl ps s p0) := by
  refine peekImpl_cases rfl rfl (fun _ _ => ?_) (fun _ _ => trivial) (fun c _ _ _ => peekAtChar_read)
  rw [peekPar_eq]
  have hpos : p0 + firstNl (spaceRun s p0) = p0 + ((spaceRun s p0).take (firstNl (spaceRun s p0))).length := by
    rw [List.length_take, Nat.min_eq_left (firstNl_le _)]
  cases parSpecials ps
  · -- a paragraph break consists of whitespace, and `*` is none
    refine ⟨hpos, fun _ => Or.inr (fun hh => ?_)⟩
    have hsp : isPySpace '*' = true := mem_slice_spaceRun (lastNlEnd_le _) (List.mem_of_mem_head? hh)
    cases hsp
  · exact ⟨hpos, fun h => by cases h⟩

theorem peekTok_read {tol : Bool} {ps : PState} {s : Str} {p : Nat} {t : Token} (h : peekTok tol ps s p = .tok t) :
    t.pos = p + t.pre.length ∧ ((tol = true → ps.f.escapeChar ≠ '*') → StarTok t) := by
  have hr := peekImpl_read ps s p
  rcases peekTok_tok_iff.mp h with h | ⟨htol, w, ep, r, h⟩
  · rw [h] at hr
    exact ⟨hr.1, fun _ => hr.2⟩
  · rw [h] at hr
    exact ⟨hr.1, fun hesc => hr.2 (hesc htol)⟩

theorem star_core {sp : List Str} {t : Token} (hns : ['*'] ∉ sp) (hst : StarTok t)
    (hsp : t.kind = .specials → t.arg ∈ sp) : StarSame t := by
  unfold StarSame
  cases hk : t.kind
  case char =>
    -- on a `char` token both tests are `t.arg == ['*']`
    rcases hst hk with ⟨c, hc, he⟩ | hne
    · have hA : ([c].head? == some '*') = ([c] == ['*']) := by simp
      exact ⟨by rw [hc]; exact hA, fun _ => he⟩
    · have hB : (t.arg == ['*']) = false := beq_false_of_ne (fun ha => hne (by rw [ha]; rfl))
      exact ⟨(beq_false_of_ne hne).trans hB.symm, fun hb => nomatch hB.symm.trans hb⟩
  case specials =>
    have hB : (t.arg == ['*']) = false := beq_false_of_ne (fun ha => hns (ha ▸ hsp hk))
    exact ⟨hB.symm, fun hb => nomatch hB.symm.trans hb⟩
  all_goals exact ⟨rfl, fun hb => nomatch hb⟩

/-- `ParserFacts.star` in either mode, from the decidable conditions "`*` is not declared as specials" and
    (tolerant mode) "`*` is not the escape character" -/
theorem star_fact {tol : Bool} {ps : PState} {s : Str} {p : Nat} {t : Token} (hns : ['*'] ∉ ps.f.specials)
    (hesc : tol = true → ps.f.escapeChar ≠ '*') (h : peekTok tol ps s p = .tok t) : StarSame t := by
  refine star_core hns ((peekTok_read h).2 hesc) (fun hk => ?_)
  exact specials_arg_mem (peekTok_nonchar h (by rw [hk]; decide)) hk

/-- token errors arise at or below the escape layer: if `ps'` agrees with `ps` in what the layers above consult,
    whatever relates a token error of `peekEscape` under `ps` to the answer under `ps'` (`Q`) relates those of
    `peekImpl` -/
theorem peekImpl_err_lift {ps ps' : PState} {s : Str} {Q : TokErr → Nat → Token → Nat → PeekRes → Prop}
    (h1 : ps'.f.enDblNl = ps.f.enDblNl) (h2 : ps'.t.mathStart = ps.t.mathStart) (h3 : ps'.f.enMath = ps.f.enMath)
    (h4 : ∀ p pre, readMath ps' s p pre = readMath ps s p pre)
    (hesc : ∀ p c pre w ep t rr, peekEscape ps s p c pre = .err w ep t rr → Q w ep t rr (peekEscape ps' s p c pre))
    {p0 : Nat} {w : TokErr} {ep : Nat} {t : Token} {rr : Nat} (h : peekImpl ps s p0 = .err w ep t rr) :
    Q w ep t rr (peekImpl ps' s p0) := by
  unfold peekImpl at h ⊢
  dsimp only at h ⊢
  rw [h1]
  split at h
  · rw [peekPar_eq] at h; cases h
  · rename_i hc
    rw [if_neg hc]
    cases hs : s[p0 + (spaceRun s p0).length]? with
    | none => rw [hs] at h; cases h
    | some c =>
      rw [hs] at h
      dsimp only at h ⊢
      unfold peekAtChar at h ⊢
      rw [h2, h3, h4]
      split at h
      · rename_i hm
        rw [if_pos hm]
        split at h
        · cases h
        · exact hesc _ _ _ _ _ _ _ h
      · rename_i hm
        rw [if_neg hm]
        exact hesc _ _ _ _ _ _ _ h

/-- the state the expression parser reads its token with (see `mkPS_noEnvs`) -/
@[reducible] def noEnvs (ps : PState) : PState := { f := { ps.f with enEnvs := false }, t := ps.t }

/-- a token error survives disabling environments, except the malformed `\begin` / `\end`, which is then read as
    the macro `\begin` / `\end` -/
def EnvErr (w : TokErr) (ep : Nat) (t : Token) (rr : Nat) (r' : PeekRes) : Prop :=
  r' = .err w ep t rr ∨
  (w = .badEnvName ∧ ∃ t', r' = .tok t' ∧ t'.kind = .macro ∧
    (t'.arg = "begin".toList ∨ t'.arg = "end".toList) ∧ t'.pos = ep)

/-- `\begin` and `\end` are control words: their letters are macro-name characters -/
def envAlpha (f : PSFields) : Bool := "begind".toList.all (fun x => f.macroAlpha.contains x)

theorem envAlpha_spec {f : PSFields} (h : envAlpha f = true) (b : Bool) :
    ∀ x ∈ envWordStr b, f.macroAlpha.contains x = true := by
  have hsub : ∀ x ∈ envWordStr b, x ∈ "begind".toList := by cases b <;> decide
  exact fun x hx => List.all_eq_true.mp h x (hsub x hx)

theorem readMacro_env {ps : PState} {s : Str} {p : Nat} {b : Bool} (pre : Str) (hw : envWordAt ps s p = some b)
    (halpha : ∀ x ∈ envWordStr b, ps.f.macroAlpha.contains x = true) :
    ∃ t', readMacro ps s p pre = .tok t' ∧ t'.kind = .macro ∧ t'.arg = envWordStr b ∧ t'.pos = p := by
  obtain ⟨_, hsw, hnf⟩ := envWordAt_some hw
  obtain ⟨tail, htail⟩ := List.isPrefixOf_iff_prefix.mp (by unfold startsWithAt at hsw; exact hsw)
  obtain ⟨c0, w', hcw⟩ : ∃ c0 w', envWordStr b = c0 :: w' := by
    cases b
    · exact ⟨'e', ['n', 'd'], rfl⟩
    · exact ⟨'b', ['e', 'g', 'i', 'n'], rfl⟩
  have hlen : (envWordStr b).length = envWordLen b := envWordStr_length b
  have hs1 : s[p + 1]? = some c0 := by
    have : (s.drop (p + 1))[0]? = some c0 := by rw [← htail, hcw]; rfl
    rw [List.getElem?_drop] at this
    exact this
  have hd2 : s.drop (p + 2) = w' ++ tail := by
    have : s.drop (p + 2) = (s.drop (p + 1)).drop 1 := by rw [List.drop_drop]
    rw [this, ← htail, hcw]; rfl
  have htw : tail.takeWhile (fun x => ps.f.macroAlpha.contains x) = [] := by
    have hq : s[p + 1 + envWordLen b]? = tail[0]? := by
      rw [← hlen, ← List.getElem?_drop, ← htail, List.getElem?_append_right (Nat.le_refl _), Nat.sub_self]
    unfold notFollowedByAlpha at hnf
    rw [hq] at hnf
    cases tail with
    | nil => rfl
    | cons d tl =>
      simp only [List.getElem?_cons_zero] at hnf
      rw [List.takeWhile_cons]
      have : ps.f.macroAlpha.contains d = false := by simpa using hnf
      rw [this]; rfl
  have hc0 : ps.f.macroAlpha.contains c0 = true := halpha c0 (by rw [hcw]; exact List.mem_cons_self)
  have hw'a : ∀ a ∈ w', ps.f.macroAlpha.contains a = true :=
    fun a ha => halpha a (by rw [hcw]; exact List.mem_cons_of_mem _ ha)
  refine ⟨_, readMacro_word hs1 hc0 rfl rfl, rfl, ?_, rfl⟩
  show c0 :: _ = _
  rw [hd2, List.takeWhile_append_of_pos hw'a, htw, List.append_nil, ← hcw]

theorem peekEscape_A {ps : PState} {s : Str} (hm : ps.f.enMacros = true) (ha : envAlpha ps.f = true)
    (p : Nat) (c : Char) (pre : Str) (w : TokErr) (ep : Nat) (t : Token) (rr : Nat)
    (h : peekEscape ps s p c pre = .err w ep t rr) : EnvErr w ep t rr (peekEscape (noEnvs ps) s p c pre) := by
  have hE : peekEscape (noEnvs ps) s p c pre =
      if c == ps.f.escapeChar then (if ps.f.enMacros then readMacro ps s p pre else peekComment ps s p c pre)
      else peekComment ps s p c pre := by
    unfold peekEscape
    rw [envWordAt_noEnvs rfl]
    rfl
  rw [hE]
  unfold peekEscape at h
  by_cases hc : (c == ps.f.escapeChar) = true
  · rw [if_pos hc] at h ⊢
    cases hw : envWordAt ps s p with
    | none => rw [hw] at h; left; exact h
    | some b =>
      rw [hw] at h
      dsimp only at h
      rw [if_pos hm]
      unfold readEnvironment at h
      cases hrn : readEnvName s (p + 1 + envWordLen b) with
      | none =>
        rw [hrn] at h
        dsimp only at h
        cases h
        right
        obtain ⟨t', h1, h2, h3, h4⟩ := readMacro_env pre hw (envAlpha_spec ha b)
        refine ⟨rfl, t', h1, h2, ?_, h4⟩
        rw [h3]
        cases b
        · right; rfl
        · left; rfl
      | some r => rw [hrn] at h; cases h
  · rw [if_neg hc] at h ⊢
    left; exact h

theorem mkPS_macroAlpha (f : PSFields) : (mkPS f).f.macroAlpha = f.macroAlpha := by
  rcases f with ⟨_ | _⟩ <;> rfl

theorem mkPS_forbidden (f : PSFields) : (mkPS f).f.forbidden = f.forbidden := by
  rcases f with ⟨_ | _⟩ <;> rfl

theorem mkPS_specials (f : PSFields) : (mkPS f).f.specials = f.specials := by
  rcases f with ⟨_ | _⟩ <;> rfl

theorem mkPS_escapeChar (f : PSFields) : (mkPS f).f.escapeChar = f.escapeChar := by
  rcases f with ⟨_ | _⟩ <;> rfl

theorem mkPS_groupClose (f : PSFields) : (mkPS f).t.groupClose = f.groupDelims.map (·.2) := by
  rcases f with ⟨_ | _⟩ <;> rfl

/-- the fields the expression parser reads its first token with -/
def exprFields (f : PSFields) : PSFields := ({ f with enEnvs := false } : PSFields).normalize

/-- **lexical errors, expression parser**: if the reader fails at `p` under `f`, then under the expression parser's
    state it fails in the same way, or (`\begin`/`\end` without a name) reads the macro `\begin` / `\end` -/
theorem err_exprFields {f : PSFields} (hm : f.enMacros = true) (ha : envAlpha f = true) (s : Str) (p : Nat)
    {w : TokErr} {ep : Nat} {t : Token} {rr : Nat} (h : peekTok false (mkPS f) s p = .err w ep t rr) :
    EnvErr w ep t rr (peekTok false (mkPS (exprFields f)) s p) := by
  rw [peekTok_false] at h ⊢
  unfold exprFields
  rw [mkPS_noEnvs]
  have ha' : envAlpha (mkPS f).f = true := by
    unfold envAlpha at ha ⊢
    rw [mkPS_macroAlpha]; exact ha
  exact peekImpl_err_lift (ps := mkPS f) (ps' := noEnvs (mkPS f)) rfl rfl rfl (fun _ _ => rfl)
    (peekEscape_A (by rw [mkPS_enMacros]; exact hm) ha') h

/-- the state with `[`, `]` appended to the group tables (see `err_brFields`) -/
@[reducible] def addBr (gd : Pairs) (ps : PState) : PState :=
  { f := { ps.f with groupDelims := gd },
    t := { ps.t with groupByOpen := ps.t.groupByOpen ++ [(['['], [']'])], groupClose := ps.t.groupClose ++ [[']']] } }

section errB
variable {ps : PState} {s : Str} {p : Nat} {c : Char} {pre : Str} {gd : Pairs} {w : TokErr} {ep : Nat} {t : Token} {rr : Nat}

theorem peekSpecialsOrChar_forbidden
    (h : peekSpecialsOrChar ps s p c pre = .err w ep t rr) : ps.f.forbidden.contains c = true :=
  peekSpecialsOrChar_cases (P := fun r => r = .err w ep t rr → _)
    (fun _ _ _ h => by cases h) (fun _ hf _ => hf) (fun _ _ h => by cases h) h

/- In the three lemmas below the answer under `ps` is taken apart by its case lemma; where it is an error, the same
   conditions lead the reader under `addBr gd ps` (which differs in the group tables only) to the same leaf. -/

theorem peekGroups_B (h1 : ps.f.forbidden.contains '[' = false) (h2 : ps.f.forbidden.contains ']' = false)
    (h : peekGroups ps s p c pre = .err w ep t rr) : peekGroups (addBr gd ps) s p c pre = .err w ep t rr := by
  refine peekGroups_cases (P := fun r => r = .err w ep t rr → _)
    (fun _ _ h => by cases h) (fun _ _ _ h => by cases h) (fun hno h => ?_) h
  -- a forbidden character: it is neither `[` nor `]`, so the longer tables do not catch it either
  have hf := peekSpecialsOrChar_forbidden h
  have hc1 : '[' ≠ c := by intro he; rw [← he, h1] at hf; cases hf
  have hc2 : ']' ≠ c := by intro he; rw [← he, h2] at hf; cases hf
  rw [peekGroups_eq_specialsOrChar (ps := addBr gd ps) fun hg => ?_]
  · exact h
  · show (ps.t.groupByOpen ++ [(['['], [']'])]).any _ = false ∧ (ps.t.groupClose ++ [[']']]).any _ = false
    rw [List.any_append, List.any_append, (hno hg).1, (hno hg).2]
    simp [hc1, hc2]

theorem peekComment_B (h1 : ps.f.forbidden.contains '[' = false) (h2 : ps.f.forbidden.contains ']' = false)
    (h : peekComment ps s p c pre = .err w ep t rr) : peekComment (addBr gd ps) s p c pre = .err w ep t rr := by
  refine peekComment_cases (P := fun r => r = .err w ep t rr → _)
    (fun _ _ _ _ h => by cases h) (fun _ _ _ _ _ _ _ h => by cases h) (fun hc h => ?_) h
  rw [peekComment_eq_groups (ps := addBr gd ps) hc]
  exact peekGroups_B h1 h2 h

theorem peekEscape_B (h1 : ps.f.forbidden.contains '[' = false) (h2 : ps.f.forbidden.contains ']' = false)
    (h : peekEscape ps s p c pre = .err w ep t rr) : peekEscape (addBr gd ps) s p c pre = .err w ep t rr := by
  refine peekEscape_cases (P := fun r => r = .err w ep t rr → _) ?envErr ?env ?escEnd ?word ?sym ?rest h
  case envErr =>
    intro b hc hb hn h
    rw [peekEscape_eq_env (ps := addBr gd ps) hc hb, ← h]
    unfold readEnvironment
    rw [hn]
  case escEnd =>
    intro hc hb hm h1 h
    rw [peekEscape_eq_macro (ps := addBr gd ps) hc hb hm, ← h]
    unfold readMacro
    rw [h1]
  case rest =>
    intro hr h
    rw [peekEscape_eq_comment (ps := addBr gd ps) hr]
    exact peekComment_B h1 h2 h
  all_goals intros; contradiction

end errB

/-- the fields the optional-argument group parser reads its first token with -/
def brFields (f : PSFields) : PSFields :=
  if f.groupDelims.contains (['['], [']']) then f else { f with groupDelims := f.groupDelims ++ [(['['], [']'])] }

theorem groupState_br (f : PSFields) : groupState (.pair ['['] [']']) f = some (brFields f) := by
  unfold groupState brFields
  dsimp only
  split <;> rfl

def brAllowed (f : PSFields) : Bool := !f.forbidden.contains '[' && !f.forbidden.contains ']'

/-- **lexical errors, optional group parser**: if the reader fails at `p` under `f`, it fails in the same way under
    the state with the square brackets as group delimiters -/
theorem err_brFields {f : PSFields} (hb : brAllowed f = true) (s : Str) (p : Nat)
    {w : TokErr} {ep : Nat} {t : Token} {rr : Nat} (h : peekTok false (mkPS f) s p = .err w ep t rr) :
    peekTok false (mkPS (brFields f)) s p = .err w ep t rr := by
  unfold brFields
  split
  · exact h
  · rw [peekTok_false] at h ⊢
    rw [mkPS_groupDelims]
    have hE : ({ f := { (mkPS f).f with groupDelims := f.groupDelims ++ [(['['], [']'])] },
                 t := { (mkPS f).t with groupByOpen := f.groupDelims ++ [(['['], [']'])],
                                        groupClose := (f.groupDelims ++ [(['['], [']'])]).map (·.2) } } : PState)
        = addBr (f.groupDelims ++ [(['['], [']'])]) (mkPS f) := by
      unfold addBr
      rw [mkPS_groupByOpen, mkPS_groupClose, List.map_append]
      rfl
    rw [hE]
    unfold brAllowed at hb
    simp only [Bool.and_eq_true, Bool.not_eq_eq_eq_not, Bool.not_true] at hb
    exact peekImpl_err_lift (ps := mkPS f) (ps' := addBr (f.groupDelims ++ [(['['], [']'])]) (mkPS f))
      (Q := fun w ep t rr r' => r' = .err w ep t rr) rfl rfl rfl (fun _ _ => rfl)
      (fun _ _ _ _ _ _ _ => peekEscape_B (by rw [mkPS_forbidden]; exact hb.1) (by rw [mkPS_forbidden]; exact hb.2)) h

/-- what a successful delimited-group parse returns: nothing, with the reader where it was, or a group node that
    ends at the reader -/
def GroupGood (p : Nat) : Ret → Prop
  | .ok res q => (res = .none ∧ q = p) ∨ ∃ nd, res = .node nd ∧ nd.posEnd = q ∧ stripArgs nd = nd
  | _ => True

theorem groupGood_of_ret {p : Nat} {r : Ret} (h : ∀ res q, r ≠ .ok res q) : GroupGood p r := by
  cases r with
  | ok res q => exact absurd rfl (h res q)
  | _ => trivial

/-- `GroupGood`, or — only from a mandatory group in tolerant mode — the recovered empty node list -/
def GroupRet (tol opt : Bool) (p : Nat) (r : Ret) : Prop :=
  GroupGood p r ∨ (tol = true ∧ opt = false ∧ ∃ a b c q, r = .ok (.list a b c) q)

theorem parseContent_sub {tol : Bool} {r : Ret} (hp : ∀ e, r = .perr e → tol = false) : parseContent tol (.ret r) = r := by
  cases r with
  | perr e => rw [hp e rfl]; rfl
  | _ => rfl

/-- `ParserFacts.group` and its tolerant-mode form: one unfolding of
    `parse_content(LatexDelimitedGroupParser(…))`, whatever the sub-parses return -/
theorem group_run (env : Env) (n : Nat) (d : GroupDelims) (opt ap : Bool) (f : PSFields) (p : Nat) :
    GroupRet env.tol opt p (run env n (.pc (.group d opt ap) f p)) := by
  cases n with
  | zero => exact Or.inl trivial
  | succ n =>
    show GroupRet env.tol opt p (parseContent env.tol (rawGroup env (run env n) d opt ap f p))
    refine rawGroup_elim (motive := fun raw => GroupRet env.tol opt p (parseContent env.tol raw))
      (fun _ _ => Or.inl trivial) (fun _ _ _ _ => Or.inl (Or.inl ⟨rfl, rfl⟩))
      (fun _ _ _ _ _ _ _ htol => by rw [htol]; exact Or.inl trivial) (fun g t _ hp => ?_)
    apply rawGroupTok_elim (motive := fun raw => GroupRet env.tol opt p (parseContent env.tol raw))
    case noCloser => exact fun _ _ _ => Or.inl trivial
    case ok => exact fun _ _ _ _ _ _ => Or.inl (Or.inr ⟨_, rfl, rfl, rfl⟩)
    case other =>
      intro _ _ _ hne
      rw [parseContent_sub fun _ h => run_pc_perr h]
      exact Or.inl (groupGood_of_ret hne)
    case absent => exact fun _ _ => Or.inl (Or.inl ⟨rfl, moveToToken_of_pos_eq (peekTok_read hp).1⟩)
    case notFound =>
      intro _ ho
      cases htol : env.tol with
      | false => exact Or.inl trivial
      | true => exact Or.inr ⟨rfl, ho, _, _, _, _, rfl⟩

/-- the expression parser's own `parse()`: a node ending at the reader; in tolerant mode also an error whose
    recovery node ends at the recovery position -/
def ExprRet (tol : Bool) : Ret → Prop
  | .ok res q => ∃ nd, res = .node nd ∧ nd.posEnd = q
  | .perr e => tol = true → ∃ nd, e.recNodes = .node nd ∧ nd.posEnd = recoverPos e
  | _ => True

/-- the whitespace / comment nodes skipped so far end at the reader -/
def SkOk (sk : List Node) (p : Nat) : Prop := ∀ n, sk.getLast? = some n → n.posEnd = p

theorem skOk_nil (p : Nat) : SkOk [] p := by intro n h; cases h

theorem skOk_snoc (sk : List Node) (x : Node) (p : Nat) (h : x.posEnd = p) : SkOk (sk ++ [x]) p := by
  intro n hn
  rw [List.getLast?_concat] at hn
  cases hn
  exact h

/-- one walk over `LatexExpressionParser.parse`: every way out of `exprStep` / `exprTok` / `exprOnTok` -/
theorem expr_run (env : Env) : ∀ n sk f p, SkOk sk p → ExprRet env.tol (run env n (.expr true sk f p)) := by
  intro n
  induction n with
  | zero => intros; trivial
  | succ n ih =>
    intro sk f p hsk
    have again : ∀ x q, x.posEnd = q → ExprRet env.tol (run env n (.expr true (sk ++ [x]) f q)) :=
      fun x q h => ih _ _ _ (skOk_snoc _ _ _ h)
    have done : ∀ x q, x.posEnd = q → ExprRet env.tol (exprFinish f (sk ++ [x]) q) :=
      fun x q h => by rw [exprFinish_snoc]; exact ⟨_, rfl, h⟩
    have strict : ∀ e, env.tol = false → ExprRet env.tol (.perr e) :=
      fun e h ht => by rw [h] at ht; cases ht
    show ExprRet env.tol (exprStep env (run env n) true sk f p)
    apply exprStep_elim
    case err => exact fun _ _ _ _ _ htol => strict _ htol
    case eosStrict => exact strict _
    case eosTolerant =>
      -- tolerant mode at the end of the input: the last skipped node, or an empty group at `p`
      intro _
      unfold exprFinish
      cases hl : sk.getLast? with
      | none => exact ⟨_, rfl, rfl⟩
      | some x => exact ⟨_, rfl, hsk x hl⟩
    case tok =>
      intro t _
      apply exprTok_elim
      case beginEndTolerant => exact fun _ _ _ => done _ _ rfl
      case beginEndStrict => exact fun _ _ => strict _
      case mac => exact fun _ _ => done _ _ rfl
      case specials => exact fun _ => done _ _ rfl
      case spaceKept => exact fun _ _ _ _ => again _ _ rfl
      case spaceSkipped => exact fun _ _ _ h => nomatch h
      case spaceStrict => exact fun _ _ _ h => nomatch h
      case onTok =>
        intro _ _ hpre
        apply exprOnTok_elim
        case commentKept => exact fun _ _ => again _ _ rfl
        case commentSkipped => exact fun _ h => nomatch h
        case commentStrict => exact fun _ h => nomatch h
        case group =>
          intro nd q _ hr
          have hg := group_run env n (.auto t.arg) false false f t.pos
          rw [hr] at hg
          rcases hg with (⟨h1, _⟩ | ⟨_, h1, h2, _⟩) | ⟨_, _, _, _, _, _, h1⟩
          · cases h1
          · cases h1; exact done _ _ h2
          · cases h1
        case groupOther =>
          intro _ hne
          cases hr : run env n (.pc (.group (.auto t.arg) false false) f t.pos) with
          | ok res q => exact absurd hr (hne res q)
          | perr e => exact strict e (run_pc_perr hr)
          | _ => trivial
        case braceClose =>
          refine fun _ _ => ⟨_, rfl, ?_⟩
          simp [recoverPos, moveToToken, hpre, Node.posEnd]
        case char => exact fun _ => done _ _ rfl
        case math =>
          refine fun _ _ => ⟨_, rfl, ?_⟩
          simp only [recoverPos, movePastToken, if_true]
          split <;> rfl
        case crash => exact fun _ _ => trivial

/-- `ParserFacts.expr`: a successful `parse_content(LatexExpressionParser())` returns a node and leaves the reader
    at its end (in tolerant mode it may be the recovery node of an error) -/
theorem expr_fact (env : Env) (m : Nat) (f : PSFields) (p : Nat) (res : Res) (q : Nat)
    (h : run env m (.pc (.expression true) f p) = .ok res q) : ∃ nd, res = .node nd ∧ nd.posEnd = q := by
  cases m with
  | zero => cases h
  | succ m =>
    have h' : parseContent env.tol (.ret (run env m (.expr true [] f p))) = .ok res q := h
    have hg := expr_run env m [] f p (skOk_nil p)
    refine parseContent_elim (motive := fun r => r = .ok res q → _) ?_ ?_ ?_ h'
    · intro _ he; cases he
    · intro e he hr
      rw [Raw.ret.inj he] at hg
      cases htol : env.tol with
      | false => rw [htol] at hr; cases hr
      | true => rw [htol] at hr; cases hr; exact hg htol
    · intro r he _ hr
      rw [Raw.ret.inj he, hr] at hg
      exact hg

/-- the decidable side conditions on the parsing state (all hold of the walker's default state):
    normalized, environments and macros enabled, the letters of `begin` / `end` are macro-name characters,
    the square brackets are not forbidden characters, `*` is not declared as specials -/
def SideOk (f : PSFields) : Prop :=
  f.normalize = f ∧ f.enEnvs = true ∧ f.enMacros = true ∧ envAlpha f = true ∧ brAllowed f = true ∧
  f.specials.contains ['*'] = false

instance (f : PSFields) : Decidable (SideOk f) := by unfold SideOk; infer_instance

/-- the decidable side conditions for tolerant mode: normalized, environments enabled, `*` is not declared as
    specials and is not the escape character -/
def SideOkT (f : PSFields) : Prop :=
  f.normalize = f ∧ f.enEnvs = true ∧ f.specials.contains ['*'] = false ∧ f.escapeChar ≠ '*'

instance (f : PSFields) : Decidable (SideOkT f) := by unfold SideOkT; infer_instance

/-- what is claimed of the legacy result `L` when the new parser fails with `e` (strict mode): the same error — or,
    when the new parser fails on a token error although the legacy one does not read that token under the same
    state: the legacy expression parser fails on the macro `\begin` / `\end` (unless it has no fuel at all) -/
def StrictErr (n : Nat) (e : PErr) (L : Ret) : Prop :=
  L = .perr e ∨ (e.what = .tokBadEnv ∧ ∃ e', L = .perr e' ∧ e'.what = .exprBeginEnd ∧ e'.pos = e.pos) ∨
  (n = 0 ∧ L = .fuel)

section slots
variable {env : Env} {sw : Sw} {f : PSFields}

theorem expr_err (htol : env.tol = false) (hm : f.enMacros = true) (ha : envAlpha f = true) (k p : Nat)
    {w : TokErr} {ep : Nat} {t : Token} {r : Nat} (hpk : peekTok false (mkPS f) env.s p = .err w ep t r) :
    ∃ e', run env (k + 2) (.pc (.expression true) f p) = .perr e' ∧
      (e' = { what := tokErrWhat w, pos := some ep, rpos := p } ∨
       (w = .badEnvName ∧ e'.what = .exprBeginEnd ∧ e'.pos = some ep)) := by
  have hrun : run env (k + 2) (.pc (.expression true) f p) = exprStep env (run env k) true [] f p := by
    show parseContent env.tol (.ret (exprStep env (run env k) true [] f p)) = _
    rw [htol, parseContent_strict]
  rw [hrun]
  unfold exprStep
  dsimp only
  rw [htol]
  rcases err_exprFields hm ha env.s p hpk with h | ⟨hw, t', h1, h2, h3, h4⟩
  · unfold exprFields at h
    rw [h]
    exact ⟨_, rfl, Or.inl rfl⟩
  · unfold exprFields at h1
    rw [h1]
    dsimp only
    unfold exprTok
    dsimp only
    have hk : (t'.kind == TokKind.macro) = true := by rw [h2]; rfl
    have hb : (t'.arg == "begin".toList || t'.arg == "end".toList) = true := by
      rcases h3 with h3 | h3 <;> rw [h3] <;> rfl
    rw [if_pos hk, if_pos hb, htol]
    exact ⟨_, rfl, Or.inr ⟨hw, rfl, by rw [← h4]⟩⟩

theorem group_err (htol : env.tol = false) (hb : brAllowed f = true) (k p : Nat)
    {w : TokErr} {ep : Nat} {t : Token} {r : Nat} (hpk : peekTok false (mkPS f) env.s p = .err w ep t r) :
    run env (k + 1) (.pc (.group (.pair ['['] [']']) true true) f p)
      = .perr { what := tokErrWhat w, pos := some ep, rpos := p } := by
  show parseContent env.tol (rawGroup env (run env k) (.pair ['['] [']']) true true f p) = _
  unfold rawGroup
  rw [groupState_br]
  dsimp only
  rw [htol, err_brFields hb env.s p hpk]
  rfl

/-- strict mode, a token error at `p` under `f` (where `LatexArgumentsParser.parse` stops): what the parser of the
    slot makes of it -/
theorem slot_err (htol : env.tol = false) (hs : SideOk f) (n : Nat) (argt : LArgT) (p : Nat)
    {w : TokErr} {ep : Nat} {t : Token} {r : Nat} (hpk : peekTok env.tol (mkPS f) env.s p = .err w ep t r) :
    ErrSlot (StrictErr n) { what := tokErrWhat w, pos := some ep, rpos := p }
      (run env (n + 1) (.pc (argParser (specOf argt).kind) f p)) := by
  obtain ⟨_, _, hma, hal, hbr, _⟩ := hs
  rw [htol] at hpk
  cases argt with
  | mand =>
    cases n with
    | zero => exact Or.inl ⟨rfl, Or.inr (Or.inr ⟨rfl, rfl⟩)⟩
    | succ k =>
      obtain ⟨e', hr, he⟩ := expr_err htol hma hal k p hpk
      refine Or.inr ⟨e', hr, ?_⟩
      rcases he with he | ⟨hw, h1, h2⟩
      · rw [he]; exact Or.inl rfl
      · refine Or.inr (Or.inl ⟨?_, e', rfl, h1, h2⟩)
        show tokErrWhat w = _
        rw [hw]; rfl
  | opt => exact Or.inr ⟨_, group_err htol hbr n p hpk, Or.inl rfl⟩
  | star =>
    refine Or.inr ⟨_, ?_, Or.inl rfl⟩
    show parseContent env.tol (rawMarker env '*' false true f p) = _
    unfold rawMarker
    rw [htol, hpk]
    rfl

/-- the three facts of `ParserFacts` hold at every position, in either mode: every slot agrees -/
theorem slot_ok (h23 : sw.f23 = true) (hop : sw.optPre = true) (hsb : env.tol = false → sw.strictBrace = true)
    (hfn : f.normalize = f) (hen : f.enEnvs = true) (hst : f.specials.contains ['*'] = false)
    (hesc : env.tol = true → f.escapeChar ≠ '*') (l : List LArgT) (n j : Nat) (argt : LArgT) (p : Nat) :
    SlotAgree (legacyArgStep env sw (n + 1) f f { spec := l } j argt p)
      (run env (n + 1) (.pc (argParser (specOf argt).kind) f p)) := by
  refine slot_agree h23 hop hsb hfn hen (expr_fact env (n + 1) f p) ?_ ?_ j argt
  · intro res q h
    rcases group_run env (n + 1) (.pair ['['] [']']) true true f p with hg | ⟨_, hf, _⟩
    · rw [h] at hg
      exact hg
    · cases hf
  · intro t ht
    refine star_fact (ps := mkPS f) ?_ (fun h => by rw [mkPS_escapeChar]; exact hesc h) ht
    rw [mkPS_specials]
    intro hmem
    rw [List.contains_iff_mem.mpr hmem] at hst
    cases hst

end slots

/-- **C16_legacy_args.**  For every argument string over `{*, [, {}` (induction on the string), in strict mode, on
    the repaired code, for every parsing state satisfying the decidable conditions `SideOk` (the walker's default
    state does), every context, input, position and amount of fuel — no assumption on the input (in particular it
    may contain token errors) and none on the parser:
    `MacroStandardArgsParser.parse_args` behind the legacy wrapper and `LatexArgumentsParser.parse`
    * succeed together, with the same argument nodes (`nodeargd` erased on bare macro / specials arguments) and
      the same final reader position;
    * fail together: with the same error, except that where the new parser stops at a malformed
      `\begin` / `\end` (token error) before a mandatory argument, the legacy parser reports
      "expression required, got `\begin`/`\end`" at the same position;
    * crash / run out of fuel together. -/
theorem C16_legacy_args (env : Env) (htol : env.tol = false) (sw : Sw) (h23 : sw.f23 = true)
    (hsb : sw.strictBrace = true) (hop : sw.optPre = true) (f : PSFields) (hs : SideOk f)
    (a : Str) (l : List LArgT) (ha : strLArgs a = some l) (n pos : Nat) :
    (∀ lp le as q, run env (n + 2) (.pc (.arguments (newOfStr a)) f pos) = .ok (.args lp le as) q →
        legacyParseArgs env sw (n + 1) f f { spec := l } pos = .ok (.args (some pos) (some q) (as.map stripArg)) q) ∧
    (∀ e, run env (n + 2) (.pc (.arguments (newOfStr a)) f pos) = .perr e → 1 ≤ n →
        legacyParseArgs env sw (n + 1) f f { spec := l } pos = .perr e ∨
        (e.what = .tokBadEnv ∧ ∃ e', legacyParseArgs env sw (n + 1) f f { spec := l } pos = .perr e' ∧
          e'.what = .exprBeginEnd ∧ e'.pos = e.pos)) ∧
    (∀ k, run env (n + 2) (.pc (.arguments (newOfStr a)) f pos) = .crash k →
        legacyParseArgs env sw (n + 1) f f { spec := l } pos = .crash k) ∧
    (run env (n + 2) (.pc (.arguments (newOfStr a)) f pos) = .fuel →
        legacyParseArgs env sw (n + 1) f f { spec := l } pos = .fuel) ∧
    (∀ x, run env (n + 2) (.pc (.arguments (newOfStr a)) f pos) = .loopEnd x →
        legacyParseArgs env sw (n + 1) f f { spec := l } pos = .crash "loopEnd") ∧
    (∀ res q, run env (n + 2) (.pc (.arguments (newOfStr a)) f pos) = .ok res q → ∃ lp le as, res = .args lp le as) := by
  have hag := args_agree (E := StrictErr n) (sw := sw)
    (slot_ok h23 hop (fun _ => hsb) hs.1 hs.2.1 hs.2.2.2.2.2 (fun h => by rw [htol] at h; cases h) l n)
    (fun e _ => Or.inl rfl) (fun argt p w ep t r h => slot_err htol hs n argt p h) ha (fun _ _ _ => htol) pos
  obtain ⟨h1, h2, h3, h4, h5, h6⟩ := hag.cases
  refine ⟨h1, fun e h hn => ?_, h3, h4, h5, h6⟩
  rcases h2 e h with hL | hL | ⟨h0, _⟩
  · exact Or.inl hL
  · exact Or.inr hL
  · omega

/-- **fail exactly when**: with at least two units of fuel below the arguments parser, the legacy algorithm succeeds
    exactly when the new one does, and fails (raises a parse error) exactly when the new one does -/
theorem C16_legacy_args_iff (env : Env) (htol : env.tol = false) (sw : Sw) (h23 : sw.f23 = true)
    (hsb : sw.strictBrace = true) (hop : sw.optPre = true) (f : PSFields) (hs : SideOk f)
    (a : Str) (l : List LArgT) (ha : strLArgs a = some l) (n pos : Nat) (hn : 1 ≤ n) :
    ((∃ r q, legacyParseArgs env sw (n + 1) f f { spec := l } pos = .ok r q) ↔
      (∃ r q, run env (n + 2) (.pc (.arguments (newOfStr a)) f pos) = .ok r q)) ∧
    ((∃ e, legacyParseArgs env sw (n + 1) f f { spec := l } pos = .perr e) ↔
      (∃ e, run env (n + 2) (.pc (.arguments (newOfStr a)) f pos) = .perr e)) := by
  obtain ⟨h1, h2, h3, h4, h5, h6⟩ := C16_legacy_args env htol sw h23 hsb hop f hs a l ha n pos
  cases hN : run env (n + 2) (.pc (.arguments (newOfStr a)) f pos) with
  | ok res q =>
    obtain ⟨lp, le, as, rfl⟩ := h6 res q hN
    rw [h1 lp le as q hN]
    simp
  | perr e =>
    rcases h2 e hN hn with hL | ⟨_, e', hL, _⟩ <;> rw [hL] <;> simp
  | crash k => rw [h3 k hN]; simp
  | fuel => rw [h4 hN]; simp
  | loopEnd x => rw [h5 x hN]; simp

/-- **C16_legacy_args_tolerant.**  The same in tolerant mode (no condition on `strict_braces`): for every argument
    string over `{*, [, {}`, every parsing state satisfying the decidable conditions `SideOkT`, every context, input,
    position and amount of fuel: neither algorithm fails; they return the same argument nodes (`nodeargd` erased on
    bare macro / specials arguments) and the same final reader position; they crash / run out of fuel together. -/
theorem C16_legacy_args_tolerant (env : Env) (htol : env.tol = true) (sw : Sw) (h23 : sw.f23 = true)
    (hop : sw.optPre = true) (f : PSFields) (hs : SideOkT f)
    (a : Str) (l : List LArgT) (ha : strLArgs a = some l) (n pos : Nat) :
    (∀ lp le as q, run env (n + 2) (.pc (.arguments (newOfStr a)) f pos) = .ok (.args lp le as) q →
        legacyParseArgs env sw (n + 1) f f { spec := l } pos = .ok (.args (some pos) (some q) (as.map stripArg)) q) ∧
    (∀ e, run env (n + 2) (.pc (.arguments (newOfStr a)) f pos) ≠ .perr e ∧
        legacyParseArgs env sw (n + 1) f f { spec := l } pos ≠ .perr e) ∧
    (∀ k, run env (n + 2) (.pc (.arguments (newOfStr a)) f pos) = .crash k →
        legacyParseArgs env sw (n + 1) f f { spec := l } pos = .crash k) ∧
    (run env (n + 2) (.pc (.arguments (newOfStr a)) f pos) = .fuel →
        legacyParseArgs env sw (n + 1) f f { spec := l } pos = .fuel) ∧
    (∀ x, run env (n + 2) (.pc (.arguments (newOfStr a)) f pos) = .loopEnd x →
        legacyParseArgs env sw (n + 1) f f { spec := l } pos = .crash "loopEnd") ∧
    (∀ res q, run env (n + 2) (.pc (.arguments (newOfStr a)) f pos) = .ok res q → ∃ lp le as, res = .args lp le as) := by
  have hag := args_agree (E := fun _ _ => False) (sw := sw)
    (slot_ok h23 hop (fun h => by rw [htol] at h; cases h) hs.1 hs.2.1 hs.2.2.1 (fun _ => hs.2.2.2) l n)
    (fun e h => by rw [htol] at h; cases h)
    (fun argt p w ep t r h => by rw [htol] at h; exact absurd h peekTok_tol_no_err) ha (fun _ _ h => h.elim) pos
  obtain ⟨h1, h2, h3, h4, h5, h6⟩ := hag.cases
  refine ⟨h1, fun e => ⟨h2 e, ?_⟩, h3, h4, h5, h6⟩
  unfold legacyParseArgs
  rw [htol]
  exact parseContent_tolerant_ne_perr _ e

/-- tolerant mode: the legacy algorithm returns a result exactly when the new one does (for every amount of fuel) -/
theorem C16_legacy_args_tolerant_iff (env : Env) (htol : env.tol = true) (sw : Sw) (h23 : sw.f23 = true)
    (hop : sw.optPre = true) (f : PSFields) (hs : SideOkT f)
    (a : Str) (l : List LArgT) (ha : strLArgs a = some l) (n pos : Nat) :
    (∃ r q, legacyParseArgs env sw (n + 1) f f { spec := l } pos = .ok r q) ↔
      (∃ r q, run env (n + 2) (.pc (.arguments (newOfStr a)) f pos) = .ok r q) := by
  obtain ⟨h1, h2, h3, h4, h5, h6⟩ := C16_legacy_args_tolerant env htol sw h23 hop f hs a l ha n pos
  cases hN : run env (n + 2) (.pc (.arguments (newOfStr a)) f pos) with
  | ok res q =>
    obtain ⟨lp, le, as, rfl⟩ := h6 res q hN
    rw [h1 lp le as q hN]
    simp
  | perr e => exact absurd hN (h2 e).1
  | crash k => rw [h3 k hN]
  | fuel => rw [h4 hN]
  | loopEnd x => rw [h5 x hN]; simp

/-- the walker's default parsing state satisfies the side conditions -/
example : SideOk {} := by decide

/-- … and so does the walker's default state for the default latex context (its specials: `~`, `&`, …) -/
example : SideOk { specials := Gen.defaultCtx.specials.map (·.1) } := by decide

example : SideOkT {} := by decide
example : SideOkT { specials := Gen.defaultCtx.specials.map (·.1) } := by decide

theorem argsSummary_some {r : Ret} {bs : List Bool} {q : Nat} (h : argsSummary r = some (bs, q)) :
    ∃ lp le as, r = .ok (.args lp le as) q ∧ as.length = bs.length := by
  cases r with
  | ok res q' =>
    cases res with
    | args lp le as =>
      simp only [argsSummary, Option.some.injEq, Prod.mk.injEq] at h
      obtain ⟨h1, rfl⟩ := h
      exact ⟨lp, le, as, rfl, by rw [← h1, List.length_map]⟩
    | _ => cases h
  | _ => cases h

/-- `C16_legacy_args` on `\m*[b]{a}x` at the position after `\m`, argument string `*[{`: both succeed, three
    arguments, reader after `{a}` -/
example : ∃ as, legacyParseArgs (wEnv false "\\m*[b]{a}x") Sw.repaired 13 {} {} { spec := [.star, .opt, .mand] } 2
      = .ok (.args (some 2) (some 9) as) 9 ∧ as.length = 3 := by
  obtain ⟨lp, le, as, h, hl⟩ := argsSummary_some
    (show argsSummary (run (wEnv false "\\m*[b]{a}x") 14 (.pc (.arguments (newOfStr ['*', '[', '{'])) {} 2))
      = some ([true, true, true], 9) by decide)
  exact ⟨as.map stripArg, (C16_legacy_args (wEnv false "\\m*[b]{a}x") rfl Sw.repaired rfl rfl rfl {} (by decide)
    ['*', '[', '{'] [.star, .opt, .mand] rfl 12 2).1 lp le as 9 h, by rw [List.length_map, hl]; rfl⟩

/-- `C16_legacy_args_tolerant` on `\\m* [b` (unclosed bracket) with the argument string `*[{`: both recover -/
example : ∃ as q, legacyParseArgs (wEnv true "\\m* [b") Sw.repaired 13 {} {} { spec := [.star, .opt, .mand] } 2
      = .ok (.args (some 2) (some q) as) q ∧ as.length = 3 := by
  obtain ⟨lp, le, as, h, hl⟩ := argsSummary_some
    (show argsSummary (run (wEnv true "\\m* [b") 14 (.pc (.arguments (newOfStr ['*', '[', '{'])) {} 2))
      = some ([true, true, true], 6) by decide)
  exact ⟨as.map stripArg, 6, (C16_legacy_args_tolerant (wEnv true "\\m* [b") rfl Sw.repaired rfl rfl {} (by decide)
    ['*', '[', '{'] [.star, .opt, .mand] rfl 12 2).1 lp le as 6 h, by rw [List.length_map, hl]; rfl⟩

def retWhat : Ret → Option ErrWhat
  | .perr e => some e.what
  | _ => none

def rawWhat : Raw → Option ErrWhat
  | .ret r => retWhat r
  | .eos _ => none

theorem retIsPerr_elim {r : Ret} (h : retIsPerr r = true) : ∃ e, r = .perr e := by
  cases r with
  | perr e => exact ⟨e, rfl⟩
  | _ => cases h

/-- `C16_legacy_args` on `\begin x` (a token error), argument string `{`: both fail -/
example : retIsPerr (legacyParseArgs (wEnv false "\\begin x") Sw.repaired 13 {} {} { spec := [.mand] } 0) = true := by
  obtain ⟨e, he⟩ := (C16_legacy_args_iff (wEnv false "\\begin x") rfl Sw.repaired rfl rfl rfl {} (by decide)
    ['{'] [.mand] rfl 12 0 (by decide)).2.mpr (retIsPerr_elim
      (show retIsPerr (run (wEnv false "\\begin x") 14 (.pc (.arguments (newOfStr ['{'])) {} 0)) = true by decide))
  rw [he]
  rfl

/-- **Counterexample to `C16_legacy_args_full`** (default state, default-like context): on `\begin x` with the
    argument string `{` both algorithms fail, but not with the same error — the new parser reports the token error
    (`peek_token_or_none` reads with environments enabled), the legacy one "expression required, got `\begin`" (the
    expression parser reads with environments disabled). -/
theorem C16_begin_error_kinds :
    retWhat (parseArgsVia (wEnv false "\\begin x") Sw.repaired 14 {} {} (.newStr ['{']) 0) = some .tokBadEnv ∧
    retWhat (parseArgsVia (wEnv false "\\begin x") Sw.repaired 14 {} {} (.posObj ['{']) 0) = some .exprBeginEnd := by
  decide

theorem agree_what {pos : Nat} {L : Raw} {N : Ret} {w : ErrWhat} (h : Agree pos L N) (hN : retWhat N = some w) :
    rawWhat L = some w := by
  cases N with
  | perr e =>
    have h' : L = .ret (.perr e) := h
    rw [h']
    exact hN
  | _ => cases hN

/-- the full statement of C16 ("the same error") is false -/
theorem C16_legacy_args_full_false : ¬ C16_legacy_args_full := by
  intro h
  have h1 := agree_what
    (h (wEnv false "\\begin x") rfl Sw.repaired rfl rfl rfl {} rfl rfl (by decide) ['{'] [.mand] rfl 12 0)
    (show retWhat (run (wEnv false "\\begin x") 14 (.pc (.arguments (newOfStr ['{'])) {} 0)) = some .tokBadEnv
      by decide)
  have hL : rawWhat (rawLegacyArgs (wEnv false "\\begin x") Sw.repaired 13 {} {} { spec := [.mand] } 0)
      = some .exprBeginEnd := by decide
  rw [hL] at h1
  cases h1

def retIsOk : Ret → Bool
  | .ok _ _ => true
  | _ => false

/-- the side conditions of `C16_legacy_args` are needed: dropping any of the three that `C16_legacy_args_full`
    does not have, the new parser fails (token error) where the legacy one succeeds —
    `b` not a macro-name character (`\begin x` is then `\b` for the expression parser);
    macros disabled (`\` is then an ordinary character for the expression parser);
    `[` a forbidden character (for the group parser `[` is a delimiter, read before forbidden characters are checked) -/
theorem C16_side_conditions_needed :
    (retIsPerr (parseArgsVia (wEnv false "\\begin x") Sw.repaired 14 { macroAlpha := ['a'] } { macroAlpha := ['a'] } (.newStr ['{']) 0) = true ∧
     retIsOk (parseArgsVia (wEnv false "\\begin x") Sw.repaired 14 { macroAlpha := ['a'] } { macroAlpha := ['a'] } (.posObj ['{']) 0) = true) ∧
    (retIsPerr (parseArgsVia (wEnv false "\\begin x") Sw.repaired 14 { enMacros := false } { enMacros := false } (.newStr ['{']) 0) = true ∧
     retIsOk (parseArgsVia (wEnv false "\\begin x") Sw.repaired 14 { enMacros := false } { enMacros := false } (.posObj ['{']) 0) = true) ∧
    (retIsPerr (parseArgsVia (wEnv false "[a]") Sw.repaired 14 { forbidden := ['['] } { forbidden := ['['] } (.newStr ['[']) 0) = true ∧
     retIsOk (parseArgsVia (wEnv false "[a]") Sw.repaired 14 { forbidden := ['['] } { forbidden := ['['] } (.posObj ['[']) 0) = true) := by
  decide

/-- the extra tolerant-mode condition is needed: with `*` as the escape character, the recovery placeholder of the
    malformed `*begin x` is a `char` token whose text begins with `*` — the legacy parser takes it for a star, the
    new one does not -/
theorem C16_tolerant_escape_star_needed :
    argsSummary (parseArgsVia (wEnv true "*begin x") Sw.repaired 14 { escapeChar := '*' } { escapeChar := '*' } (.newStr ['*']) 0)
      = some ([false], 0) ∧
    argsSummary (parseArgsVia (wEnv true "*begin x") Sw.repaired 14 { escapeChar := '*' } { escapeChar := '*' } (.posObj ['*']) 0)
      = some ([true], 1) := by decide

#print axioms C16_legacy_args
#print axioms C16_legacy_args_iff
#print axioms C16_legacy_args_tolerant
#print axioms C16_legacy_args_tolerant_iff
#print axioms C16_legacy_args_full_false
#print axioms C16_side_conditions_needed
#print axioms C16_tolerant_escape_star_needed

end Pylx.Legacy.C16P
