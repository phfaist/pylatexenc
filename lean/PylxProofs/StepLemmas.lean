/-
  What each function of `Pylx.Parse` does on each form of its input, and how a statement about one `step`
  becomes a statement about `run`.

  A property of the parser is a contract `P : Task → Ret → Prop`; `run_inv` reduces it to one `step` over an
  arbitrary `rec` that already satisfies it.  Inside the step, the functions that branch on a token or on a sub-parse's result have an eliminator `F_elim`,
  which proves `motive (F …)` from one premise per outcome; the premises carry everything the case analysis found out.
  The eliminators are applied with `apply`/`refine`: write the goal as a predicate whose last argument is the
  call (`LoopPost … (loopDispatch …)`), so that the motive is found by unification.  Equations
  (`F_case : conditions → F … = …`) are there for the functions a proof evaluates on a given input.
-/
import PylxProofs.ParseSpec
namespace Pylx

theorem run_step (env : Env) (n : Nat) (t : Task) : run env (n + 1) t = step env (run env n) t := rfl

theorem run_inv {env : Env} {P : Task → Ret → Prop} (fuel : ∀ t, P t .fuel)
    (step : ∀ rec, (∀ t, P t (rec t)) → ∀ t, P t (step env rec t)) : ∀ n t, P t (run env n t)
  | 0 => fuel
  | n + 1 => step _ (run_inv fuel step n)

/-- `run_inv` for a contract that mentions the fuel; the step is about `rec = run env n`, so that what is already
    known of every run may be used in it -/
theorem run_inv_fuel {env : Env} {P : Nat → Task → Ret → Prop} (fuel : ∀ t, P 0 t .fuel)
    (step : ∀ n, (∀ t, P n t (run env n t)) → ∀ t, P (n + 1) t (step env (run env n) t)) :
    ∀ n t, P n t (run env n t)
  | 0 => fuel
  | n + 1 => step n (run_inv_fuel fuel step n)

theorem run_rel {e1 e2 : Env} {R : Task → Ret → Ret → Prop} (k : Nat) (fuel : ∀ t, R t .fuel (run e2 k t))
    (step : ∀ r1 r2, (∀ t, R t (r1 t) (r2 t)) → ∀ t, R t (step e1 r1 t) (step e2 r2 t)) :
    ∀ n t, R t (run e1 n t) (run e2 (n + k) t)
  | 0 => by rw [Nat.zero_add]; exact fuel
  | n + 1 => by rw [Nat.add_right_comm]; exact step _ _ (run_rel k fuel step n)

section equations
variable {env : Env} {rec : Task → Ret} {f : PSFields} {pos : Nat}

theorem step_pc (p : Parser) : step env rec (.pc p f pos) = parseContent env.tol (rawParse env rec p f pos) := rfl
theorem step_loop (stop : StopTok) (child : ChildPS) (st : LoopSt) :
    step env rec (.loop f stop child st) = loopStep env rec f stop child st := rfl

theorem rawParse_general (stop : StopTok) (require : Bool) (child : ChildPS) :
    rawParse env rec (.general stop require child) f pos = rawGeneral rec stop require child f pos := rfl
theorem rawParse_math (d : Str) : rawParse env rec (.math d) f pos = rawMath env rec d f pos := rfl

end equations

/-- not a global instance, since as one it changes what `simp` does with `==` on token kinds in every importing
    file; switch it on where wanted with `attribute [local instance] TokKind.lawfulBEq` -/
theorem TokKind.lawfulBEq : LawfulBEq TokKind where
  rfl {a} := by cases a <;> rfl
  eq_of_beq {a b} h := by cases a <;> cases b <;> first | rfl | cases h

attribute [local instance] TokKind.lawfulBEq

theorem TokKind.beq_true_iff {a b : TokKind} : (a == b) = true ↔ a = b := beq_iff_eq

theorem moveToToken_true (t : Token) : moveToToken t true = t.pos - t.pre.length := rfl

theorem moveToToken_of_pos_eq {t : Token} {p0 : Nat} (h : t.pos = p0 + t.pre.length) : moveToToken t true = p0 := by
  rw [moveToToken_true, h, Nat.add_sub_cancel]

theorem peekTok_err_strict {tol : Bool} {ps : PState} {s : Str} {p : Nat} {w : TokErr} {ep : Nat} {t : Token} {r : Nat}
    (h : peekTok tol ps s p = .err w ep t r) : tol = false := by
  cases tol with
  | false => rfl
  | true =>
    unfold peekTok at h
    split at h
    · cases h
    · rename_i hne; exact absurd h (hne _ _ _ _)

/-- where `parse_content` puts the reader after a recovered error -/
def recoverPos (e : PErr) : Nat :=
  match e.recAt with
  | some t => moveToToken t true
  | none =>
    match e.recPast with
    | some t => movePastToken t true
    | none => e.rpos

section parseContent
variable {tol : Bool}

theorem parseContent_perr (e : PErr) :
    parseContent tol (.ret (.perr e)) = if tol then .ok e.recNodes (recoverPos e) else .perr e := rfl
theorem parseContent_strict (r : Ret) : parseContent false (.ret r) = r := by cases r <;> rfl

theorem parseContent_ret {r : Ret} (h : ∀ e, r ≠ .perr e) : parseContent tol (.ret r) = r := by
  cases r with
  | perr e => exact absurd rfl (h e)
  | _ => rfl

theorem parseContent_elim {motive : Ret → Prop} {raw : Raw}
    (eos : ∀ p, raw = .eos p → motive (.ok .none p))
    (perr : ∀ e, raw = .ret (.perr e) → motive (if tol then .ok e.recNodes (recoverPos e) else .perr e))
    (ret : ∀ r, raw = .ret r → (∀ e, r ≠ .perr e) → motive r) : motive (parseContent tol raw) := by
  cases raw with
  | eos p => exact eos p rfl
  | ret r =>
    cases r with
    | perr e => exact perr e rfl
    | _ => exact ret _ rfl (fun _ h => nomatch h)

theorem parseContent_tolerant_ne_perr (raw : Raw) (e : PErr) : parseContent true raw ≠ .perr e := by
  refine parseContent_elim (motive := fun r => r ≠ .perr e) ?_ ?_ ?_
  · intro _ _ h; cases h
  · intro _ _ h; cases h
  · intro r _ hr h; exact hr e h

theorem run_pc_perr {env : Env} {n : Nat} {p : Parser} {f : PSFields} {pos : Nat} {e : PErr}
    (h : run env n (.pc p f pos) = .perr e) : env.tol = false := by
  cases n with
  | zero => cases h
  | succ n =>
    cases htol : env.tol with
    | false => rfl
    | true => rw [run_step, step_pc, htol] at h; exact absurd h (parseContent_tolerant_ne_perr _ _)

/-- `P` holds of what `parse_content` makes of a parser's own result.  The Raw-level form of a contract on
    `.pc` tasks: `P (step env rec (.pc p f pos))` is `RawSat env.tol P (rawParse env rec p f pos)`. -/
def RawSat (tol : Bool) (P : Ret → Prop) (raw : Raw) : Prop := P (parseContent tol raw)

theorem rawSat_strict {P : Ret → Prop} {r : Ret} : RawSat false P (.ret r) ↔ P r := by
  unfold RawSat; rw [parseContent_strict]

end parseContent

/-! The contracts on `.pc` and `.expr` tasks share a shape: a result satisfies `Q`; a parse error leaves
    `parse_content` in strict mode only, and in tolerant mode its recovery value is the result. -/

def PcContract (tol : Bool) (Q : Res → Prop) : Ret → Prop
  | .ok res _ => Q res
  | .perr _ => tol = false
  | _ => True

/-- contract on an `.expr` task: its errors are not yet wrapped by `parse_content` -/
def ExprContract (tol : Bool) (Q : Res → Prop) : Ret → Prop
  | .ok res _ => Q res
  | .perr e => tol = false ∨ Q e.recNodes
  | _ => True

section
variable {tol : Bool} {Q : Res → Prop}

theorem pcContract_perr {e : PErr} (h : tol = true → Q e.recNodes) : RawSat tol (PcContract tol Q) (.ret (.perr e)) := by
  cases tol with
  | false => exact rfl
  | true => exact h rfl

theorem pcContract_strict {e : PErr} (htol : tol = false) : RawSat tol (PcContract tol Q) (.ret (.perr e)) :=
  pcContract_perr fun h => nomatch htol.symm.trans h

/-- what a sub-parse returned other than a result is passed on unchanged by every parser -/
theorem pcContract_pass {Q' : Res → Prop} {r : Ret} (h : PcContract tol Q' r) (hne : ∀ res pos, r ≠ .ok res pos) :
    RawSat tol (PcContract tol Q) (.ret r) := by
  cases r with
  | ok res pos => exact absurd rfl (hne res pos)
  | perr e => exact pcContract_strict h
  | _ => trivial

/-- the expression parser hands on what its `.expr` task returned -/
theorem pcContract_expr {r : Ret} (h : ExprContract tol Q r) : RawSat tol (PcContract tol Q) (.ret r) := by
  cases r with
  | ok res pos => exact h
  | perr e => exact pcContract_perr fun htol => h.resolve_left fun hf => nomatch htol.symm.trans hf
  | _ => trivial

/-- an `.expr` task that hands on what a sub-parse returned other than a result -/
theorem exprContract_pass {Q' : Res → Prop} {r : Ret} (h : PcContract tol Q' r) (hne : ∀ res pos, r ≠ .ok res pos) :
    ExprContract tol Q r := by
  cases r with
  | ok res pos => exact absurd rfl (hne res pos)
  | perr e => exact Or.inl h
  | _ => trivial

end

theorem ChildPS.get_group (o : Str) (contents outer f : PSFields) (t : Token) :
    (ChildPS.group o contents outer).get f t = contents ∨ (ChildPS.group o contents outer).get f t = outer := by
  unfold ChildPS.get
  dsimp only
  split
  · exact .inl rfl
  · exact .inr rfl

theorem groupState_some {d : GroupDelims} {f g : PSFields} (h : groupState d f = some g) :
    g = f ∨ ∃ o c, d = .pair o c ∧ g = { f with groupDelims := f.groupDelims ++ [(o, c)] } := by
  unfold groupState at h
  cases d with
  | auto o =>
    dsimp only at h
    split at h
    · cases h; exact .inl rfl
    · cases h
  | pair o c =>
    dsimp only at h
    split at h
    · cases h; exact .inl rfl
    · cases h; exact .inr ⟨o, c, rfl, rfl⟩

section bind
variable {k : Res → Nat → Raw}

theorem bindOk_elim {motive : Raw → Prop} {r : Ret}
    (ok : ∀ res p, r = .ok res p → motive (k res p))
    (other : (∀ res p, r ≠ .ok res p) → motive (.ret r)) : motive (bindOk r k) := by
  cases r with
  | ok res p => exact ok res p rfl
  | _ => exact other (fun _ _ h => nomatch h)

variable {kl : LoopEnd → Raw}

theorem retOfLoop_elim {motive : Raw → Prop} {r : Ret}
    (loopEnd : ∀ e, r = .loopEnd e → motive (kl e))
    (fuel : r = .fuel → motive (.ret .fuel))
    (crash : ∀ c, (∀ e, r ≠ .loopEnd e) → r ≠ .fuel → motive (.ret (.crash c))) : motive (retOfLoop r kl) := by
  cases r with
  | loopEnd e => exact loopEnd e rfl
  | fuel => exact fuel rfl
  | _ => exact crash _ (fun _ h => nomatch h) (fun h => nomatch h)

end bind

section collector
variable {env : Env} {rec : Task → Ret} {f : PSFields} {stop : StopTok} {child : ChildPS} {st : LoopSt}

theorem LoopSt.flush_nil (h : st.pend = []) : st.flush f = st := by
  unfold LoopSt.flush; rw [h]; rfl

theorem LoopSt.flush_cons (h : st.pend ≠ []) : st.flush f =
    { st with acc := st.acc ++ [Node.chars (st.pendPos.getD 0) (st.pendPos.getD 0 + st.pend.length) (psInfo f) st.pend],
              pend := [], pendPos := none } := by
  unfold LoopSt.flush
  rw [if_neg (fun he => h (List.isEmpty_iff.mp he))]

theorem LoopSt.flush_pos : (st.flush f).pos = st.pos := by
  unfold LoopSt.flush; split <;> rfl

theorem LoopSt.flush_pend : (st.flush f).pend = [] := by
  unfold LoopSt.flush
  split
  · rename_i h; exact List.isEmpty_iff.mp h
  · rfl

theorem LoopSt.flushBefore_pend {t : Token} (h : st.pend ≠ []) :
    st.flushBefore f t = ({ st with pend := st.pend ++ t.pre } : LoopSt).flush f := by
  unfold LoopSt.flushBefore
  rw [if_pos (by rw [Bool.not_eq_true', ← Bool.not_eq_true, List.isEmpty_iff]; exact h)]

theorem LoopSt.flushBefore_pre {t : Token} (h : st.pend = []) (hp : t.pre ≠ []) : st.flushBefore f t =
    { st with acc := st.acc ++ [Node.chars (t.pos - t.pre.length) t.pos (psInfo f) t.pre] } := by
  unfold LoopSt.flushBefore
  rw [h, if_neg (by decide), if_pos (by rw [Bool.not_eq_true', ← Bool.not_eq_true, List.isEmpty_iff]; exact hp)]

theorem LoopSt.flushBefore_nil {t : Token} (h : st.pend = []) (hp : t.pre = []) : st.flushBefore f t = st := by
  unfold LoopSt.flushBefore
  rw [h, hp, if_neg (by decide), if_neg (by decide)]

theorem loopFinish_eq (tk : Option Token) (err : Option PErr) : loopFinish f st tk err =
    .loopEnd { nodes := (st.flush f).acc, pos := st.pos, stopTok := tk, err := err } := by
  simp only [loopFinish, LoopSt.flush_pos]

/-- the results a sub-parse may hand to the collector (`noneOk`: the parser may return nothing) -/
def ChildShape (noneOk : Bool) : Ret → Prop
  | .ok (.node _) _ => True
  | .ok .none _ => noneOk = true
  | .perr _ => True
  | .fuel => True
  | _ => False

variable {noneOk : Bool}

theorem afterChild_node (n : Node) (p : Nat) : afterChild rec f stop child st noneOk (.ok (.node n) p) =
    rec (.loop f stop child { st with pos := p, acc := st.acc ++ [n] }) := rfl

theorem afterChild_elim {motive : Ret → Prop} {r : Ret}
    (node : ∀ n p, r = .ok (.node n) p → motive (rec (.loop f stop child { st with pos := p, acc := st.acc ++ [n] })))
    (absent : ∀ p, r = .ok .none p → noneOk = true → motive (rec (.loop f stop child { st with pos := p })))
    (perr : ∀ e, r = .perr e → motive (loopFinish f st none (some e)))
    (fuel : r = .fuel → motive .fuel)
    (crash : ∀ c, ¬ ChildShape noneOk r → motive (.crash c)) :
    motive (afterChild rec f stop child st noneOk r) := by
  cases r with
  | ok res p =>
    cases res with
    | node n => exact node n p rfl
    | none =>
      cases noneOk with
      | true => exact absent p rfl rfl
      | false => exact crash _ (fun h => nomatch h)
    | list _ _ _ => exact crash _ id
    | args _ _ _ => exact crash _ id
  | perr e => exact perr e rfl
  | fuel => exact fuel rfl
  | loopEnd e => exact crash _ id
  | crash c => exact crash c id

/-- the errors at which `process_one_token` stops the collector: what, and whether recovery skips the token -/
inductive DispatchErr (env : Env) (f : PSFields) (t : Token) : ErrWhat → Bool → Prop
  | braceClose : t.kind = .braceClose → DispatchErr env f t .unexpectedCloseBrace true
  | endEnv : t.kind = .endEnv → DispatchErr env f t .unexpectedEndEnv true
  | mac : t.kind = .macro → env.ctx.macroSpec t.arg = none → env.tol = false → DispatchErr env f t .unknownMacro false
  | env : t.kind = .beginEnv → env.ctx.envSpec t.arg = none → env.tol = false → DispatchErr env f t .unknownEnv false
  | math : t.kind = .mathInline ∨ t.kind = .mathDisplay → (mkPS f).t.mathByOpen.any (fun d => d.1 == t.arg) = false →
      DispatchErr env f t .unexpectedCloseMath true

/-- the sub-parses `process_one_token` starts: parser, start position, whether the parser may return nothing -/
inductive DispatchChild (env : Env) (f : PSFields) (st : LoopSt) (t : Token) : Parser → Nat → Bool → Prop
  | group : t.kind = .braceOpen → DispatchChild env f st t (.group (.auto t.arg) false false) t.pos false
  | mac {a : ArgsP} : t.kind = .macro → env.ctx.macroSpec t.arg = some a →
      DispatchChild env f st t (.macroCall t a) st.pos true
  | env {ab : ArgsP × Bool} : t.kind = .beginEnv → env.ctx.envSpec t.arg = some ab →
      DispatchChild env f st t (.envCall t ab.1 ab.2) st.pos true
  | spec {a : ArgsP} : t.kind = .specials → lookupFirst t.arg env.ctx.specials = some a →
      DispatchChild env f st t (.specialsCall t a) st.pos true
  | math : t.kind = .mathInline ∨ t.kind = .mathDisplay → (mkPS f).t.mathByOpen.any (fun d => d.1 == t.arg) = true →
      DispatchChild env f st t (.math t.arg) t.pos true

variable {t : Token}

theorem loopDispatch_child {P : Parser} {start : Nat} {b : Bool} (h : DispatchChild env f st t P start b) :
    loopDispatch env rec f stop child st t = afterChild rec f stop child st b (rec (.pc P (child.get f t) start)) := by
  unfold loopDispatch
  cases h with
  | group hk => rw [hk]
  | mac hk hm => rw [hk]; dsimp only; rw [hm]
  | env hk hm => rw [hk]; dsimp only; rw [hm]
  | spec hk hm => rw [hk]; dsimp only; rw [hm]
  | math hk hm => rcases hk with hk | hk <;> (rw [hk]; dsimp only; rw [hm]; rfl)

theorem loopDispatch_elim {motive : Ret → Prop}
    (err : ∀ w past, DispatchErr env f t w past → motive (loopFinish f st none (some (errAt w t st.pos past))))
    (comment : t.kind = .comment → motive
      (rec (.loop f stop child { st with acc := st.acc ++ [Node.comment t.pos t.posEnd (psInfo f) t.arg t.post] })))
    (skip : env.tol = true → motive (rec (.loop f stop child st)))
    (sub : ∀ P start b, DispatchChild env f st t P start b →
      motive (afterChild rec f stop child st b (rec (.pc P (child.get f t) start))))
    (crash : ∀ c, t.kind = .char ∨ t.kind = .specials ∧ lookupFirst t.arg env.ctx.specials = none → motive (.crash c)) :
    motive (loopDispatch env rec f stop child st t) := by
  have math : t.kind = .mathInline ∨ t.kind = .mathDisplay →
      motive (if (mkPS f).t.mathByOpen.any (fun d => d.1 == t.arg) then
          afterChild rec f stop child st true (rec (.pc (.math t.arg) (child.get f t) t.pos))
        else loopFinish f st none (some (errAt .unexpectedCloseMath t st.pos true))) := by
    intro hk
    cases hm : (mkPS f).t.mathByOpen.any (fun d => d.1 == t.arg) with
    | true => exact sub _ _ _ (.math hk hm)
    | false => exact err _ _ (.math hk hm)
  unfold loopDispatch
  cases hk : t.kind with
  | braceClose => exact err _ _ (.braceClose hk)
  | endEnv => exact err _ _ (.endEnv hk)
  | comment => exact comment hk
  | braceOpen => exact sub _ _ _ (.group hk)
  | «macro» =>
    dsimp only
    cases hm : env.ctx.macroSpec t.arg with
    | some a => exact sub _ _ _ (.mac hk hm)
    | none =>
      cases htol : env.tol with
      | true => exact skip htol
      | false => exact err _ _ (.mac hk hm htol)
  | beginEnv =>
    dsimp only
    cases hm : env.ctx.envSpec t.arg with
    | some ab => exact sub _ _ _ (.env hk hm)
    | none =>
      cases htol : env.tol with
      | true => exact skip htol
      | false => exact err _ _ (.env hk hm htol)
  | specials =>
    dsimp only
    cases hm : lookupFirst t.arg env.ctx.specials with
    | some a => exact sub _ _ _ (.spec hk hm)
    | none => exact crash _ (.inr ⟨hk, hm⟩)
  | mathInline => exact math (.inl hk)
  | mathDisplay => exact math (.inr hk)
  | char => exact crash _ (.inl hk)

/-- the token `process_one_token` works on: the next token, or the final whitespace as a `char` token -/
inductive LoopTok (env : Env) (f : PSFields) (st : LoopSt) : Token → Prop
  | peek {t : Token} : peekTok env.tol (mkPS f) env.s st.pos = .tok t → LoopTok env f st t
  | final {fs : Str} : peekTok env.tol (mkPS f) env.s st.pos = .eos fs → fs ≠ [] →
      LoopTok env f st { kind := .char, arg := [], pos := st.pos + fs.length, posEnd := st.pos + fs.length, pre := fs }

theorem loopRead_tok (h : LoopTok env f st t) : loopRead env f st = .inl t := by
  unfold loopRead
  cases h with
  | peek h => rw [h]
  | final h hne => rw [h]; dsimp only; rw [if_neg (fun he => hne (List.isEmpty_iff.mp he))]

theorem loopRead_eos (h : peekTok env.tol (mkPS f) env.s st.pos = .eos []) :
    loopRead env f st = .inr (loopFinish f st none none) := by
  unfold loopRead; rw [h]; rfl

theorem loopRead_err {w : TokErr} {ep : Nat} {pt : Token} {r : Nat}
    (h : peekTok env.tol (mkPS f) env.s st.pos = .err w ep pt r) : loopRead env f st =
      .inr (loopFinish f st none (some { what := tokErrWhat w, pos := some ep, rpos := st.pos })) := by
  unfold loopRead; rw [h]

theorem loopStep_inr {r : Ret} (h : loopRead env f st = .inr r) : loopStep env rec f stop child st = r := by
  unfold loopStep; rw [h]

theorem loopStep_stop (h : LoopTok env f st t) (hs : stop.test t = true) : loopStep env rec f stop child st =
    loopFinish f { (st.push t.pre (t.pos - t.pre.length)) with pos := t.pos } (some t) none := by
  unfold loopStep; rw [loopRead_tok h]; dsimp only; rw [if_pos hs]

theorem loopStep_char (h : LoopTok env f st t) (hs : stop.test t = false) (hk : t.kind = .char) :
    loopStep env rec f stop child st =
      rec (.loop f stop child { (st.push (t.pre ++ t.arg) (t.pos - t.pre.length)) with pos := t.posEnd }) := by
  unfold loopStep; rw [loopRead_tok h]; dsimp only; rw [hs, hk]; rfl

theorem loopStep_dispatch (h : LoopTok env f st t) (hs : stop.test t = false) (hk : t.kind ≠ .char) :
    loopStep env rec f stop child st =
      loopDispatch env rec f stop child { (st.flushBefore f t) with pos := t.posEnd } { t with pre := [] } := by
  unfold loopStep; rw [loopRead_tok h]; dsimp only
  rw [hs, if_neg (by decide), if_neg (fun hb => hk (eq_of_beq hb))]

theorem loopStep_elim {motive : Ret → Prop}
    (eos : peekTok env.tol (mkPS f) env.s st.pos = .eos [] → motive (loopFinish f st none none))
    (err : ∀ w ep pt r, peekTok env.tol (mkPS f) env.s st.pos = .err w ep pt r → env.tol = false →
      motive (loopFinish f st none (some { what := tokErrWhat w, pos := some ep, rpos := st.pos })))
    (stopped : ∀ t, LoopTok env f st t → stop.test t = true →
      motive (loopFinish f { (st.push t.pre (t.pos - t.pre.length)) with pos := t.pos } (some t) none))
    (char : ∀ t, LoopTok env f st t → stop.test t = false → t.kind = .char →
      motive (rec (.loop f stop child { (st.push (t.pre ++ t.arg) (t.pos - t.pre.length)) with pos := t.posEnd })))
    (dispatch : ∀ t, LoopTok env f st t → stop.test t = false → t.kind ≠ .char →
      motive (loopDispatch env rec f stop child { (st.flushBefore f t) with pos := t.posEnd } { t with pre := [] })) :
    motive (loopStep env rec f stop child st) := by
  have tok : ∀ t, LoopTok env f st t → motive (loopStep env rec f stop child st) := by
    intro t ht
    cases hs : stop.test t with
    | true => rw [loopStep_stop ht hs]; exact stopped t ht hs
    | false =>
      by_cases hk : t.kind = .char
      · rw [loopStep_char ht hs hk]; exact char t ht hs hk
      · rw [loopStep_dispatch ht hs hk]; exact dispatch t ht hs hk
  cases h : peekTok env.tol (mkPS f) env.s st.pos with
  | tok t => exact tok t (.peek h)
  | err w ep pt r => rw [loopStep_inr (loopRead_err h)]; exact err w ep pt r h (peekTok_err_strict h)
  | eos fs =>
    cases fs with
    | nil => rw [loopStep_inr (loopRead_eos h)]; exact eos h
    | cons c fs => exact tok _ (.final h (List.cons_ne_nil c fs))

end collector

section general
variable {rec : Task → Ret} {stop : StopTok} {require : Bool} {child : ChildPS} {f : PSFields} {pos : Nat}

theorem rawGeneral_loopEnd {e : LoopEnd} (h : rec (.loop f stop child { pos := pos }) = .loopEnd e) :
    rawGeneral rec stop require child f pos =
      match e.err with
      | some pe => .ret (.perr { what := pe.what, pos := pe.pos, rpos := e.pos,
                                  recNodes := listOf e.nodes (some pos) (some pos) })
      | none =>
        if require && stop.isSome && e.stopTok.isNone then
          .ret (.perr { what := .stopNotMet,
                        pos := match listOf e.nodes (some pos) (some pos) with | .list p _ _ => p | _ => none,
                        rpos := e.pos, recNodes := listOf e.nodes (some pos) (some pos) })
        else
          match e.stopTok with
          | some t => .ret (.ok (listOf e.nodes (some pos) (some pos)) (if stop.isSome then t.posEnd else e.pos))
          | none => .ret (.ok (listOf e.nodes (some pos) (some pos)) e.pos) := by
  unfold rawGeneral; rw [h]; rfl

theorem rawGeneral_elim {motive : Raw → Prop}
    (err : ∀ e pe, rec (.loop f stop child { pos := pos }) = .loopEnd e → e.err = some pe →
      motive (.ret (.perr { what := pe.what, pos := pe.pos, rpos := e.pos,
                            recNodes := listOf e.nodes (some pos) (some pos) })))
    (unmet : ∀ e, rec (.loop f stop child { pos := pos }) = .loopEnd e → e.err = none → require = true →
      stop.isSome = true → e.stopTok = none →
      motive (.ret (.perr { what := .stopNotMet, pos := match e.nodes.head? with | some n => some n.pos | none => some pos,
                            rpos := e.pos, recNodes := listOf e.nodes (some pos) (some pos) })))
    (stopped : ∀ e t, rec (.loop f stop child { pos := pos }) = .loopEnd e → e.err = none → e.stopTok = some t →
      motive (.ret (.ok (listOf e.nodes (some pos) (some pos)) (if stop.isSome then t.posEnd else e.pos))))
    (ended : ∀ e, rec (.loop f stop child { pos := pos }) = .loopEnd e → e.err = none → e.stopTok = none →
      (require = true → stop.isSome = false) → motive (.ret (.ok (listOf e.nodes (some pos) (some pos)) e.pos)))
    (fuel : rec (.loop f stop child { pos := pos }) = .fuel → motive (.ret .fuel))
    (crash : ∀ c, (∀ e, rec (.loop f stop child { pos := pos }) ≠ .loopEnd e) →
      rec (.loop f stop child { pos := pos }) ≠ .fuel → motive (.ret (.crash c))) :
    motive (rawGeneral rec stop require child f pos) := by
  unfold rawGeneral
  refine retOfLoop_elim (fun e hr => ?_) fuel crash
  dsimp only
  cases he : e.err with
  | some pe => exact err e pe hr he
  | none =>
    cases hst : e.stopTok with
    | some t => rw [Option.isNone_some, Bool.and_false]; exact stopped e t hr he hst
    | none =>
      cases hreq : require with
      | false => exact ended e hr he hst (fun h => nomatch hreq.symm.trans h)
      | true =>
        cases hs : stop.isSome with
        | false => exact ended e hr he hst (fun _ => hs)
        | true => exact unmet e hr he hreq hs hst

end general

def GroupOpens (d : GroupDelims) (allowPre : Bool) (t : Token) : Prop :=
  (allowPre = false → t.pre = []) ∧ t.kind = .braceOpen ∧ t.arg = d.opener

theorem groupOpens_iff {d : GroupDelims} {ap : Bool} {t : Token} :
    (!(!ap && !t.pre.isEmpty) && t.kind == .braceOpen && t.arg == d.opener) = true ↔ GroupOpens d ap t := by
  cases ap <;> simp [GroupOpens, and_assoc]

def MathOpens (delim : Str) (t : Token) : Prop :=
  t.pre = [] ∧ (t.kind = .mathInline ∨ t.kind = .mathDisplay) ∧ t.arg = delim

theorem mathOpens_iff {delim : Str} {t : Token} :
    (t.pre.isEmpty && (t.kind == .mathInline || t.kind == .mathDisplay) && t.arg == delim) = true ↔
      MathOpens delim t := by
  simp [MathOpens, and_assoc]

section parsers
variable {env : Env} {rec : Task → Ret} {f : PSFields} {pos : Nat}

theorem rawGroupTok_elim {motive : Raw → Prop} {d : GroupDelims} {opt ap : Bool} {g : PSFields} {t : Token}
    (noCloser : ∀ c, GroupOpens d ap t → groupCloser d g = none → motive (.ret (.crash c)))
    (ok : ∀ c res p, GroupOpens d ap t → groupCloser d g = some c →
      rec (.pc (.general (.braceClose c) true (.group d.opener g f)) g t.posEnd) = .ok res p →
      motive (.ret (.ok (.node (Node.group t.pos p (psInfo g) d.opener c (bodyOf res))) p)))
    (other : ∀ c, GroupOpens d ap t → groupCloser d g = some c →
      (∀ res p, rec (.pc (.general (.braceClose c) true (.group d.opener g f)) g t.posEnd) ≠ .ok res p) →
      motive (.ret (rec (.pc (.general (.braceClose c) true (.group d.opener g f)) g t.posEnd))))
    (absent : ¬ GroupOpens d ap t → opt = true → motive (.ret (.ok .none (t.pos - t.pre.length))))
    (notFound : ¬ GroupOpens d ap t → opt = false → motive (.ret (.perr (notFoundErr t)))) :
    motive (rawGroupTok rec d opt ap f g t) := by
  unfold rawGroupTok
  by_cases h : GroupOpens d ap t
  · rw [if_pos (groupOpens_iff.mpr h)]
    cases hc : groupCloser d g with
    | none => exact noCloser _ h hc
    | some c => exact bindOk_elim (fun res p hr => ok c res p h hc hr) (other c h hc)
  · rw [if_neg (fun hb => h (groupOpens_iff.mp hb))]
    cases opt with
    | true => exact absent h rfl
    | false => exact notFound h rfl

theorem rawGroup_elim {motive : Raw → Prop} {d : GroupDelims} {opt ap : Bool}
    (noState : ∀ c, groupState d f = none → motive (.ret (.crash c)))
    (eos : ∀ g fs, groupState d f = some g → peekTok env.tol (mkPS g) env.s pos = .eos fs → motive (.eos pos))
    (err : ∀ g w ep pt r, groupState d f = some g → peekTok env.tol (mkPS g) env.s pos = .err w ep pt r →
      env.tol = false → motive (.ret (.perr { what := tokErrWhat w, pos := some ep, rpos := pos })))
    (tok : ∀ g t, groupState d f = some g → peekTok env.tol (mkPS g) env.s pos = .tok t →
      motive (rawGroupTok rec d opt ap f g t)) :
    motive (rawGroup env rec d opt ap f pos) := by
  unfold rawGroup
  cases hg : groupState d f with
  | none => exact noState _ hg
  | some g =>
    dsimp only
    cases hpk : peekTok env.tol (mkPS g) env.s pos with
    | eos fs => exact eos g fs hg hpk
    | err w ep pt r => exact err g w ep pt r hg hpk (peekTok_err_strict hpk)
    | tok t => exact tok g t hg hpk

theorem rawMathTok_open {delim : Str} {t : Token} {cd : Str × Bool} (h : MathOpens delim t)
    (hc : (mkPS (mathFields f t.arg)).t.expectClose = some cd) : rawMathTok rec delim f t =
      bindOk (rec (.pc (.general (.mathClose (t.kind == .mathDisplay) cd.1) true .same) (mathFields f t.arg) t.posEnd))
        fun res p => .ret (.ok (.node (Node.math t.pos p (psInfo f) (t.kind == .mathDisplay) t.arg cd.1 (bodyOf res))) p) := by
  unfold rawMathTok; rw [if_pos (mathOpens_iff.mpr h), hc]

theorem rawMathTok_elim {motive : Raw → Prop} {delim : Str} {t : Token}
    (noCloser : ∀ c, MathOpens delim t → (mkPS (mathFields f t.arg)).t.expectClose = none → motive (.ret (.crash c)))
    (ok : ∀ cd res p, MathOpens delim t → (mkPS (mathFields f t.arg)).t.expectClose = some cd →
      rec (.pc (.general (.mathClose (t.kind == .mathDisplay) cd.1) true .same) (mathFields f t.arg) t.posEnd) = .ok res p →
      motive (.ret (.ok (.node (Node.math t.pos p (psInfo f) (t.kind == .mathDisplay) t.arg cd.1 (bodyOf res))) p)))
    (other : ∀ cd, MathOpens delim t → (mkPS (mathFields f t.arg)).t.expectClose = some cd →
      (∀ res p, rec (.pc (.general (.mathClose (t.kind == .mathDisplay) cd.1) true .same) (mathFields f t.arg) t.posEnd)
        ≠ .ok res p) →
      motive (.ret (rec (.pc (.general (.mathClose (t.kind == .mathDisplay) cd.1) true .same) (mathFields f t.arg) t.posEnd))))
    (notFound : ¬ MathOpens delim t → motive (.ret (.perr (notFoundErr t)))) :
    motive (rawMathTok rec delim f t) := by
  unfold rawMathTok
  by_cases h : MathOpens delim t
  · rw [if_pos (mathOpens_iff.mpr h)]
    cases hc : (mkPS (mathFields f t.arg)).t.expectClose with
    | none => exact noCloser _ h hc
    | some cd => exact bindOk_elim (fun res p hr => ok cd res p h hc hr) (other cd h hc)
  · rw [if_neg (fun hb => h (mathOpens_iff.mp hb))]
    exact notFound h

theorem rawMath_tok {delim : Str} {t : Token} (hpk : peekTok env.tol (mkPS f) env.s pos = .tok t) :
    rawMath env rec delim f pos = rawMathTok rec delim f t := by
  unfold rawMath; rw [hpk]

theorem rawMath_elim {motive : Raw → Prop} {delim : Str}
    (eos : ∀ fs, peekTok env.tol (mkPS f) env.s pos = .eos fs → motive (.eos pos))
    (err : ∀ w ep pt r, peekTok env.tol (mkPS f) env.s pos = .err w ep pt r → env.tol = false →
      motive (.ret (.perr { what := tokErrWhat w, pos := some ep, rpos := pos })))
    (tok : ∀ t, peekTok env.tol (mkPS f) env.s pos = .tok t → motive (rawMathTok rec delim f t)) :
    motive (rawMath env rec delim f pos) := by
  unfold rawMath
  cases hpk : peekTok env.tol (mkPS f) env.s pos with
  | eos fs => exact eos fs hpk
  | err w ep pt r => exact err w ep pt r hpk (peekTok_err_strict hpk)
  | tok t => exact tok t hpk

theorem rawEnvBody_elim {motive : Raw → Prop} {name : Str}
    (empty : ∀ p, rec (.pc (.general (.endEnv name) true .same) f pos) = .ok .none p →
      motive (.ret (.ok (.list none none []) p)))
    (ok : ∀ res p, rec (.pc (.general (.endEnv name) true .same) f pos) = .ok res p → res ≠ .none →
      motive (.ret (.ok res p)))
    (other : (∀ res p, rec (.pc (.general (.endEnv name) true .same) f pos) ≠ .ok res p) →
      motive (.ret (rec (.pc (.general (.endEnv name) true .same) f pos)))) :
    motive (rawEnvBody rec name f pos) := by
  unfold rawEnvBody
  refine bindOk_elim (fun res p hr => ?_) other
  cases res with
  | none => exact empty p hr
  | _ => exact ok _ p hr (fun h => nomatch h)

theorem rawCall_elim {motive : Raw → Prop} {mk : Nat → Option (List Arg) → Node} {a : ArgsP}
    (ok : ∀ res p, rec (.pc (.arguments a) f pos) = .ok res p → motive (.ret (.ok (.node (mk p (argsOf res))) p)))
    (other : (∀ res p, rec (.pc (.arguments a) f pos) ≠ .ok res p) → motive (.ret (rec (.pc (.arguments a) f pos)))) :
    motive (rawCall rec mk a f pos) :=
  bindOk_elim ok other

theorem rawEnvCall_elim {motive : Raw → Prop} {t : Token} {a : ArgsP} {bm : Bool}
    (ok : ∀ ares p bres p2, rec (.pc (.arguments a) f pos) = .ok ares p →
      rec (.pc (.envBody t.arg) (if bm then applyDelta f .enterMath else f) p) = .ok bres p2 →
      motive (.ret (.ok (.node (Node.env t.pos p2 (psInfo f) t.arg (argsOf ares) (bodyOf bres))) p2)))
    (argsOther : (∀ res p, rec (.pc (.arguments a) f pos) ≠ .ok res p) →
      motive (.ret (rec (.pc (.arguments a) f pos))))
    (bodyOther : ∀ ares p, rec (.pc (.arguments a) f pos) = .ok ares p →
      (∀ res p2, rec (.pc (.envBody t.arg) (if bm then applyDelta f .enterMath else f) p) ≠ .ok res p2) →
      motive (.ret (rec (.pc (.envBody t.arg) (if bm then applyDelta f .enterMath else f) p)))) :
    motive (rawEnvCall rec t a bm f pos) :=
  bindOk_elim (fun ares p h1 => bindOk_elim (fun bres p2 h2 => ok ares p bres p2 h1 h2) (bodyOther ares p h1)) argsOther

theorem rawLegacyVerb_elim {motive : Raw → Prop}
    (missing : ∀ p, p = pos + (spaceRun env.s pos).length → env.s[p]? = none →
      motive (.ret (.perr { what := .legacyVerbMissing, pos := some p, rpos := pos })))
    (unterminated : ∀ p d, p = pos + (spaceRun env.s pos).length → env.s[p]? = some d →
      findCharFrom env.s d (p + 1) = none → motive (.ret (.perr { what := .legacyVerbEOS, pos := some p, rpos := pos })))
    (ok : ∀ p d e, p = pos + (spaceRun env.s pos).length → env.s[p]? = some d → findCharFrom env.s d (p + 1) = some e →
      motive (.ret (.ok (.args (some (p + 1)) (some (e + 1))
        [.node (Node.chars (p + 1) e (psInfo f) (slice env.s (p + 1) e))]) (e + 1)))) :
    motive (rawLegacyVerb env f pos) := by
  unfold rawLegacyVerb
  dsimp only
  cases hd : env.s[pos + (spaceRun env.s pos).length]? with
  | none => exact missing _ rfl hd
  | some d =>
    dsimp only
    cases he : findCharFrom env.s d (pos + (spaceRun env.s pos).length + 1) with
    | none => exact unterminated _ d rfl hd he
    | some e => exact ok _ d e rfl hd he

theorem legacyVerbEnvFinish_elim {motive : Raw → Prop} {name : Str} {pre : List Arg} {p : Nat}
    (notFound : findStrFrom env.s ("\\end{".toList ++ name ++ ['}']) p = none →
      motive (.ret (.perr { what := .legacyEndNotFound, pos := some p, rpos := pos })))
    (ok : ∀ e, findStrFrom env.s ("\\end{".toList ++ name ++ ['}']) p = some e →
      motive (.ret (.ok (.args (some pos) (some e) (pre ++ [.node (Node.chars p e (psInfo f) (slice env.s p e))])) e))) :
    motive (legacyVerbEnvFinish env name f pos pre p) := by
  unfold legacyVerbEnvFinish
  cases he : findStrFrom env.s ("\\end{".toList ++ name ++ ['}']) p with
  | none => exact notFound he
  | some e => exact ok e he

theorem rawLegacyVerbEnv_elim {motive : Raw → Prop} {name : Str} {optArg : Bool}
    (noOpt : optArg = false → motive (legacyVerbEnvFinish env name f pos [] pos))
    (space : optArg = true → startsWithSpace env.s pos = true → motive (legacyVerbEnvFinish env name f pos [.absent] pos))
    (node : ∀ n p, optArg = true → rec (.pc (.group (.pair ['['] [']']) true false) f pos) = .ok (.node n) p →
      motive (legacyVerbEnvFinish env name f pos [.node n] n.posEnd))
    (absent : ∀ res p, optArg = true → rec (.pc (.group (.pair ['['] [']']) true false) f pos) = .ok res p →
      (∀ n, res ≠ .node n) → motive (legacyVerbEnvFinish env name f pos [.absent] pos))
    (other : optArg = true → (∀ res p, rec (.pc (.group (.pair ['['] [']']) true false) f pos) ≠ .ok res p) →
      motive (.ret (rec (.pc (.group (.pair ['['] [']']) true false) f pos)))) :
    motive (rawLegacyVerbEnv env rec name optArg f pos) := by
  unfold rawLegacyVerbEnv
  cases optArg with
  | false => exact noOpt rfl
  | true =>
    cases hs : startsWithSpace env.s pos with
    | true => exact space rfl hs
    | false =>
      refine bindOk_elim (fun res p hr => ?_) (other rfl)
      cases res with
      | node n => exact node n p rfl hr
      | _ => exact absent _ p rfl hr (fun _ h => nomatch h)

theorem argsLoop_nil (acc : List Arg) : argsLoop env rec f [] acc pos = .ok (.args none none acc) pos := by
  unfold argsLoop; rfl

theorem argsLoop_cons_elim {motive : Ret → Prop} {a : ArgSpec} {rest : List ArgSpec} {acc : List Arg}
    (err : ∀ w ep pt r, peekTok env.tol (mkPS f) env.s pos = .err w ep pt r → env.tol = false →
      motive (.perr { what := tokErrWhat w, pos := some ep, rpos := pos }))
    (ok : ∀ res p, rec (.pc (argParser a.kind) (applyDelta f a.delta) pos) = .ok res p →
      motive (argsLoop env rec f rest (acc ++ [resToArg res]) p))
    (other : (∀ res p, rec (.pc (argParser a.kind) (applyDelta f a.delta) pos) ≠ .ok res p) →
      motive (rec (.pc (argParser a.kind) (applyDelta f a.delta) pos))) :
    motive (argsLoop env rec f (a :: rest) acc pos) := by
  have sub : motive (match rec (.pc (argParser a.kind) (applyDelta f a.delta) pos) with
      | .ok res p => argsLoop env rec f rest (acc ++ [resToArg res]) p
      | other => other) := by
    cases hr : rec (.pc (argParser a.kind) (applyDelta f a.delta) pos) with
    | ok res p => exact ok res p hr
    | perr e => exact (hr ▸ other (fun _ _ h => nomatch hr.symm.trans h) : motive (.perr e))
    | loopEnd e => exact (hr ▸ other (fun _ _ h => nomatch hr.symm.trans h) : motive (.loopEnd e))
    | crash c => exact (hr ▸ other (fun _ _ h => nomatch hr.symm.trans h) : motive (.crash c))
    | fuel => exact (hr ▸ other (fun _ _ h => nomatch hr.symm.trans h) : motive (.fuel))
  unfold argsLoop
  cases hpk : peekTok env.tol (mkPS f) env.s pos with
  | err w ep pt r => exact err w ep pt r hpk (peekTok_err_strict hpk)
  | tok t => exact sub
  | eos fs => exact sub

theorem argsLoop_cons_err {a : ArgSpec} {rest : List ArgSpec} {acc : List Arg} {w : TokErr} {ep : Nat} {pt : Token}
    {r : Nat} (hpk : peekTok env.tol (mkPS f) env.s pos = .err w ep pt r) :
    argsLoop env rec f (a :: rest) acc pos = .perr { what := tokErrWhat w, pos := some ep, rpos := pos } := by
  unfold argsLoop; rw [hpk]

theorem argsLoop_cons {a : ArgSpec} {rest : List ArgSpec} {acc : List Arg}
    (hpk : ∀ w ep pt r, peekTok env.tol (mkPS f) env.s pos ≠ .err w ep pt r) :
    argsLoop env rec f (a :: rest) acc pos =
      match rec (.pc (argParser a.kind) (applyDelta f a.delta) pos) with
      | .ok res p => argsLoop env rec f rest (acc ++ [resToArg res]) p
      | other => other := by
  conv => lhs; unfold argsLoop
  cases h : peekTok env.tol (mkPS f) env.s pos with
  | err w ep pt r => exact absurd h (hpk w ep pt r)
  | tok t => rfl
  | eos fs => rfl

theorem exprFinish_snoc (f : PSFields) (sk : List Node) (x : Node) (p : Nat) :
    exprFinish f (sk ++ [x]) p = .ok (.node x) p := by
  unfold exprFinish; rw [List.getLast?_concat]

theorem exprFinish_nil (f : PSFields) (p : Nat) :
    exprFinish f [] p = .ok (.node (Node.group p p (psInfo f) [] [] (some []))) p := rfl

theorem exprStep_elim {motive : Ret → Prop} {ap : Bool} {sk : List Node}
    (err : ∀ w ep pt r, peekTok env.tol (mkPS ({ f with enEnvs := false } : PSFields).normalize) env.s pos = .err w ep pt r →
      env.tol = false → motive (.perr { what := tokErrWhat w, pos := some ep, rpos := pos }))
    (eosTolerant : env.tol = true → motive (exprFinish f sk pos))
    (eosStrict : env.tol = false → motive (.perr { what := .exprEOS, pos := some pos, rpos := pos }))
    (tok : ∀ t, peekTok env.tol (mkPS ({ f with enEnvs := false } : PSFields).normalize) env.s pos = .tok t →
      motive (exprTok env rec ap sk f t)) :
    motive (exprStep env rec ap sk f pos) := by
  unfold exprStep
  dsimp only
  cases hpk : peekTok env.tol (mkPS ({ f with enEnvs := false } : PSFields).normalize) env.s pos with
  | err w ep pt r => exact err w ep pt r hpk (peekTok_err_strict hpk)
  | tok t => exact tok t hpk
  | eos fs =>
    cases htol : env.tol with
    | true => exact eosTolerant htol
    | false => exact eosStrict htol

/-- `\\begin` / `\\end` where an expression is expected -/
def IsBeginEnd (t : Token) : Prop := t.arg = "begin".toList ∨ t.arg = "end".toList

theorem exprTok_elim {motive : Ret → Prop} {ap : Bool} {sk : List Node} {t : Token}
    (beginEndTolerant : t.kind = .macro → IsBeginEnd t → env.tol = true →
      motive (exprFinish f (sk ++ [Node.mac t.pos t.posEnd (psInfo f) t.arg t.post none]) t.posEnd))
    (beginEndStrict : t.kind = .macro → IsBeginEnd t → env.tol = false →
      motive (.perr { what := .exprBeginEnd, pos := some t.pos, rpos := t.posEnd }))
    (mac : t.kind = .macro → ¬ IsBeginEnd t →
      motive (exprFinish f (sk ++ [Node.mac t.pos t.posEnd (psInfo f) t.arg t.post (some [])]) t.posEnd))
    (specials : t.kind = .specials →
      motive (exprFinish f (sk ++ [Node.specials t.pos t.posEnd (psInfo f) t.arg (some [])]) t.posEnd))
    (spaceKept : t.kind ≠ .macro → t.kind ≠ .specials → t.pre ≠ [] → ap = true →
      motive (rec (.expr ap (sk ++ [Node.chars (t.pos - t.pre.length) t.pos (psInfo f) t.pre]) f t.pos)))
    (spaceSkipped : t.kind ≠ .macro → t.kind ≠ .specials → t.pre ≠ [] → ap = false → env.tol = true →
      motive (rec (.expr ap sk f t.posEnd)))
    (spaceStrict : t.kind ≠ .macro → t.kind ≠ .specials → t.pre ≠ [] → ap = false → env.tol = false →
      motive (.perr { what := .exprWhitespace, pos := some (t.pos - t.pre.length), rpos := t.posEnd }))
    (onTok : t.kind ≠ .macro → t.kind ≠ .specials → t.pre = [] → motive (exprOnTok env rec ap sk f t)) :
    motive (exprTok env rec ap sk f t) := by
  unfold exprTok
  dsimp only
  by_cases hm : t.kind = .macro
  · rw [if_pos (beq_iff_eq.mpr hm)]
    by_cases hb : IsBeginEnd t
    · rw [if_pos (by simpa [IsBeginEnd] using hb)]
      cases htol : env.tol with
      | true => exact beginEndTolerant hm hb htol
      | false => exact beginEndStrict hm hb htol
    · rw [if_neg (by simpa [IsBeginEnd] using hb)]
      exact mac hm hb
  · rw [if_neg (fun h => hm (eq_of_beq h))]
    by_cases hs : t.kind = .specials
    · rw [if_pos (beq_iff_eq.mpr hs)]; exact specials hs
    · rw [if_neg (fun h => hs (eq_of_beq h))]
      by_cases hp : t.pre = []
      · rw [if_neg (by rw [hp]; decide)]; exact onTok hm hs hp
      · rw [if_pos (by simpa using hp)]
        cases ap with
        | true => exact spaceKept hm hs hp rfl
        | false =>
          cases htol : env.tol with
          | true => exact spaceSkipped hm hs hp rfl htol
          | false => exact spaceStrict hm hs hp rfl htol

theorem exprOnTok_elim {motive : Ret → Prop} {ap : Bool} {sk : List Node} {t : Token}
    (commentKept : t.kind = .comment → ap = true →
      motive (rec (.expr ap (sk ++ [Node.comment t.pos t.posEnd (psInfo f) t.arg t.post]) f t.posEnd)))
    (commentSkipped : t.kind = .comment → ap = false → env.tol = true → motive (rec (.expr ap sk f t.posEnd)))
    (commentStrict : t.kind = .comment → ap = false → env.tol = false →
      motive (.perr { what := .exprComment, pos := some t.pos, rpos := t.posEnd }))
    (group : ∀ n p, t.kind = .braceOpen → rec (.pc (.group (.auto t.arg) false false) f t.pos) = .ok (.node n) p →
      motive (exprFinish f (sk ++ [n]) p))
    (groupOther : t.kind = .braceOpen → (∀ res p, rec (.pc (.group (.auto t.arg) false false) f t.pos) ≠ .ok res p) →
      motive (rec (.pc (.group (.auto t.arg) false false) f t.pos)))
    (braceClose : t.kind = .braceClose →
      motive (.perr { what := .exprCloseBrace, pos := some t.pos, rpos := t.pos,
                      recNodes := .node (Node.chars t.pos t.pos (psInfo f) []), recAt := some t }))
    (char : t.kind = .char → motive (exprFinish f (sk ++ [Node.chars t.pos t.posEnd (psInfo f) t.arg]) t.posEnd))
    (math : t.kind = .mathInline ∨ t.kind = .mathDisplay →
      motive (.perr { what := .exprMath, pos := some t.pos, rpos := t.posEnd,
                      recNodes := .node (if t.arg.head? == some '\\' then Node.mac t.pos t.posEnd (psInfo f) t.arg t.post (some [])
                                          else Node.chars t.pos t.posEnd (psInfo f) t.arg),
                      recPast := some t }))
    (crash : ∀ c, (t.kind = .macro ∨ t.kind = .specials ∨ t.kind = .beginEnv ∨ t.kind = .endEnv) ∨
        (t.kind = .braceOpen ∧ ∃ res p, rec (.pc (.group (.auto t.arg) false false) f t.pos) = .ok res p ∧ ∀ n, res ≠ .node n) →
      motive (.crash c)) :
    motive (exprOnTok env rec ap sk f t) := by
  unfold exprOnTok
  dsimp only
  cases hk : t.kind with
  | comment =>
    dsimp only
    cases ap with
    | true => exact commentKept hk rfl
    | false =>
      cases htol : env.tol with
      | true => exact commentSkipped hk rfl htol
      | false => exact commentStrict hk rfl htol
  | braceOpen =>
    dsimp only
    cases hr : rec (.pc (.group (.auto t.arg) false false) f t.pos) with
    | ok res p =>
      cases res with
      | node n => exact group n p hk hr
      | _ => exact crash _ (.inr ⟨hk, _, p, hr, fun _ h => nomatch h⟩)
    | perr e => exact (hr ▸ groupOther hk (fun _ _ h => nomatch hr.symm.trans h) : motive (.perr e))
    | loopEnd e => exact (hr ▸ groupOther hk (fun _ _ h => nomatch hr.symm.trans h) : motive (.loopEnd e))
    | crash c => exact (hr ▸ groupOther hk (fun _ _ h => nomatch hr.symm.trans h) : motive (.crash c))
    | fuel => exact (hr ▸ groupOther hk (fun _ _ h => nomatch hr.symm.trans h) : motive (.fuel))
  | braceClose => exact braceClose hk
  | char => exact char hk
  | mathInline => exact math (.inl hk)
  | mathDisplay => exact math (.inr hk)
  | «macro» => exact crash _ (.inl (.inl hk))
  | beginEnv => exact crash _ (.inl (.inr (.inr (.inl hk))))
  | endEnv => exact crash _ (.inl (.inr (.inr (.inr hk))))
  | specials => exact crash _ (.inl (.inr (.inl hk)))

theorem rawMarker_elim {motive : Raw → Prop} {c : Char} {fl ap : Bool}
    (eos : ∀ fs, peekTok env.tol (mkPS f) env.s pos = .eos fs → motive (.ret (.ok .none pos)))
    (err : ∀ w ep pt r, peekTok env.tol (mkPS f) env.s pos = .err w ep pt r → env.tol = false →
      motive (.ret (.perr { what := tokErrWhat w, pos := some ep, rpos := pos })))
    (found : ∀ t, peekTok env.tol (mkPS f) env.s pos = .tok t → (ap = false → t.pre = []) →
      t.kind = .char ∨ t.kind = .specials → t.arg = [c] →
      motive (.ret (.ok (if fl then .list (some t.pos) (some t.posEnd) [Node.chars t.pos t.posEnd (psInfo f) [c]]
                          else .node (Node.chars t.pos t.posEnd (psInfo f) [c])) t.posEnd)))
    (placeholder : ∀ t, peekTok env.tol (mkPS f) env.s pos = .tok t → t.kind = .char → t.arg = [] → motive (.eos pos))
    (absent : ∀ t, peekTok env.tol (mkPS f) env.s pos = .tok t → motive (.ret (.ok .none pos))) :
    motive (rawMarker env c fl ap f pos) := by
  unfold rawMarker
  cases hpk : peekTok env.tol (mkPS f) env.s pos with
  | eos fs => exact eos fs hpk
  | err w ep pt r => exact err w ep pt r hpk (peekTok_err_strict hpk)
  | tok t =>
    dsimp only
    split
    · exact absent t hpk
    · rename_i hpre
      split
      · rename_i hc
        simp only [Bool.and_eq_true, Bool.or_eq_true, beq_iff_eq] at hc
        refine found t hpk (fun hap => ?_) hc.1 hc.2
        cases hp : t.pre with
        | nil => rfl
        | cons x xs => rw [hap, hp] at hpre; exact absurd rfl hpre
      · split
        · rename_i hc
          simp only [Bool.and_eq_true, beq_iff_eq, List.isEmpty_iff] at hc
          exact placeholder t hpk hc.1 hc.2
        · exact absent t hpk

/-- the closing delimiter `delimited verbatim` looks for after the opening character `first` -/
def verbDelims (delims : Option (Char × Char)) (first : Char) : Option (Char × Char) :=
  match delims with
  | none =>
    some (first, if first == '{' then '}' else if first == '[' then ']' else if first == '<' then '>'
                 else if first == '(' then ')' else first)
  | some (o, c) => if first == o then some (o, c) else none

theorem rawVerbatim_elim {motive : Raw → Prop} {delims : Option (Char × Char)}
    (eos : ∀ p, p = pos + (spaceRun env.s pos).length → env.s[p]? = none → motive (.eos p))
    (notFound : ∀ p first, p = pos + (spaceRun env.s pos).length → env.s[p]? = some first →
      verbDelims delims first = none → motive (.ret (.perr { what := .verbOpenNotFound, pos := some p, rpos := p + 1 })))
    (ok : ∀ p first o c e, p = pos + (spaceRun env.s pos).length → env.s[p]? = some first →
      verbDelims delims first = some (o, c) → verbScan o c (env.s.drop (p + 1)) 1 (p + 1) = some e →
      motive (.ret (.ok (.node (Node.group p (e + 1) (psInfo f) [o] [c]
        (some [Node.chars (p + 1) e (psInfo f) (slice env.s (p + 1) e)]))) (e + 1))))
    (unterminated : ∀ p first o c, p = pos + (spaceRun env.s pos).length → env.s[p]? = some first →
      verbDelims delims first = some (o, c) → verbScan o c (env.s.drop (p + 1)) 1 (p + 1) = none →
      motive (.ret (.perr
        { what := .verbEOS, pos := some env.s.length, rpos := env.s.length,
          recNodes := .node (Node.chars (p + 1) env.s.length (psInfo f) (slice env.s (p + 1) env.s.length)) }))) :
    motive (rawVerbatim env delims f pos) := by
  unfold rawVerbatim
  dsimp only
  cases hfirst : env.s[pos + (spaceRun env.s pos).length]? with
  | none => exact eos _ rfl hfirst
  | some first =>
    dsimp only
    change motive (match verbDelims delims first with
      | none => _
      | some (o, c) => _)
    cases hoc : verbDelims delims first with
    | none => exact notFound _ first rfl hfirst hoc
    | some oc =>
      obtain ⟨o, c⟩ := oc
      dsimp only
      cases he : verbScan o c (env.s.drop (pos + (spaceRun env.s pos).length + 1)) 1
          (pos + (spaceRun env.s pos).length + 1) with
      | some e => exact ok _ first o c e rfl hfirst hoc he
      | none => exact unterminated _ first o c rfl hfirst hoc he

end parsers

end Pylx
