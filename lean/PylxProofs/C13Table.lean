/-
  C13, table part — kernel-checked facts about the two generated tables
  (`Pylx.Gen.uni2latex`, `Pylx.Gen.uni2latexXml`), and the walk by which evaluations over many characters read a table.
-/
import PylxProofs.C13Lex
namespace Pylx

/-! ### a character list and a table, both ascending, walked in step

Looking a character up costs the kernel a scan of the table; evaluations over many characters use the walk instead. -/

/-- strictly ascending -/
def ascending : List Nat → Bool
  | a :: b :: r => decide (a < b) && ascending (b :: r)
  | _ => true

theorem ascending_spec : ∀ {l : List Nat}, ascending l = true → l.Pairwise (· < ·)
  | [], _ => .nil
  | [_], _ => .cons (fun _ h => nomatch h) .nil
  | a :: b :: r, h => by
    simp only [ascending, Bool.and_eq_true, decide_eq_true_eq] at h
    have ih := ascending_spec h.2
    refine .cons (fun x hx => ?_) ih
    rcases List.mem_cons.mp hx with rfl | hx
    · exact h.1
    · exact Nat.lt_trans h.1 (List.rel_of_pairwise_cons ih hx)

/-- walks the ascending keys `ks` and the ascending table `tb` in step: `p k (some v)` for a key with an entry `(k, v)`,
    `p k none` for a key without one (`fuel` bounds the number of steps) -/
def walkKeys {β : Type} (p : Nat → Option β → Bool) : Nat → List Nat → List (Nat × β) → Bool
  | 0, _, _ => false
  | _ + 1, [], _ => true
  | f + 1, k :: ks, [] => p k none && walkKeys p f ks []
  | f + 1, k :: ks, (a, v) :: tb =>
    if a < k then walkKeys p f (k :: ks) tb
    else if a = k then p k (some v) && walkKeys p f ks tb
    else p k none && walkKeys p f ks ((a, v) :: tb)

theorem lookup_none_of_lt {β : Type} {k : Nat} : ∀ {tb : List (Nat × β)}, (∀ e ∈ tb, k < e.1) → tb.lookup k = none
  | [], _ => rfl
  | (a, v) :: tb, h => by
    have ha : k < a := h (a, v) (List.mem_cons_self ..)
    rw [List.lookup_cons, show (k == a) = false from by simpa using Nat.ne_of_lt ha]
    exact lookup_none_of_lt (fun e he => h e (List.mem_cons_of_mem _ he))

theorem walkKeys_spec {β : Type} (p : Nat → Option β → Bool) : ∀ (f : Nat) (ks : List Nat) (tb : List (Nat × β)),
    ks.Pairwise (· < ·) → (tb.map (·.1)).Pairwise (· < ·) → walkKeys p f ks tb = true →
    ∀ k ∈ ks, p k (tb.lookup k) = true
  | 0, _, _, _, _, h => by cases h
  | _ + 1, [], _, _, _, _ => fun _ hk => nomatch hk
  | f + 1, k :: ks, [], hks, htb, h => by
    simp only [walkKeys, Bool.and_eq_true] at h
    intro x hx
    rcases List.mem_cons.mp hx with rfl | hx
    · exact h.1
    · exact walkKeys_spec p f ks [] (List.Pairwise.of_cons hks) htb h.2 x hx
  | f + 1, k :: ks, (a, v) :: tb, hks, htb, h => by
    have htb' : (tb.map (·.1)).Pairwise (· < ·) := List.Pairwise.of_cons htb
    have hgt : ∀ e ∈ tb, a < e.1 := fun e he =>
      List.rel_of_pairwise_cons htb (List.mem_map_of_mem (f := (·.1)) he)
    unfold walkKeys at h
    intro x hx
    by_cases hak : a < k
    · rw [if_pos hak] at h
      have hxa : a < x := by
        rcases List.mem_cons.mp hx with rfl | hx'
        · exact hak
        · exact Nat.lt_trans hak (List.rel_of_pairwise_cons hks hx')
      rw [List.lookup_cons, show (x == a) = false from by simpa using (Nat.ne_of_lt hxa).symm]
      exact walkKeys_spec p f (k :: ks) tb hks htb' h x hx
    · rw [if_neg hak] at h
      by_cases hek : a = k
      · subst hek
        rw [if_pos rfl, Bool.and_eq_true] at h
        rcases List.mem_cons.mp hx with rfl | hx'
        · rw [List.lookup_cons, beq_self_eq_true]; exact h.1
        · have hxa : a < x := List.rel_of_pairwise_cons hks hx'
          rw [List.lookup_cons, show (x == a) = false from by simpa using (Nat.ne_of_lt hxa).symm]
          exact walkKeys_spec p f ks tb (List.Pairwise.of_cons hks) htb' h.2 x hx'
      · rw [if_neg hek, Bool.and_eq_true] at h
        have hka : k < a := by omega
        rcases List.mem_cons.mp hx with rfl | hx'
        · rw [lookup_none_of_lt (tb := (a, v) :: tb) (fun e he => by
            rcases List.mem_cons.mp he with rfl | he'
            · exact hka
            · exact Nat.lt_trans hka (hgt e he'))]
          exact h.1
        · exact walkKeys_spec p f ks ((a, v) :: tb) (List.Pairwise.of_cons hks) htb h.2 x hx'

theorem lookup_map_snd {β γ : Type} (g : β → γ) (k : Nat) : ∀ (l : List (Nat × β)),
    (l.map (fun e => (e.1, g e.2))).lookup k = (l.lookup k).map g
  | [] => rfl
  | (a, v) :: l => by
    simp only [List.map_cons, List.lookup_cons]
    cases k == a
    · exact lookup_map_snd g k l
    · rfl

/-! ### slices

A kernel evaluation over a whole table is cut into declarations over slices of its chunk list: each stays inside the default
heartbeat limit, and the kernel frees its memory between declarations. -/

theorem all_take_drop {α : Type} (p : α → Bool) (n : Nat) (l : List α)
    (h1 : (l.take n).all p = true) (h2 : (l.drop n).all p = true) : l.all p = true := by
  rw [← List.take_append_drop n l, List.all_append, h1, h2]; rfl

/-- two adjacent slices -/
theorem slice_join {α : Type} (p : α → Bool) (l : List α) (lo a b : Nat)
    (h1 : ((l.drop lo).take a).all p = true) (h2 : ((l.drop (lo + a)).take b).all p = true) :
    ((l.drop lo).take (a + b)).all p = true := by
  rw [List.take_add, List.all_append, h1, List.drop_drop, h2]; rfl

/-- a slice and everything after it -/
theorem slice_rest {α : Type} (p : α → Bool) (l : List α) (lo a : Nat)
    (h1 : ((l.drop lo).take a).all p = true) (h2 : (l.drop (lo + a)).all p = true) :
    (l.drop lo).all p = true := by
  apply all_take_drop p a (l.drop lo) h1
  rw [List.drop_drop]; exact h2

theorem toNat_ofNat_of_valid {k : Nat} (h : k.isValidChar) : (Char.ofNat k).toNat = k := by
  simp [Char.ofNat, h, Char.ofNatAux, Char.toNat]

end Pylx

namespace Pylx.C13
open Pylx Pylx.EncB

/-! ### Kernel-checked facts about the generated tables -/

/-- the five built-in protection schemes -/
def schemes : List Prot := [.none, .braces, .bracesAll, .bracesAlmostAll, .bracesAfterMacro]

def BuiltinProt (pr : Prot) : Prop := pr ∈ schemes

/-- entry check: under every built-in scheme the protected replacement is a safe chunk -/
def entrySafe (e : Nat × List Nat) : Bool :=
  schemes.all (fun pr => chunkSafe (protect isAsciiAlpha pr (S e.2)))

def entryAscii (e : Nat × List Nat) : Bool := (S e.2).all (fun c => decide (c.toNat < 128))

theorem defaults_safe : Gen.uni2latexChunks.all (fun ch => ch.all entrySafe) = true := by decide +kernel
theorem xml_safe : Gen.uni2latexXmlChunks.all (fun ch => ch.all entrySafe) = true := by decide +kernel
theorem defaults_ascii : Gen.uni2latexChunks.all (fun ch => ch.all entryAscii) = true := by decide +kernel
theorem xml_ascii : Gen.uni2latexXmlChunks.all (fun ch => ch.all entryAscii) = true := by decide +kernel


/-- the code points of both tables are listed in ascending order -/
theorem table_ascending (tb : Table) : ascending ((rawTable tb).map (·.1)) = true := by
  cases tb <;> decide +kernel

/-- the five characters the lexical scan reacts to (`\\ { } % $`) have a rule in both tables -/
theorem active_have_rules (tb : Table) :
    [92, 123, 125, 37, 36].all (fun k => ((tableOf tb).lookup k).isSome) = true := by
  cases tb <;> decide +kernel

def chunksOf : Table → List (List (Nat × List Nat))
  | .defaults => Gen.uni2latexChunks
  | .xml => Gen.uni2latexXmlChunks

theorem rawTable_eq (tb : Table) : rawTable tb = (chunksOf tb).flatten := by
  cases tb <;> rfl

theorem raw_all {p : Nat × List Nat → Bool} {tb : Table}
    (h : (chunksOf tb).all (fun ch => ch.all p) = true) : ∀ e ∈ rawTable tb, p e = true := by
  intro e he
  rw [rawTable_eq, List.mem_flatten] at he
  obtain ⟨ch, hch, hmem⟩ := he
  rw [List.all_eq_true] at h
  have := h ch hch
  rw [List.all_eq_true] at this
  exact this e hmem

theorem table_safe (tb : Table) : ∀ e ∈ rawTable tb, entrySafe e = true := by
  cases tb
  · exact raw_all (tb := .defaults) defaults_safe
  · exact raw_all (tb := .xml) xml_safe

theorem table_ascii (tb : Table) : ∀ e ∈ rawTable tb, entryAscii e = true := by
  cases tb
  · exact raw_all (tb := .defaults) defaults_ascii
  · exact raw_all (tb := .xml) xml_ascii

theorem ruleProt_none (tb : Table) : ruleProt tb = none := by
  cases tb <;> rfl

end Pylx.C13
