/-
  C05Loop — the nodes collector (`loopStep`, `loopDispatch`, `afterChild`) keeps the C05 contract.
-/
import PylxProofs.C05Lemmas
namespace Pylx

variable {env : Env} {rec : Task → Ret}

/-! ### the context is closed -/

theorem macroSpec_known (hc : env.ctx.Closed) {name : Str} {a : ArgsP} (h : env.ctx.macroSpec name = some a) : a.Known := by
  unfold Ctx.macroSpec at h
  split at h
  · rename_i a' ha
    cases h
    obtain ⟨p, hp, hv⟩ := lookupFirst_mem _ _ _ ha
    rw [← hv]; exact hc.macros p hp
  · exact hc.um a h

theorem envSpec_known (hc : env.ctx.Closed) {name : Str} {a : ArgsP × Bool} (h : env.ctx.envSpec name = some a) : a.1.Known := by
  unfold Ctx.envSpec at h
  split at h
  · rename_i a' ha
    cases h
    obtain ⟨p, hp, hv⟩ := lookupFirst_mem _ _ _ ha
    rw [← hv]; exact hc.envs p hp
  · exact hc.ue a h

/-! ### collector state -/

theorem flush_ok (f : PSFields) {st : LoopSt} (h : StOk env st) : StOk env (st.flush f) := by
  unfold LoopSt.flush
  split
  · exact h
  · refine ⟨h.pos, fun p hp => (by cases hp), fun n hn => ?_⟩
    rcases List.mem_append.mp hn with hn | hn
    · exact h.acc n hn
    · simp only [List.mem_singleton] at hn
      rw [hn]
      show st.pendPos.getD 0 ≤ _
      cases hpp : st.pendPos with
      | none => simp
      | some q => exact h.pend q hpp

theorem push_ok {st : LoopSt} (h : StOk env st) (chars : Str) {q : Nat} (hq : q ≤ env.s.length) :
    StOk env (st.push chars q) := by
  unfold LoopSt.push
  refine ⟨h.pos, fun p hp => ?_, h.acc⟩
  dsimp only at hp
  split at hp
  · rename_i p' hp'
    cases hp; exact h.pend _ hp'
  · cases hp; exact hq

theorem StOk.setPos {st : LoopSt} (h : StOk env st) {x : Nat} (hx : x ≤ env.s.length) :
    StOk env { st with pos := x } := ⟨hx, h.pend, h.acc⟩

theorem StOk.addNode {st : LoopSt} (h : StOk env st) {n : Node} (hn : n.pos ≤ env.s.length) :
    StOk env { st with acc := st.acc ++ [n] } := by
  refine ⟨h.pos, h.pend, fun m hm => ?_⟩
  rcases List.mem_append.mp hm with hm | hm
  · exact h.acc m hm
  · simp only [List.mem_singleton] at hm
    rw [hm]; exact hn

theorem flushBefore_ok (f : PSFields) {st : LoopSt} (h : StOk env st) {t : Token} (ht : TokLoc env t) :
    StOk env (st.flushBefore f t) := by
  unfold LoopSt.flushBefore
  split
  · exact flush_ok f (st := { st with pend := st.pend ++ t.pre }) ⟨h.pos, h.pend, h.acc⟩
  · split
    · apply h.addNode
      show t.pos - t.pre.length ≤ _
      have := ht.pos_len
      omega
    · exact h

theorem loopFinish_good (f : PSFields) {st : LoopSt} (hst : StOk env st) {stopTok : Option Token} {err : Option PErr}
    (hstop : ∀ t, stopTok = some t → t.posEnd ≤ env.s.length)
    (herr : ∀ pe, err = some pe → ∃ p, pe.pos = some p ∧ p ≤ env.s.length) :
    GoodLoop env (loopFinish f st stopTok err) := by
  have h := flush_ok f hst
  exact ⟨h.pos, h.acc, herr, hstop⟩

theorem loopFinish_err5 (f : PSFields) {st : LoopSt} (hst : StOk env st) (e : PErr) {p : Nat} (hp : e.pos = some p)
    (hle : p ≤ env.s.length) : GoodLoop env (loopFinish f st none (some e)) :=
  loopFinish_good f hst (by intro t h; cases h) (by intro pe h; cases h; exact ⟨p, hp, hle⟩)

/-! ### `afterChild` -/

theorem afterChild_good (hrec : RecOk env rec) {f : PSFields} {stop : StopTok} {child : ChildPS} {st : LoopSt}
    (hf : FOk5 env f) (hch : ChildOk5 env f child) (hst : StOk env st)
    (noneOk : Bool) {p : Parser} {r : Ret} (hr : GoodPc env p r)
    (hshape : ∀ res, ResShape p res → isNode res ∨ (noneOk = true ∧ res = .none)) :
    GoodLoop env (afterChild rec f stop child st noneOk r) := by
  apply afterChild_elim
  · intro n q e
    rw [e] at hr
    exact hrec.loop hf hch ((hst.addNode hr.2.1.1).setPos hr.2.2)
  · intro q e _
    rw [e] at hr
    exact hrec.loop hf hch (hst.setPos hr.2.2)
  · intro e he
    rw [he] at hr
    obtain ⟨p', hp', hle⟩ := hr.2.pos
    exact loopFinish_err5 f hst e hp' hle
  · intro _; trivial
  · intro _ hsh
    -- the contract and the parser's result shape leave only the results the collector can take
    apply hsh
    cases r with
    | ok res q =>
      rcases hshape res hr.1 with h | ⟨h1, h2⟩
      · cases res <;> first | trivial | exact h.elim
      · rw [h2]; exact h1
    | perr e => trivial
    | fuel => trivial
    | loopEnd e => exact hr
    | crash k => exact hr

/-! ### reading a token -/

/-- the token the collector works on lies inside the input; unless it stands for the final whitespace it is what
    the reader sees at `st.pos` -/
theorem tokLoc_of_loopTok {f : PSFields} {st : LoopSt} (hf : FOk5 env f) (hst : StOk env st) {t : Token}
    (h : LoopTok env f st t) :
    TokLoc env t ∧ (t.kind ≠ .char → peekImpl (mkPS f) env.s st.pos = .tok t) := by
  cases h with
  | peek hp => exact ⟨.ofSpan (span_of_peekTok _ _ hf.tables _ _ _ hp), fun hk => peekTok_nonchar hp hk⟩
  | @final fs hp _ =>
    refine ⟨⟨Nat.le_refl _, ?_⟩, fun hk => absurd rfl hk⟩
    show st.pos + fs.length ≤ _
    have := peekImpl_ok (mkPS f) hf.tables env.s st.pos
    rw [peekTok_eos hp] at this
    have hpos := hst.pos
    rcases this with h | h
    · rw [h, List.length_drop]; omega
    · omega

/-! ### dispatch -/

theorem errAt_pos (w : ErrWhat) (t : Token) (rp : Nat) (past : Bool) : (errAt w t rp past).pos = some t.pos := rfl

/-- the sub-parse `process_one_token` starts for the token `t` read at `p0` meets the precondition of its parser,
    and the parser returns a node (or nothing, where the collector allows that) -/
theorem dispatchChild_pre5 (hc : env.ctx.Closed) {f : PSFields} {child : ChildPS} {st : LoopSt}
    (hch : ChildOk5 env f child) (hst : StOk env st) {p0 : Nat} {t : Token}
    (hpk : peekImpl (mkPS f) env.s p0 = .tok t) (hloc : TokLoc env t) {P : Parser} {start : Nat} {b : Bool}
    (hd : DispatchChild env f st { t with pre := [] } P start b) :
    start ≤ env.s.length ∧ PPre5 env P (child.get f { t with pre := [] }) start ∧
      ∀ res, ResShape P res → isNode res ∨ (b = true ∧ res = .none) := by
  have hsb := childGet_sameBut hch { t with pre := [] }
  cases hd with
  | group hk =>
    have hk : t.kind = .braceOpen := hk
    have hop0 : f.groupDelims.any (fun d => d.1 == t.arg) = true := braceOpen_opener hpk hk
    have hop := childGet_opener hch { t with pre := [] } hk hop0
    have hre := reread_braceOpen hsb hpk hk hop
    have hns : NonSpaceAt env.s t.pos := nonSpaceAt_of_tok hpk (Or.inl hk)
    refine ⟨hloc.pos_len, fun o ho => ?_, fun res hs => Or.inl (hs rfl rfl)⟩
    cases ho
    exact ⟨hop, hns, fun _ => ⟨_, hre, hk, rfl, rfl⟩⟩
  | mac hk hm => exact ⟨hst.pos, ⟨macroSpec_known hc hm, hloc.pos_len⟩, fun res hs => Or.inl hs⟩
  | env hk hm => exact ⟨hst.pos, ⟨envSpec_known hc hm, hloc.pos_len⟩, fun res hs => Or.inl hs⟩
  | spec hk hm =>
    obtain ⟨pr, hpr, hv⟩ := lookupFirst_mem _ _ _ hm
    exact ⟨hst.pos, ⟨hv ▸ hc.specials pr hpr, hloc.pos_len⟩, fun res hs => Or.inl hs⟩
  | math hk hm =>
    have hk : t.kind = .mathInline ∨ t.kind = .mathDisplay := hk
    have hre := reread_math hsb hpk hk
    refine ⟨hloc.pos_len, ⟨?_, fun _ => ⟨_, hre, hk, rfl, rfl⟩⟩, fun res hs => ?_⟩
    · rw [byOpenOf_sameBut hsb, ← mkPS_mathByOpen]; exact hm
    · cases res with
      | node n => exact Or.inl trivial
      | none => exact Or.inr ⟨rfl, rfl⟩
      | list a b c => exact hs.elim
      | args a b c => exact hs.elim

theorem loopDispatch_good (hc : env.ctx.Closed) (hrec : RecOk env rec) {f : PSFields} {stop : StopTok}
    {child : ChildPS} {st : LoopSt} (hf : FOk5 env f) (hch : ChildOk5 env f child) (hst : StOk env st)
    {p0 : Nat} {t : Token} (hpk : peekImpl (mkPS f) env.s p0 = .tok t) (hloc : TokLoc env t)
    (hnc : t.kind ≠ .char) :
    GoodLoop env (loopDispatch env rec f stop child st { t with pre := [] }) := by
  apply loopDispatch_elim
  · intro _ _ _; exact loopFinish_err5 f hst _ (errAt_pos _ _ _ _) hloc.pos_len
  · intro _; exact hrec.loop hf hch (hst.addNode hloc.pos_len)
  · intro _; exact hrec.loop hf hch hst
  · intro P start b hd
    obtain ⟨hstart, hpre, hshape⟩ := dispatchChild_pre5 hc hch hst hpk hloc hd
    exact afterChild_good hrec hf hch hst b (hrec.pc (childGet_FOk hf hch _) hstart hpre) hshape
  · intro _ h
    -- a specials token carries one of the context's specials
    rcases h with hk | ⟨hk, hm⟩
    · exact absurd hk hnc
    · have hmem := specials_arg_mem hpk hk
      rw [mkPS_specials, hf.specials] at hmem
      obtain ⟨a, ha⟩ := lookupFirst_some_of_mem _ _ hmem
      rw [show lookupFirst t.arg env.ctx.specials = none from hm] at ha
      cases ha

/-! ### one iteration -/

theorem loopStep_good5 (hc : env.ctx.Closed) (hrec : RecOk env rec) {f : PSFields} {stop : StopTok}
    {child : ChildPS} {st : LoopSt} (hf : FOk5 env f) (hch : ChildOk5 env f child) (hst : StOk env st) :
    GoodLoop env (loopStep env rec f stop child st) := by
  apply loopStep_elim
  · intro _; exact loopFinish_good f hst (fun _ h => nomatch h) (fun _ h => nomatch h)
  · intro _ _ _ _ hp _; exact loopFinish_err5 f hst _ rfl (peekTok_err_le hf.tables hp)
  · intro t hlt _
    obtain ⟨hloc, _⟩ := tokLoc_of_loopTok hf hst hlt
    have hpl := hloc.pos_len
    refine loopFinish_good f ((push_ok hst _ (by omega)).setPos hpl) (fun t' h => ?_) (fun _ h => nomatch h)
    cases h; exact hloc.end_le
  · intro t hlt _ _
    obtain ⟨hloc, _⟩ := tokLoc_of_loopTok hf hst hlt
    have hpl := hloc.pos_len
    exact hrec.loop hf hch ((push_ok hst _ (by omega)).setPos hloc.end_le)
  · intro t hlt _ hnc
    obtain ⟨hloc, hpk⟩ := tokLoc_of_loopTok hf hst hlt
    exact loopDispatch_good hc hrec hf hch ((flushBefore_ok f hst hloc).setPos hloc.end_le) (hpk hnc) hloc hnc

end Pylx
