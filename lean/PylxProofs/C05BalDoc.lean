/-
  C05BalDoc — the counts of `C05BalScan` on the source text of a document of the grammar (`Doc.Core` fragment), and
  on the same text with one structural delimiter injected at an item or argument boundary of any nesting depth:
  the well-formed text is balanced for every class, the faulty text is off by exactly the weight of the fault.
  With `unbalanced_rejected` of `C05BalParse`: every such faulty document is rejected by the strict parser.
-/
import PylxProofs.C05BalParse
namespace Pylx
namespace C05Bal
open Doc

theorem rel_dollar (x y : Int) : Rel .dollar x y ↔ (2 : Int) ∣ x - y := Iff.rfl

theorem rel_other {k : Sym} (hk : k ≠ .dollar) (x y : Int) : Rel k x y ↔ x = y := by
  constructor
  · exact Rel.eq_of_ne_dollar hk
  · exact Rel.of_eq

section pieces
variable (ctx : Ctx) (k : Sym)

theorem textChar_plain {c : Char} (h : isTextChar c = true) : plainCh c = true := plainCh_of_class (by decide) h

theorem xdelim_plain {c : Char} (h : isXDelim c = true) : plainCh c = true := plainCh_of_class (by decide) h

theorem cnt_text {t : Str} (h : t.all isTextChar = true) (r : Str) : cnt ctx k .n (t ++ r) = cnt ctx k .n r :=
  cnt_plains ctx k (fun c hc => textChar_plain (List.all_eq_true.mp h c hc)) r

theorem cnt_isWs {w : Str} (h : isWs w = true) (r : Str) : cnt ctx k .n (w ++ r) = cnt ctx k .n r :=
  cnt_ws ctx k (fun c hc => List.all_eq_true.mp h c hc) r

theorem cnt_com_skip : ∀ (text : Str), text.contains '\n' = false → ∀ r, cnt ctx k .com (text ++ '\n' :: r) = cnt ctx k .n r := by
  intro text
  induction text with
  | nil => intro _ r; rw [List.nil_append, cnt, if_pos rfl]
  | cons c text ih =>
    intro h r
    have h' : c ≠ '\n' ∧ text.contains '\n' = false := by
      simp only [List.contains_cons, Bool.or_eq_false_iff, beq_eq_false_iff_ne, ne_eq] at h
      exact ⟨fun e => h.1 e.symm, h.2⟩
    rw [List.cons_append, cnt, if_neg h'.1]
    exact ih h'.2 r

theorem cnt_comment_item {text tail : Str} (h1 : text.contains '\n' = false) (h2 : tail.head? = some '\n')
    (h3 : isWs tail = true) (r : Str) : cnt ctx k .n ('%' :: (text ++ (tail ++ r))) = cnt ctx k .n r := by
  cases tail with
  | nil => cases h2
  | cons c tail =>
    have hc : c = '\n' := by simpa using h2
    subst hc
    have h3' : isWs tail = true := by
      simp only [isWs, List.all_cons, Bool.and_eq_true] at h3
      exact h3.2
    rw [cnt_comment, List.cons_append, cnt_com_skip ctx k text h1, cnt_isWs ctx k h3']

theorem cnt_beginStr {name : Str} (hname : name.all isEnvNameChar = true) (hne : name ≠ []) (r : Str) :
    cnt ctx k .n (beginStr name ++ r) = kindW ctx k .beginEnv name + cnt ctx k .n r := by
  have := cnt_envword ctx k true (sp := []) (by intro c h; cases h) (List.all_eq_true.mp hname) hne r
  rw [C02.beginStr_append]
  exact this

theorem cnt_endStr {name : Str} (hname : name.all isEnvNameChar = true) (hne : name ≠ []) (r : Str) :
    cnt ctx k .n (endStr name ++ r) = kindW ctx k .endEnv name + cnt ctx k .n r := by
  have := cnt_envword ctx k false (sp := []) (by intro c h; cases h) (List.all_eq_true.mp hname) hne r
  rw [C02.endStr_append]
  exact this

theorem beginW_eq : "begin".toList = beginW := rfl
theorem endW_eq : "end".toList = endW := rfl

theorem cnt_macro_head {name post : Str} (hbad : macroBad ctx name = false) {X : Str}
    (hcw : (isControlWord name = true ∧ name ≠ beginW ∧ name ≠ endW ∧ isWs post = true ∧
              headIs isAsciiAlpha (post ++ X) = false) ∨ (isControlSymbol name = true ∧ post = [])) :
    cnt ctx k .n ('\\' :: (name ++ (post ++ X))) = cnt ctx k .n X := by
  rcases hcw with ⟨hw, hb, he, hpost, hnext⟩ | ⟨hsym, hpost⟩
  · unfold isControlWord at hw
    simp only [Bool.and_eq_true, Bool.not_eq_eq_eq_not, Bool.not_true] at hw
    cases name with
    | nil => simp at hw
    | cons c cs =>
      have hall : (c :: cs).all isAsciiAlpha = true := hw.2
      have hc : isAsciiAlpha c = true := by
        simp only [List.all_cons, Bool.and_eq_true] at hall; exact hall.1
      have hcs : ∀ x ∈ cs, isAsciiAlpha x = true := by
        simp only [List.all_cons, Bool.and_eq_true] at hall
        exact List.all_eq_true.mp hall.2
      have htw : ((c :: cs) ++ (post ++ X)).takeWhile isAsciiAlpha = c :: cs := C02.takeWhile_all hall hnext
      rw [List.cons_append, cnt_esc, escW_word ctx k hc (by rw [← List.cons_append, htw]; exact hb)
        (by rw [← List.cons_append, htw]; exact he), ← List.cons_append, htw, kindW_macro_zero ctx k hbad, Int.zero_add,
        cnt_alphas ctx k hcs, cnt_isWs ctx k hpost]
  · subst hpost
    unfold isControlSymbol at hsym
    split at hsym
    · rename_i c
      simp only [Bool.and_eq_true, Bool.not_eq_eq_eq_not, Bool.not_true, bne_iff_ne, ne_eq] at hsym
      obtain ⟨⟨⟨⟨⟨h1, _⟩, h3⟩, h4⟩, h5⟩, h6⟩ := hsym
      rw [List.cons_append, List.nil_append, List.nil_append, cnt_esc, escW_symbol ctx k _ h1 ⟨h3, h4, h5, h6⟩,
        kindW_macro_zero ctx k hbad, Int.zero_add]
    · cases hsym

end pieces

/-! ### frames: a construct around a body whose count is known up to `w` -/

section frames
variable (ctx : Ctx) (k : Sym)

theorem Rel.rhs {k : Sym} {x y z : Int} (h : Rel k x y) (e : y = z) : Rel k x z := e ▸ h
theorem Rel.lhs {k : Sym} {x y z : Int} (h : Rel k x y) (e : z = x) : Rel k z y := e ▸ h

theorem frame_G {B R : Str} {w : Int} (h : Rel k (cnt ctx k .n (B ++ '}' :: R)) (w + cnt ctx k .n ('}' :: R))) :
    Rel k (cnt ctx k .n ('{' :: (B ++ '}' :: R))) (w + cnt ctx k .n R) := by
  rw [cnt_cons ctx k (by decide) (by decide)] at h
  rw [cnt_cons ctx k (by decide) (by decide)]
  refine (Rel.add_left (plainW k '{') h).rhs ?_
  have := brace_cancel k
  omega

theorem frame_plain {o c : Char} (ho : plainCh o = true) (hc : plainCh c = true) {B R : Str} {w : Int}
    (h : Rel k (cnt ctx k .n (B ++ c :: R)) (w + cnt ctx k .n (c :: R))) :
    Rel k (cnt ctx k .n (o :: (B ++ c :: R))) (w + cnt ctx k .n R) := by
  rw [cnt_plain ctx k hc] at h
  rw [cnt_plain ctx k ho]
  exact h

theorem fkind_six (fk : FKind) : fk.opener ∈ sixD ∧ fk.closer ∈ sixD := by cases fk <;> decide

theorem fkind_cancel (fk : FKind) : Rel k (mathW k fk.opener + mathW k fk.closer) 0 := by
  cases fk
  · exact math_pair k (o := ['$']) (cd := (['$'], false)) (by decide)
  · exact math_pair k (o := ['$', '$']) (cd := (['$', '$'], true)) (by decide)
  · exact math_pair k (o := ['\\', '(']) (cd := (['\\', ')'], false)) (by decide)
  · exact math_pair k (o := ['\\', '[']) (cd := (['\\', ']'], true)) (by decide)

theorem frame_F (fk : FKind) {B R : Str} {w : Int}
    (h : Rel k (cnt ctx k .n (B ++ (fk.closer ++ R))) (w + cnt ctx k .n (fk.closer ++ R))) :
    Rel k (cnt ctx k .n (fk.opener ++ (B ++ (fk.closer ++ R)))) (w + cnt ctx k .n R) := by
  rw [cnt_math ctx k (fkind_six fk).2] at h
  rw [cnt_math ctx k (fkind_six fk).1]
  have h1 := Rel.add_left (mathW k fk.opener) h
  have h2 : Rel k (mathW k fk.opener + (w + (mathW k fk.closer + cnt ctx k .n R)))
      (0 + (w + cnt ctx k .n R)) := by
    have e : mathW k fk.opener + (w + (mathW k fk.closer + cnt ctx k .n R)) =
        (mathW k fk.opener + mathW k fk.closer) + (w + cnt ctx k .n R) := by omega
    rw [e]
    exact Rel.add (fkind_cancel k fk) (Rel.refl _ _)
  exact (Rel.trans h1 h2).rhs (by omega)

theorem frame_E {name : Str} (hname : name.all isEnvNameChar = true) (hne : name ≠ []) (hbad : envBad ctx name = false)
    {A B R : Str} {w1 w2 : Int}
    (hA : Rel k (cnt ctx k .n (A ++ (B ++ (endStr name ++ R)))) (w1 + cnt ctx k .n (B ++ (endStr name ++ R))))
    (hB : Rel k (cnt ctx k .n (B ++ (endStr name ++ R))) (w2 + cnt ctx k .n (endStr name ++ R))) :
    Rel k (cnt ctx k .n (beginStr name ++ (A ++ (B ++ (endStr name ++ R))))) (w1 + w2 + cnt ctx k .n R) := by
  rw [cnt_endStr ctx k hname hne] at hB
  rw [cnt_beginStr ctx k hname hne]
  have h1 := Rel.trans hA (Rel.add_left w1 hB)
  have h2 := Rel.add_left (kindW ctx k .beginEnv name) h1
  refine h2.rhs ?_
  have := kindW_env_pair ctx k hbad
  omega

end frames

mutual
/-- every macro / environment called in the document has a non-verbatim standard specification in `ctx` (with plain
    delimiters in its delimited slots); in particular no `\verb`, no verbatim environment, no `v` argument -/
def docOk (ctx : Ctx) : List Item → Bool
  | [] => true
  | .T _ :: tl => docOk ctx tl
  | .W _ :: tl => docOk ctx tl
  | .P _ :: tl => docOk ctx tl
  | .G b :: tl => docOk ctx b && docOk ctx tl
  | .M name _ args :: tl => !macroBad ctx name && argsDocOk ctx args && docOk ctx tl
  | .E name args body :: tl => !envBad ctx name && argsDocOk ctx args && docOk ctx body && docOk ctx tl
  | .F _ b :: tl => docOk ctx b && docOk ctx tl
  | .C _ _ :: tl => docOk ctx tl
  | .S _ args :: tl => argsDocOk ctx args && docOk ctx tl
  | .V _ _ :: _ => false
  | .VE _ _ _ _ :: _ => false
def argsDocOk (ctx : Ctx) : List ArgVal → Bool
  | [] => true
  | .absent :: tl => argsDocOk ctx tl
  | .star :: tl => argsDocOk ctx tl
  | .marker _ :: tl => argsDocOk ctx tl
  | .br b :: tl => docOk ctx b && argsDocOk ctx tl
  | .grp b :: tl => docOk ctx b && argsDocOk ctx tl
  | .tok _ :: tl => argsDocOk ctx tl
  | .del _ _ b :: tl => docOk ctx b && argsDocOk ctx tl
  | .verb _ _ _ :: _ => false
end

/-- `a` may stand for `b` behind a control word without lengthening it: it does not start with a letter unless `b` does -/
def HeadLe (a b : Str) : Prop := headIs isAsciiAlpha a = true → headIs isAsciiAlpha b = true

theorem HeadLe.refl (a : Str) : HeadLe a a := fun h => h

theorem HeadLe.append (w : Str) {a b : Str} (h : HeadLe a b) : HeadLe (w ++ a) (w ++ b) := by
  cases w with
  | nil => exact h
  | cons c w => exact fun h => h

theorem HeadLe.cons (c : Char) (a b : Str) : HeadLe (c :: a) (c :: b) := fun h => h

theorem HeadLe.false_of {a b : Str} (h : HeadLe a b) (hb : headIs isAsciiAlpha b = false) : headIs isAsciiAlpha a = false := by
  cases ha : headIs isAsciiAlpha a with
  | false => rfl
  | true => rw [h ha] at hb; cases hb

section steps
variable (ctx : Ctx) (k : Sym)

/-- the Core conditions on a macro's name and post-space, `W` = what is written behind them -/
def macroHdr (name post W : Str) : Bool :=
  if isControlWord name then
    name != "begin".toList && name != "end".toList && isWs post && decide (countNl post < 2) &&
    !headIs isAsciiAlpha (post ++ W) && (!headIs isPySpace W || (post.isEmpty && parStart W))
  else post.isEmpty && isControlSymbol name

theorem step_M {name post W : Str} (hM : macroHdr name post W = true) (hbad : macroBad ctx name = false)
    {X : Str} (hle : HeadLe X W) : cnt ctx k .n ('\\' :: (name ++ (post ++ X))) = cnt ctx k .n X := by
  unfold macroHdr at hM
  cases hcw : isControlWord name with
  | true =>
    rw [hcw] at hM
    simp only [if_true, Bool.and_eq_true, Bool.not_eq_eq_eq_not, Bool.not_true, decide_eq_true_eq,
      bne_iff_ne, ne_eq, Bool.or_eq_true] at hM
    obtain ⟨⟨⟨⟨⟨hnb, hnend⟩, hwsp⟩, _⟩, hnext⟩, _⟩ := hM
    refine cnt_macro_head ctx k hbad (Or.inl ⟨hcw, ?_, ?_, hwsp, ?_⟩)
    · rw [← beginW_eq]; exact hnb
    · rw [← endW_eq]; exact hnend
    · exact (HeadLe.append post hle).false_of hnext
  | false =>
    rw [hcw] at hM
    simp only [Bool.false_eq_true, if_false, Bool.and_eq_true] at hM
    exact cnt_macro_head ctx k hbad (Or.inr ⟨hM.2, List.isEmpty_iff.mp hM.1⟩)

theorem keys_plain (hc : ctxOk ctx = true) {name : Str} (h : name ∈ ctxKeys ctx) : ∀ c ∈ name, plainCh c = true :=
  (finv_start hc).keys name h

theorem markerOk_plain {keys : List Str} {c : Char} {follow : Str} (h : markerOk keys c follow = true) : plainCh c = true := by
  unfold markerOk at h
  simp only [Bool.and_eq_true, Bool.not_eq_eq_eq_not, Bool.not_true, bne_iff_ne, ne_eq] at h
  obtain ⟨⟨⟨⟨⟨⟨_, h1⟩, h2⟩, h3⟩, h4⟩, h5⟩, _⟩ := h
  exact plainCh_of_ne h1 h2 h3 h4 h5

end steps

theorem core_C {ctx : Ctx} {m : Bool} {after text tail : Str} {tl : List Item}
    (hcore : coreItems ctx m after (.C text tail :: tl) = true) :
    text.contains '\n' = false ∧ tail.head? = some '\n' ∧ isWs tail = true := by
  unfold coreItems at hcore
  simp only [Bool.and_eq_true, Bool.not_eq_eq_eq_not, Bool.not_true, beq_iff_eq] at hcore
  exact ⟨hcore.1.1.1.1.1, hcore.1.1.1.1.2, hcore.1.1.1.2⟩

theorem core_M {ctx : Ctx} {m : Bool} {after name post : Str} {args : List ArgVal} {tl : List Item}
    (h : coreItems ctx m after (.M name post args :: tl) = true) :
    ∃ sig, ctx.macroSpec name = some (.std sig) ∧
      macroHdr name post (unparseArgs args ++ (unparseItems tl ++ after)) = true ∧
      coreArgs ctx m (unparseItems tl ++ after) sig args = true := by
  obtain ⟨sig, hsig, hargs⟩ := C02.coreItems_M h
  simp only [coreItems, Bool.and_eq_true] at h
  exact ⟨sig, hsig, h.1.1, hargs⟩

theorem core_E {ctx : Ctx} {m : Bool} {after name : Str} {args : List ArgVal} {body tl : List Item}
    (h : coreItems ctx m after (.E name args body :: tl) = true) :
    ∃ sig bm, ctx.envSpec name = some (.std sig, bm) ∧ name ≠ [] ∧ name.all isEnvNameChar = true ∧
      coreArgs ctx m (unparseItems body ++ (endStr name ++ (unparseItems tl ++ after))) sig args = true ∧
      coreItems ctx (m || bm) (endStr name ++ (unparseItems tl ++ after)) body = true := by
  obtain ⟨sig, bm, hsig, hargs, hbody⟩ := C02.coreItems_E h
  simp only [coreItems, Bool.and_eq_true, Bool.not_eq_eq_eq_not, Bool.not_true] at h
  exact ⟨sig, bm, hsig, (fun e => by rw [e] at h; cases h.1.1.1), h.1.1.2, hargs, hbody⟩

theorem docOk_M {ctx : Ctx} {name post : Str} {args : List ArgVal} {tl : List Item}
    (h : docOk ctx (.M name post args :: tl) = true) : macroBad ctx name = false ∧ argsDocOk ctx args = true := by
  simp only [docOk, Bool.and_eq_true, Bool.not_eq_eq_eq_not, Bool.not_true] at h
  exact h.1

theorem docOk_E {ctx : Ctx} {name : Str} {args : List ArgVal} {body tl : List Item}
    (h : docOk ctx (.E name args body :: tl) = true) :
    envBad ctx name = false ∧ argsDocOk ctx args = true ∧ docOk ctx body = true := by
  simp only [docOk, Bool.and_eq_true, Bool.not_eq_eq_eq_not, Bool.not_true] at h
  exact ⟨h.1.1.1, h.1.1.2, h.1.2⟩

theorem docOk_tail {ctx : Ctx} {it : Item} {tl : List Item} (h : docOk ctx (it :: tl) = true) : docOk ctx tl = true := by
  cases it <;> simp only [docOk, Bool.and_eq_true] at h <;> first | exact h | exact h.2 | cases h

theorem unparse_cons (it : Item) (tl : List Item) : unparseItems (it :: tl) = unparseItems [it] ++ unparseItems tl := by
  cases it <;> simp [unparseItems]

theorem unparseArgs_cons (a : ArgVal) (tl : List ArgVal) : unparseArgs (a :: tl) = unparseArgs [a] ++ unparseArgs tl := by
  cases a <;> simp [unparseArgs]

theorem coreArgs_sig {ctx : Ctx} {m : Bool} {rest : Str} {sig : List ArgSpec} {a : ArgVal} {tl : List ArgVal}
    (h : coreArgs ctx m rest sig (a :: tl) = true) : ∃ sp sig', sig = sp :: sig' := by
  cases sig with
  | nil => simp [coreArgs] at h
  | cons sp sig' => exact ⟨sp, sig', rfl⟩

theorem argsDocOk_tail {ctx : Ctx} {a : ArgVal} {tl : List ArgVal} (h : argsDocOk ctx (a :: tl) = true) :
    argsDocOk ctx tl = true := by
  cases a <;> simp only [argsDocOk, Bool.and_eq_true] at h <;> first | exact h | exact h.2 | cases h

mutual
/-- **one item** of a core document without verbatim constructs, in front of any text `R` that does not start with a
    letter unless the original continuation does, counts like `R` -/
theorem item_bal (ctx : Ctx) (hc : ctxOk ctx = true) (k : Sym) :
    ∀ (it : Item) (tl : List Item) (m : Bool) (after : Str), coreItems ctx m after (it :: tl) = true →
      docOk ctx (it :: tl) = true →
      ∀ R, HeadLe R (unparseItems tl ++ after) → Rel k (cnt ctx k .n (unparseItems [it] ++ R)) (cnt ctx k .n R)
  | .T t, tl, m, after, hcore, _, R, _ => by
    simp only [coreItems, Bool.and_eq_true, Bool.not_eq_eq_eq_not, Bool.not_true] at hcore
    simp only [unparseItems, List.append_nil]
    rw [cnt_text ctx k hcore.1.2]
    exact Rel.refl _ _
  | .W w, tl, m, after, hcore, _, R, _ => by
    simp only [coreItems, Bool.and_eq_true, Bool.not_eq_eq_eq_not, Bool.not_true, decide_eq_true_eq] at hcore
    simp only [unparseItems, List.append_nil]
    rw [cnt_isWs ctx k hcore.1.1.1.2]
    exact Rel.refl _ _
  | .P w, tl, m, after, hcore, _, R, _ => by
    simp only [coreItems, Bool.and_eq_true, Bool.not_eq_eq_eq_not, Bool.not_true, decide_eq_true_eq, beq_iff_eq] at hcore
    simp only [unparseItems, List.append_nil]
    rw [cnt_isWs ctx k hcore.1.1.1.1.1.1.2]
    exact Rel.refl _ _
  | .G b, tl, m, after, hcore, hdoc, R, _ => by
    simp only [coreItems, Bool.and_eq_true] at hcore
    simp only [docOk, Bool.and_eq_true] at hdoc
    simp only [unparseItems, List.cons_append, List.append_assoc]
    have h1 := items_bal ctx hc k b m ('}' :: (unparseItems tl ++ after)) hcore.1 hdoc.1 ('}' :: R) (HeadLe.cons _ _ _)
    exact (frame_G ctx k (w := 0) (h1.rhs (by omega))).rhs (by omega)
  | .C text tail, tl, m, after, hcore, _, R, _ => by
    obtain ⟨h1, h2, h3⟩ := core_C hcore
    simp only [unparseItems, List.append_nil, List.cons_append, List.append_assoc]
    rw [cnt_comment_item ctx k h1 h2 h3]
    exact Rel.refl _ _
  | .M name post args, tl, m, after, hcore, hdoc, R, hR => by
    obtain ⟨sig, _, hM, hargs⟩ := core_M hcore
    obtain ⟨hbad, hda⟩ := docOk_M hdoc
    simp only [unparseItems, List.append_nil, List.cons_append, List.append_assoc]
    rw [step_M ctx k hM hbad (HeadLe.append _ hR)]
    exact args_bal ctx hc k sig args m _ hargs hda R
  | .E name args body, tl, m, after, hcore, hdoc, R, _ => by
    obtain ⟨sig, bm, _, hne, hall, hargs, hbody⟩ := core_E hcore
    obtain ⟨hbad, hda, hdb⟩ := docOk_E hdoc
    simp only [unparseItems, List.append_nil, List.append_assoc]
    have hA := args_bal ctx hc k sig args m _ hargs hda (unparseItems body ++ (endStr name ++ R))
    have hB := items_bal ctx hc k body (m || bm) (endStr name ++ (unparseItems tl ++ after)) hbody hdb (endStr name ++ R) (by
      rw [C02.endStr_append, C02.endStr_append]; exact HeadLe.cons _ _ _)
    exact (frame_E ctx k hall hne hbad (w1 := 0) (w2 := 0) (hA.rhs (by omega)) (hB.rhs (by omega))).rhs (by omega)
  | .F fk b, tl, m, after, hcore, hdoc, R, _ => by
    simp only [coreItems, Bool.and_eq_true, Bool.not_eq_eq_eq_not, Bool.not_true, Bool.or_eq_true] at hcore
    simp only [docOk, Bool.and_eq_true] at hdoc
    simp only [unparseItems, List.append_nil, List.append_assoc]
    have h1 := items_bal ctx hc k b true (fk.closer ++ (unparseItems tl ++ after)) hcore.1.1.2 hdoc.1 (fk.closer ++ R) (by
      cases fk <;> exact HeadLe.cons _ _ _)
    exact (frame_F ctx k fk (w := 0) (h1.rhs (by omega))).rhs (by omega)
  | .S name args, tl, m, after, hcore, _, R, _ => by
    simp only [coreItems, Bool.and_eq_true, beq_iff_eq] at hcore
    obtain ⟨⟨⟨⟨hemp, _⟩, hts⟩, _⟩, _⟩ := hcore
    have hargs : args = [] := List.isEmpty_iff.mp hemp
    subst hargs
    simp only [unparseItems, unparseArgs, List.append_nil]
    rw [cnt_plains ctx k (keys_plain ctx hc (testSpecials_mem hts))]
    exact Rel.refl _ _
  | .V _ _, _, _, _, _, hdoc, _, _ => by simp [docOk] at hdoc
  | .VE _ _ _ _, _, _, _, _, hdoc, _, _ => by simp [docOk] at hdoc
termination_by it => sizeOf it
decreasing_by
  all_goals first
    | decreasing_tactic
    | (subst_vars; decreasing_tactic)
/-- the source of a core document without verbatim constructs, in front of any text `after'`, counts like `after'` -/
theorem items_bal (ctx : Ctx) (hc : ctxOk ctx = true) (k : Sym) :
    ∀ (a : List Item) (m : Bool) (after : Str), coreItems ctx m after a = true → docOk ctx a = true →
      ∀ after', HeadLe after' after → Rel k (cnt ctx k .n (unparseItems a ++ after')) (cnt ctx k .n after')
  | [], _, _, _, _, after', _ => by
    simp only [unparseItems, List.nil_append]; exact Rel.refl _ _
  | it :: tl, m, after, hcore, hdoc, after', hh => by
    rw [unparse_cons, List.append_assoc]
    exact Rel.trans (item_bal ctx hc k it tl m after hcore hdoc _ (HeadLe.append _ hh))
      (items_bal ctx hc k tl m after (C02.coreItems_tail hcore) (docOk_tail hdoc) after' hh)
termination_by a => sizeOf a
decreasing_by
  all_goals first
    | decreasing_tactic
    | (subst_vars; decreasing_tactic)
/-- **one written argument** of a call, in front of any text -/
theorem arg_bal (ctx : Ctx) (hc : ctxOk ctx = true) (k : Sym) :
    ∀ (a : ArgVal) (sp : ArgSpec) (sig : List ArgSpec) (tl : List ArgVal) (m : Bool) (rest : Str),
      coreArgs ctx m rest (sp :: sig) (a :: tl) = true → argsDocOk ctx (a :: tl) = true →
      ∀ R, Rel k (cnt ctx k .n (unparseArgs [a] ++ R)) (cnt ctx k .n R)
  | .absent, _, _, _, _, _, _, _, R => by
    simp only [unparseArgs, List.nil_append]; exact Rel.refl _ _
  | .star, _, _, _, _, _, _, _, R => by
    simp only [unparseArgs, List.cons_append, List.nil_append]
    rw [cnt_plain ctx k (by decide)]
    exact Rel.refl _ _
  | .marker c, _, _, _, _, _, hcore, _, R => by
    simp only [coreArgs, Bool.and_eq_true] at hcore
    simp only [unparseArgs, List.cons_append, List.nil_append]
    rw [cnt_plain ctx k (markerOk_plain hcore.1.2)]
    exact Rel.refl _ _
  | .tok c, _, _, _, _, _, hcore, _, R => by
    simp only [coreArgs, Bool.and_eq_true] at hcore
    simp only [unparseArgs, List.cons_append, List.nil_append]
    rw [cnt_plain ctx k (textChar_plain hcore.1.2)]
    exact Rel.refl _ _
  | .br b, _, _, tl, _, rest, hcore, hdoc, R => by
    simp only [coreArgs, Bool.and_eq_true] at hcore
    simp only [argsDocOk, Bool.and_eq_true] at hdoc
    simp only [unparseArgs, List.cons_append, List.append_assoc]
    have h1 := items_bal ctx hc k b _ (']' :: (unparseArgs tl ++ rest)) hcore.1.2 hdoc.1 (']' :: R) (HeadLe.cons _ _ _)
    exact (frame_plain ctx k (o := '[') (c := ']') (by decide) (by decide) (w := 0) (h1.rhs (by omega))).rhs (by omega)
  | .grp b, _, _, tl, _, rest, hcore, hdoc, R => by
    simp only [coreArgs, Bool.and_eq_true] at hcore
    simp only [argsDocOk, Bool.and_eq_true] at hdoc
    simp only [unparseArgs, List.cons_append, List.append_assoc]
    have h1 := items_bal ctx hc k b _ ('}' :: (unparseArgs tl ++ rest)) hcore.1.2 hdoc.1 ('}' :: R) (HeadLe.cons _ _ _)
    exact (frame_G ctx k (w := 0) (h1.rhs (by omega))).rhs (by omega)
  | .del o c b, _, _, tl, _, rest, hcore, hdoc, R => by
    simp only [coreArgs, Bool.and_eq_true] at hcore
    obtain ⟨⟨⟨⟨⟨_, ho⟩, hcl⟩, _⟩, hb⟩, _⟩ := hcore
    simp only [argsDocOk, Bool.and_eq_true] at hdoc
    simp only [unparseArgs, List.cons_append, List.append_assoc]
    have h1 := items_bal ctx hc k b _ (c :: (unparseArgs tl ++ rest)) hb hdoc.1 (c :: R) (HeadLe.cons _ _ _)
    exact (frame_plain ctx k (xdelim_plain ho) (xdelim_plain hcl) (w := 0) (h1.rhs (by omega))).rhs (by omega)
  | .verb _ _ _, _, _, _, _, _, hcore, _, _ => by simp [coreArgs] at hcore
termination_by a => sizeOf a
decreasing_by
  all_goals first
    | decreasing_tactic
    | (subst_vars; decreasing_tactic)
theorem args_bal (ctx : Ctx) (hc : ctxOk ctx = true) (k : Sym) :
    ∀ (sig : List ArgSpec) (args : List ArgVal) (m : Bool) (rest : Str), coreArgs ctx m rest sig args = true →
      argsDocOk ctx args = true →
      ∀ rest', Rel k (cnt ctx k .n (unparseArgs args ++ rest')) (cnt ctx k .n rest')
  | [], [], _, _, _, _, rest' => by
    simp only [unparseArgs, List.nil_append]; exact Rel.refl _ _
  | sp :: sig, a :: tl, m, rest, hcore, hdoc, rest' => by
    rw [unparseArgs_cons, List.append_assoc]
    exact Rel.trans (arg_bal ctx hc k a sp sig tl m rest hcore hdoc _)
      (args_bal ctx hc k sig tl m rest (C02.coreArgs_tail hcore) (argsDocOk_tail hdoc) rest')
  | [], _ :: _, _, _, hcore, _, _ => by simp [coreArgs] at hcore
  | _ :: _, [], _, _, hcore, _, _ => by simp [coreArgs] at hcore
termination_by _ args => sizeOf args
decreasing_by
  all_goals first
    | decreasing_tactic
    | (subst_vars; decreasing_tactic)
end

/-- where the fault goes: `here` = in front of the current list (so also at its end, after `next`s), `next` = skip one
    item / argument, `body` = into the body of the first item (brace group, math, environment) or of the first argument
    (bracket group, brace group, delimited group), `args` = into the argument list of the first item (macro or
    environment call).  Comments, `\verb` texts and specials are never entered. -/
inductive Path where
  | here
  | next (p : Path)
  | body (p : Path)
  | args (p : Path)
deriving DecidableEq, Repr

mutual
/-- the document with the raw text `x` inserted (as a text item) at the boundary `p` -/
def insItems (x : Str) : Path → List Item → Option (List Item)
  | .here, l => some (.T x :: l)
  | .next p, it :: l => (insItems x p l).map (fun l' => it :: l')
  | .body p, .G b :: l => (insItems x p b).map (fun b' => .G b' :: l)
  | .body p, .E n a b :: l => (insItems x p b).map (fun b' => .E n a b' :: l)
  | .body p, .F fk b :: l => (insItems x p b).map (fun b' => .F fk b' :: l)
  | .args p, .M n post a :: l => (insArgs x p a).map (fun a' => .M n post a' :: l)
  | .args p, .E n a b :: l => (insArgs x p a).map (fun a' => .E n a' b :: l)
  | _, _ => none
/-- the argument list with the raw text `x` inserted (character by character, as single-token arguments) -/
def insArgs (x : Str) : Path → List ArgVal → Option (List ArgVal)
  | .here, l => some (x.map ArgVal.tok ++ l)
  | .next p, a :: l => (insArgs x p l).map (fun l' => a :: l')
  | .body p, .br b :: l => (insItems x p b).map (fun b' => .br b' :: l)
  | .body p, .grp b :: l => (insItems x p b).map (fun b' => .grp b' :: l)
  | .body p, .del o c b :: l => (insItems x p b).map (fun b' => .del o c b' :: l)
  | _, _ => none
end

theorem unparseArgs_toks (x : Str) (l : List ArgVal) : unparseArgs (x.map ArgVal.tok ++ l) = x ++ unparseArgs l := by
  induction x with
  | nil => rfl
  | cons c x ih => simp only [List.map_cons, List.cons_append, unparseArgs, ih]

def Inserted (x a a' : Str) : Prop := ∃ u1 u2, a = u1 ++ u2 ∧ a' = u1 ++ (x ++ u2)

theorem Inserted.here (x a : Str) : Inserted x a (x ++ a) := ⟨[], a, rfl, rfl⟩

theorem Inserted.pre {x a a' : Str} (h : Inserted x a a') (w : Str) : Inserted x (w ++ a) (w ++ a') := by
  obtain ⟨u1, u2, rfl, rfl⟩ := h
  exact ⟨w ++ u1, u2, by simp, by simp⟩

theorem Inserted.cons {x a a' : Str} (h : Inserted x a a') (c : Char) : Inserted x (c :: a) (c :: a') := h.pre [c]

theorem Inserted.post {x a a' : Str} (h : Inserted x a a') (w : Str) : Inserted x (a ++ w) (a' ++ w) := by
  obtain ⟨u1, u2, rfl, rfl⟩ := h
  exact ⟨u1, u2 ++ w, by simp, by simp⟩

section inject
variable (ctx : Ctx) (hc : ctxOk ctx = true) (k : Sym) (x : Str) (wx : Int)
  (hx : ∀ r, cnt ctx k .n (x ++ r) = wx + cnt ctx k .n r) (hxh : headIs isAsciiAlpha x = false) (hxne : x ≠ [])

def ItemsQ (after : Str) (a a' : List Item) : Prop :=
  ∀ after', HeadLe after' after →
    Rel k (cnt ctx k .n (unparseItems a' ++ after')) (wx + cnt ctx k .n after') ∧
    HeadLe (unparseItems a' ++ after') (unparseItems a ++ after) ∧
    Inserted x (unparseItems a) (unparseItems a')

def ArgsQ (rest : Str) (a a' : List ArgVal) : Prop :=
  ∀ rest', HeadLe rest' rest →
    Rel k (cnt ctx k .n (unparseArgs a' ++ rest')) (wx + cnt ctx k .n rest') ∧
    HeadLe (unparseArgs a' ++ rest') (unparseArgs a ++ rest) ∧
    Inserted x (unparseArgs a) (unparseArgs a')

include hxh hxne in
theorem headLe_x (r b : Str) : HeadLe (x ++ r) b := by
  intro h
  cases x with
  | nil => exact absurd rfl hxne
  | cons c x =>
    simp only [List.cons_append, headIs] at h
    simp only [headIs] at hxh
    rw [hxh] at h; cases h

theorem headLe_same (w : Str) {a b : Str} (hw : w ≠ []) : HeadLe (w ++ a) (w ++ b) := by
  cases w with
  | nil => exact absurd rfl hw
  | cons c w => exact fun h => h

include hc hx hxh hxne in
/-- **the faulty text is off by the weight of the fault**, by induction on the path to the boundary -/
theorem ins_bal : ∀ (p : Path),
    (∀ (a : List Item) (m : Bool) (after : Str), coreItems ctx m after a = true → docOk ctx a = true →
      ∀ a', insItems x p a = some a' → ItemsQ ctx k x wx after a a') ∧
    (∀ (sig : List ArgSpec) (args : List ArgVal) (m : Bool) (rest : Str), coreArgs ctx m rest sig args = true →
      argsDocOk ctx args = true → ∀ args', insArgs x p args = some args' → ArgsQ ctx k x wx rest args args') := by
  intro p
  induction p with
  | here =>
    constructor
    · intro a m after hcore hdoc a' hins after' hh
      simp only [insItems, Option.some.injEq] at hins
      subst hins
      simp only [unparseItems, List.append_assoc]
      refine ⟨?_, headLe_x x hxh hxne _ _, Inserted.here _ _⟩
      rw [hx]
      exact Rel.add_left wx (items_bal ctx hc k a m after hcore hdoc after' hh)
    · intro sig args m rest hcore hdoc args' hins rest' hh
      simp only [insArgs, Option.some.injEq] at hins
      subst hins
      rw [unparseArgs_toks, List.append_assoc]
      refine ⟨?_, headLe_x x hxh hxne _ _, Inserted.here _ _⟩
      rw [hx]
      exact Rel.add_left wx (args_bal ctx hc k sig args m rest hcore hdoc rest')
  | next p ih =>
    constructor
    · intro a m after hcore hdoc a' hins after' hh
      cases a with
      | nil => simp [insItems] at hins
      | cons it l =>
        simp only [insItems, Option.map_eq_some_iff] at hins
        obtain ⟨l', hl', rfl⟩ := hins
        obtain ⟨h1, h2, h3⟩ := ih.1 l m after (C02.coreItems_tail hcore) (docOk_tail hdoc) l' hl' after' hh
        rw [unparse_cons it l', unparse_cons it l, List.append_assoc, List.append_assoc]
        refine ⟨Rel.trans (item_bal ctx hc k it l m after hcore hdoc _ h2) h1, HeadLe.append _ h2, ?_⟩
        exact h3.pre _
    · intro sig args m rest hcore hdoc args' hins rest' hh
      cases args with
      | nil => simp [insArgs] at hins
      | cons a l =>
        simp only [insArgs, Option.map_eq_some_iff] at hins
        obtain ⟨l', hl', rfl⟩ := hins
        obtain ⟨sp, sig', rfl⟩ := coreArgs_sig hcore
        obtain ⟨h1, h2, h3⟩ := ih.2 sig' l m rest (C02.coreArgs_tail hcore) (argsDocOk_tail hdoc) l' hl' rest' hh
        rw [unparseArgs_cons a l', unparseArgs_cons a l, List.append_assoc, List.append_assoc]
        refine ⟨Rel.trans (arg_bal ctx hc k a sp sig' l m rest hcore hdoc _) h1, HeadLe.append _ h2, ?_⟩
        exact h3.pre _
  | body p ih =>
    constructor
    · intro a m after hcore hdoc a' hins after' hh
      cases a with
      | nil => simp [insItems] at hins
      | cons it l =>
        have htl := C02.coreItems_tail hcore
        have hdt := docOk_tail hdoc
        have hL := items_bal ctx hc k l m after htl hdt after' hh
        cases it with
        | G b =>
          simp only [insItems, Option.map_eq_some_iff] at hins
          obtain ⟨b', hb', rfl⟩ := hins
          simp only [coreItems, Bool.and_eq_true] at hcore
          simp only [docOk, Bool.and_eq_true] at hdoc
          obtain ⟨h1, _, h3⟩ := ih.1 b m _ hcore.1 hdoc.1 b' hb' ('}' :: (unparseItems l ++ after')) (HeadLe.cons _ _ _)
          simp only [unparseItems, List.cons_append, List.append_assoc]
          refine ⟨Rel.trans (frame_G ctx k h1) (Rel.add_left wx hL), HeadLe.cons _ _ _, ?_⟩
          exact (h3.post _).cons '{'
        | E name args body =>
          simp only [insItems, Option.map_eq_some_iff] at hins
          obtain ⟨b', hb', rfl⟩ := hins
          obtain ⟨sig, bm, _, hne, hall, hargs, hbody⟩ := core_E hcore
          obtain ⟨hbad, hda, hdb⟩ := docOk_E hdoc
          simp only [unparseItems, List.append_assoc]
          have hA := args_bal ctx hc k sig args m _ hargs hda (unparseItems b' ++ (endStr name ++ (unparseItems l ++ after')))
          obtain ⟨hB, _, h3⟩ := ih.1 body (m || bm) _ hbody hdb b' hb' (endStr name ++ (unparseItems l ++ after')) (by
            rw [C02.endStr_append, C02.endStr_append]; exact HeadLe.cons _ _ _)
          have := frame_E ctx k hall hne hbad (w1 := 0) (w2 := wx) (hA.rhs (by omega)) hB
          refine ⟨Rel.trans (this.rhs (by omega)) (Rel.add_left wx hL), ?_, ?_⟩
          · rw [C02.beginStr_append, C02.beginStr_append]; exact HeadLe.cons _ _ _
          · exact ((h3.post _).pre _).pre _
        | F fk b =>
          simp only [insItems, Option.map_eq_some_iff] at hins
          obtain ⟨b', hb', rfl⟩ := hins
          simp only [coreItems, Bool.and_eq_true, Bool.not_eq_eq_eq_not, Bool.not_true, Bool.or_eq_true] at hcore
          obtain ⟨⟨⟨_, hb⟩, _⟩, _⟩ := hcore
          simp only [docOk, Bool.and_eq_true] at hdoc
          obtain ⟨h1, _, h3⟩ := ih.1 b true _ hb hdoc.1 b' hb' (fk.closer ++ (unparseItems l ++ after')) (by
            cases fk <;> exact HeadLe.cons _ _ _)
          simp only [unparseItems, List.append_assoc]
          refine ⟨Rel.trans (frame_F ctx k fk h1) (Rel.add_left wx hL), ?_, ?_⟩
          · cases fk <;> exact HeadLe.cons _ _ _
          · exact (h3.post _).pre _
        | _ => simp [insItems] at hins
    · intro sig args m rest hcore hdoc args' hins rest' hh
      cases args with
      | nil => simp [insArgs] at hins
      | cons a l =>
        obtain ⟨sp, sig', rfl⟩ := coreArgs_sig hcore
        have hL := args_bal ctx hc k sig' l m rest (C02.coreArgs_tail hcore) (argsDocOk_tail hdoc) rest'
        cases a with
        | br b =>
          simp only [insArgs, Option.map_eq_some_iff] at hins
          obtain ⟨b', hb', rfl⟩ := hins
          simp only [coreArgs, Bool.and_eq_true] at hcore
          simp only [argsDocOk, Bool.and_eq_true] at hdoc
          obtain ⟨h1, _, h3⟩ := ih.1 b _ _ hcore.1.2 hdoc.1 b' hb' (']' :: (unparseArgs l ++ rest')) (HeadLe.cons _ _ _)
          simp only [unparseArgs, List.cons_append, List.append_assoc]
          refine ⟨Rel.trans (frame_plain ctx k (o := '[') (c := ']') (by decide) (by decide) h1) (Rel.add_left wx hL),
            HeadLe.cons _ _ _, ?_⟩
          exact (h3.post _).cons '['
        | grp b =>
          simp only [insArgs, Option.map_eq_some_iff] at hins
          obtain ⟨b', hb', rfl⟩ := hins
          simp only [coreArgs, Bool.and_eq_true] at hcore
          simp only [argsDocOk, Bool.and_eq_true] at hdoc
          obtain ⟨h1, _, h3⟩ := ih.1 b _ _ hcore.1.2 hdoc.1 b' hb' ('}' :: (unparseArgs l ++ rest')) (HeadLe.cons _ _ _)
          simp only [unparseArgs, List.cons_append, List.append_assoc]
          refine ⟨Rel.trans (frame_G ctx k h1) (Rel.add_left wx hL), HeadLe.cons _ _ _, ?_⟩
          exact (h3.post _).cons '{'
        | del o c b =>
          simp only [insArgs, Option.map_eq_some_iff] at hins
          obtain ⟨b', hb', rfl⟩ := hins
          simp only [coreArgs, Bool.and_eq_true] at hcore
          obtain ⟨⟨⟨⟨⟨_, ho⟩, hcl⟩, _⟩, hb⟩, _⟩ := hcore
          simp only [argsDocOk, Bool.and_eq_true] at hdoc
          obtain ⟨h1, _, h3⟩ := ih.1 b _ _ hb hdoc.1 b' hb' (c :: (unparseArgs l ++ rest')) (HeadLe.cons _ _ _)
          simp only [unparseArgs, List.cons_append, List.append_assoc]
          refine ⟨Rel.trans (frame_plain ctx k (xdelim_plain ho) (xdelim_plain hcl) h1) (Rel.add_left wx hL),
            HeadLe.cons _ _ _, ?_⟩
          exact (h3.post _).cons o
        | _ => simp [insArgs] at hins
  | args p ih =>
    constructor
    · intro a m after hcore hdoc a' hins after' hh
      cases a with
      | nil => simp [insItems] at hins
      | cons it l =>
        have htl := C02.coreItems_tail hcore
        have hdt := docOk_tail hdoc
        have hL := items_bal ctx hc k l m after htl hdt after' hh
        cases it with
        | M name post args =>
          simp only [insItems, Option.map_eq_some_iff] at hins
          obtain ⟨args', ha', rfl⟩ := hins
          obtain ⟨sig, _, hM, hargs⟩ := core_M hcore
          obtain ⟨hbad, hda⟩ := docOk_M hdoc
          obtain ⟨h1, h2, h3⟩ := ih.2 sig args m _ hargs hda args' ha' (unparseItems l ++ after') (HeadLe.append _ hh)
          simp only [unparseItems, List.cons_append, List.append_assoc]
          rw [step_M ctx k hM hbad h2]
          refine ⟨Rel.trans h1 (Rel.add_left wx hL), HeadLe.cons _ _ _, ?_⟩
          exact (((h3.post _).pre _).pre _).cons '\\'
        | E name args body =>
          simp only [insItems, Option.map_eq_some_iff] at hins
          obtain ⟨args', ha', rfl⟩ := hins
          obtain ⟨sig, bm, _, hne, hall, hargs, hbody⟩ := core_E hcore
          obtain ⟨hbad, hda, hdb⟩ := docOk_E hdoc
          simp only [unparseItems, List.append_assoc]
          obtain ⟨hA, _, h3⟩ := ih.2 sig args m _ hargs hda args' ha'
            (unparseItems body ++ (endStr name ++ (unparseItems l ++ after'))) (by
              refine HeadLe.append _ ?_
              rw [C02.endStr_append, C02.endStr_append]; exact HeadLe.cons _ _ _)
          have hB := items_bal ctx hc k body (m || bm) (endStr name ++ (unparseItems l ++ after)) hbody hdb
            (endStr name ++ (unparseItems l ++ after')) (by
              rw [C02.endStr_append, C02.endStr_append]; exact HeadLe.cons _ _ _)
          have := frame_E ctx k hall hne hbad (w1 := wx) (w2 := 0) hA (hB.rhs (by omega))
          refine ⟨Rel.trans (this.rhs (by omega)) (Rel.add_left wx hL), ?_, ?_⟩
          · rw [C02.beginStr_append, C02.beginStr_append]; exact HeadLe.cons _ _ _
          · exact (h3.post _).pre _
        | _ => simp [insItems] at hins
    · intro sig args m rest hcore hdoc args' hins rest' hh
      cases args with
      | nil => simp [insArgs] at hins
      | cons a l => cases a <;> simp [insArgs] at hins

end inject

end C05Bal
end Pylx
