/-
  C13, parse link — what is proved about the strict parse of encoder output.

  * `C13_shapes`: kernel-checked classifier — every replacement of both tables is a well-bracketed
    sequence of items; a macro starved of a mandatory argument (by the default context's own
    specification) occurs in exactly the 13 `unicode-xml` entries of finding F19, which are the
    single bare accent macros.
  * `encode_single_rule`, `encode_single_copy`: the encoder on a one-character string (`C13_parses_partial` itself is in
    `PylxProofs/C13Full.lean`).
  * `C13_xml_accent_without_argument`, `C13_parses_xml_false`: the F19 witnesses.
  * `C13_parses_none_false`: scheme `none` is outside the parse claim (`\i` + `nput` = `\input`).
  * `C13_parses_full`, `C13_parses_xml_full`: the statements for all strings; proved in `PylxProofs/C13Full.lean`
    (`C13_parses_full_proved`, `C13_parses_xml_full_proved`).
-/
import PylxProofs.C13ParseE
namespace Pylx.C13
open Pylx Pylx.EncB

/-! ### classifier -/

def skipOf : Table → List Nat
  | .defaults => []
  | .xml => f19

/-- **C13 (shapes).**  Every replacement text of both tables splits into items (characters,
    control symbols, control words, brace groups); an item list contains a macro followed by fewer
    items than the default context declares mandatory arguments for it exactly for the code points
    `f19` of `unicode-xml` (none in `defaults`), and exactly those have shape `bareAccent`. -/
theorem C13_shapes (tb : Table) : ∀ e ∈ rawTable tb, ∃ l, itemsOf (S e.2) = some l ∧
    (starvedList l = true ↔ e.1 ∈ skipOf tb) ∧ (shapeOf l = .bareAccent ↔ e.1 ∈ skipOf tb) := by
  intro e he
  have h : entryClassified (skipOf tb) e = true := by
    cases tb
    · exact raw_all (tb := .defaults) defaults_classified e he
    · exact raw_all (tb := .xml) xml_classified e he
  unfold entryClassified at h
  split at h
  · rename_i l hl
    refine ⟨l, hl, ?_, ?_⟩
    · simp only [Bool.and_eq_true, beq_iff_eq] at h
      rw [h.1]; simp
    · simp only [Bool.and_eq_true, beq_iff_eq] at h
      rw [← List.contains_iff_mem, ← h.2]; simp
  · cases h

/-! ### single characters -/

theorem encode_single_rule {tb : Table} {pr : Prot} {pol : Policy} {c : Char} {r : Str}
    (hl : (tableOf tb).lookup c.toNat = some r) :
    encode (builtinCfg tb pr pol false) [c] = some (protect isAsciiAlpha pr r) := by
  simp [encode, encodeChunks_eq_encChars (builtin_perChar tb pr pol false), encChars, stepAt_builtin, hl,
    EncRes.cons, EncRes.joined]

theorem encode_single_copy {tb : Table} {pr : Prot} {pol : Policy} {c : Char}
    (hl : (tableOf tb).lookup c.toNat = none) (hc : isCopyChar c = true) :
    encode (builtinCfg tb pr pol false) [c] = some [c] := by
  simp [encode, encodeChunks_eq_encChars (builtin_perChar tb pr pol false), encChars, stepAt_builtin, hl, hc,
    EncRes.cons, EncRes.joined]

/-! ### witnesses -/

set_option maxRecDepth 100000 in
/-- **Finding F19, re-established.**  Each of the 13 code points is mapped by `unicode-xml` to a
    macro for which the default context declares a mandatory argument, and the one-character
    string encodes (default scheme) to a text whose strict parse is *not* a node list. -/
theorem C13_xml_accent_without_argument : f19.all (fun k =>
    match (tableOf .xml).lookup k with
    | some r => (match itemsOf r with | some [it] => it.isMacro && decide (it.needs > 0) | _ => false) &&
        (match parseStrict (protect isAsciiAlpha .braces r) with | .perr _ => true | _ => false)
    | none => false) = true := by
  decide +kernel

set_option maxRecDepth 100000 in
/-- `U+0301` alone: the encoder returns `\'`, the strict parser answers "expression required, got end of stream" -/
theorem C13_parses_xml_false :
    encode (builtinCfg .xml .braces .keep false) [Char.ofNat 0x301] = some ['\\', '\''] ∧
    (match parseStrict ['\\', '\''] with | .perr e => e.what == .exprEOS | _ => false) = true := by
  constructor <;> decide +kernel

set_option maxRecDepth 100000 in
/-- scheme `none` is outside the parse claim: `ı` (U+0131) ↦ `\i` fuses with the following letters
    to `\input`, whose mandatory argument is missing -/
theorem C13_parses_none_false :
    encode (builtinCfg .defaults .none .keep false) (Char.ofNat 0x131 :: "nput".toList) = some "\\input".toList ∧
    (match parseStrict "\\input".toList with | .perr e => e.what == .exprEOS | _ => false) = true ∧
    Inert "\\input".toList := by
  refine ⟨by decide +kernel, by decide +kernel, by decide⟩

/-! ### the full statement (proved in `PylxProofs/C13Full.lean`) -/

/-- the four brace-protection schemes -/
def BraceProt (pr : Prot) : Prop := pr = .braces ∨ pr = .bracesAll ∨ pr = .bracesAlmostAll ∨ pr = .bracesAfterMacro

/-- **C13 (strict parse), full statement** — proved as `C13_parses_full_proved` in `PylxProofs/C13Full.lean`.  For the
    `defaults` table, every string, brace scheme and named policy, whenever the encoder returns a text it parses strictly
    with the default context and the tree has no comment and no environment node.  The composition step (a chunk parsed
    by the nodes collector in the top-level state leaves the collector in a state of the same form, pending characters /
    whitespace carried into the next token) is the prefix lemma `Full.reach_gen` of `PylxProofs/C13FullReach.lean`; the
    per-chunk facts are kernel evaluations over the tables (`C13FullA`–`J`). -/
def C13_parses_full : Prop :=
  ∀ (pr : Prot), BraceProt pr → ∀ (pol : Policy), NamedPolicy pol → ∀ (s t : Str),
    encode (builtinCfg .defaults pr pol false) s = some t →
    ∃ p e ns pos, parseStrict t = .ok (.list p e ns) pos ∧
      ∀ n ∈ subnodesList ns, isComment n = false ∧ isEnv n = false

/-- the same for `unicode-xml`, restricted to strings without the 13 code points of F19 (proved:
    `C13_parses_xml_full_proved`) -/
def C13_parses_xml_full : Prop :=
  ∀ (pr : Prot), BraceProt pr → ∀ (pol : Policy), NamedPolicy pol → ∀ (s t : Str),
    (∀ c ∈ s, c.toNat ∉ f19) →
    encode (builtinCfg .xml pr pol false) s = some t →
    ∃ p e ns pos, parseStrict t = .ok (.list p e ns) pos ∧
      ∀ n ∈ subnodesList ns, isComment n = false ∧ isEnv n = false

/-! ### non-vacuity -/

example : ∃ r, (tableOf .defaults).lookup (Char.ofNat 233).toNat = some r ∧ (Char.ofNat 233).toNat ∉ skipOf .defaults :=
  ⟨"\\'e".toList, by decide +kernel, by simp [skipOf]⟩
example : (tableOf .xml).lookup ('a').toNat = none ∧ isCopyChar 'a' = true ∧ ('a').toNat < 128 :=
  ⟨by decide +kernel, by decide, by decide⟩
example : entryShape (0x301, [92, 39]) = some .bareAccent := by decide +kernel
example : entryShape (233, [92, 39, 101]) = some .accentBare := by decide +kernel

end Pylx.C13
