/- Lemmas about slices and whitespace runs shared by the proof files. -/
import Pylx.Tok
namespace Pylx

theorem slice_of_prefix (s pre : Str) (p : Nat) (h : pre <+: s.drop p) :
    slice s p (p + pre.length) = pre := by
  obtain ⟨t, ht⟩ := h
  simp [slice, ← ht]

theorem slice_of_prefix_take (s pre : Str) (p n : Nat) (h : pre <+: s.drop p) (hn : n ≤ pre.length) :
    slice s p (p + n) = pre.take n := by
  obtain ⟨t, ht⟩ := h
  simp only [slice, ← ht, Nat.add_sub_cancel_left]
  rw [List.take_append_of_le_length hn]

theorem prefix_length_le (s pre : Str) (p : Nat) (h : pre <+: s.drop p) : pre.length ≤ s.length - p := by
  have := h.length_le
  simpa using this

theorem spaceRun_prefix (s : Str) (p : Nat) : spaceRun s p <+: s.drop p :=
  List.takeWhile_prefix _

theorem spaceRun_length_le (s : Str) (p : Nat) : (spaceRun s p).length ≤ s.length - p :=
  prefix_length_le s _ p (spaceRun_prefix s p)

theorem slice_length_le (s : Str) (a b : Nat) : (slice s a b).length ≤ b - a := by
  simp [slice]; omega

theorem slice_slice_append (s : Str) (a b c : Nat) (hab : a ≤ b) (hbc : b ≤ c) :
    slice s a b ++ slice s b c = slice s a c := by
  unfold slice
  have h1 : c - a = (b - a) + (c - b) := by omega
  rw [h1, List.take_add]
  congr 1
  rw [List.drop_drop]
  congr 2
  omega

theorem slice_drop_end (s : Str) (a : Nat) : slice s a s.length = s.drop a := by
  unfold slice
  apply List.take_of_length_le
  simp

theorem slice_self (s : Str) (a : Nat) : slice s a a = [] := by simp [slice]

theorem getElem?_lt {α} (l : List α) (i : Nat) (c : α) (h : l[i]? = some c) : i < l.length := by
  rcases Nat.lt_or_ge i l.length with hlt | hge
  · exact hlt
  · rw [List.getElem?_eq_none hge] at h
    cases h

theorem startsWithAt_le {s t : Str} {p : Nat} (h : startsWithAt s t p = true) (hne : t ≠ []) :
    p + t.length ≤ s.length := by
  have := (List.isPrefixOf_iff_prefix.mp h).length_le
  have : 0 < t.length := List.length_pos_iff.mpr hne
  simp only [List.length_drop] at *
  omega

theorem startsWithAt_slice (s t : Str) (p : Nat) (h : startsWithAt s t p = true) : slice s p (p + t.length) = t := by
  unfold startsWithAt at h
  exact slice_of_prefix s t p (List.isPrefixOf_iff_prefix.mp h)

end Pylx
