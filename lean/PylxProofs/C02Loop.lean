/-
  C02Loop — evaluation of the parser model on the source of a core document: eventual results (`Ev`), the algebra of
  `mergeChars`, the shapes a collector state stands for, and what it means for the collector to reach a later state.
-/
import PylxProofs.C02Tok2
import PylxProofs.C06
namespace Pylx
namespace C02
open Doc

/-! ### eventual results: the result of a task for every sufficiently large amount of fuel -/

def Ev (env : Env) (t : Task) (r : Ret) : Prop := ∃ n, ∀ m, n ≤ m → run env m t = r

theorem Ev.of_step {env : Env} {t : Task} {r : Ret} (h : ∃ n, ∀ m, n ≤ m → step env (run env m) t = r) :
    Ev env t r := by
  obtain ⟨n, hn⟩ := h
  refine ⟨n + 1, fun m hm => ?_⟩
  obtain ⟨k, rfl⟩ : ∃ k, m = k + 1 := ⟨m - 1, by omega⟩
  show step env (run env k) t = r
  exact hn k (by omega)

/-- one step that does not call `rec` -/
theorem Ev.of_const {env : Env} {t : Task} {r : Ret} (h : ∀ rec, step env rec t = r) : Ev env t r :=
  Ev.of_step ⟨0, fun m _ => h _⟩

/-- one step that ends in a call of `rec` -/
theorem Ev.of_tail {env : Env} {t t' : Task} {r : Ret} (h : ∀ rec, step env rec t = rec t') (h' : Ev env t' r) :
    Ev env t r := by
  obtain ⟨n, hn⟩ := h'
  exact Ev.of_step ⟨n, fun m hm => by rw [h, hn m hm]⟩

/-! ### `mergeChars` -/

def consSh : Shape → List Shape → List Shape
  | .chars a, .chars b :: r => .chars (a ++ b) :: r
  | x, r => x :: r

theorem mergeChars_cons (x : Shape) (tl : List Shape) : mergeChars (x :: tl) = consSh x (mergeChars tl) := by
  cases x with
  | chars a =>
    simp only [mergeChars]
    generalize mergeChars tl = M
    cases M with
    | nil => rfl
    | cons y r => cases y <;> rfl
  | _ => simp only [mergeChars, consSh]

theorem consSh_chars_chars (a b : Str) (X : List Shape) :
    consSh (.chars (a ++ b)) X = consSh (.chars a) (consSh (.chars b) X) := by
  cases X with
  | nil => rfl
  | cons y r =>
    cases y with
    | chars c => simp only [consSh, List.append_assoc]
    | _ => rfl

theorem mergeChars_consSh (x : Shape) (M l2 : List Shape) :
    mergeChars (consSh x M ++ l2) = consSh x (mergeChars (M ++ l2)) := by
  cases x with
  | chars a =>
    cases M with
    | nil => simp only [consSh, List.cons_append, List.nil_append, mergeChars_cons]
    | cons y r =>
      cases y with
      | chars b =>
        simp only [consSh, List.cons_append, mergeChars_cons]
        exact consSh_chars_chars a b _
      | _ => simp only [consSh, List.cons_append, mergeChars_cons]
  | _ => simp only [consSh, List.cons_append, mergeChars_cons]

theorem mergeChars_merge_append (l1 l2 : List Shape) : mergeChars (mergeChars l1 ++ l2) = mergeChars (l1 ++ l2) := by
  induction l1 with
  | nil => rfl
  | cons x tl ih => rw [mergeChars_cons, mergeChars_consSh, ih, List.cons_append, mergeChars_cons]

theorem mergeChars_append_left {a b : List Shape} (h : mergeChars a = mergeChars b) (l : List Shape) :
    mergeChars (a ++ l) = mergeChars (b ++ l) := by
  rw [← mergeChars_merge_append a, ← mergeChars_merge_append b, h]

theorem mergeChars_append_right (l : List Shape) {a b : List Shape} (h : mergeChars a = mergeChars b) :
    mergeChars (l ++ a) = mergeChars (l ++ b) := by
  induction l with
  | nil => exact h
  | cons x l ih => rw [List.cons_append, List.cons_append, mergeChars_cons, mergeChars_cons, ih]

theorem normList_congr {a b : List Shape} (h : mergeChars a = mergeChars b) : normList a = normList b := by
  unfold normList; rw [h]

/-! ### shapes of collector states -/

theorem shapeOfNodes_append (a b : List Node) : shapeOfNodes (a ++ b) = shapeOfNodes a ++ shapeOfNodes b := by
  induction a with
  | nil => rfl
  | cons x a ih => simp only [List.cons_append, shapeOfNodes, ih]

/-- the shape of the pending characters -/
def pendSh (pd : Str) : List Shape := if pd.isEmpty then [] else [.chars pd]

/-- the shapes a collector state stands for: nodes pushed so far, then the pending characters -/
def sh (st : LoopSt) : List Shape := shapeOfNodes st.acc ++ pendSh st.pend

/-! ### reading a token in the collector -/

section loop
variable {env : Env} {f : PSFields} {stop : StopTok} {child : ChildPS} {st : LoopSt}

theorem loopStep_tok (htol : env.tol = false) {t : Token} (hpk : peekImpl (mkPS f) env.s st.pos = .tok t)
    (rec : Task → Ret) :
    loopStep env rec f stop child st =
      if stop.test t then
        loopFinish f { (st.push t.pre (t.pos - t.pre.length)) with pos := t.pos } (some t) none
      else if t.kind == .char then
        rec (.loop f stop child { (st.push (t.pre ++ t.arg) (t.pos - t.pre.length)) with pos := t.posEnd })
      else
        loopDispatch env rec f stop child { (st.flushBefore f t) with pos := t.posEnd } { t with pre := [] } := by
  unfold loopStep loopRead
  rw [htol, peekTok_false, hpk]

theorem loopStep_eos (htol : env.tol = false) (hpk : peekImpl (mkPS f) env.s st.pos = .eos [])
    (rec : Task → Ret) : loopStep env rec f stop child st = loopFinish f st none none := by
  unfold loopStep loopRead
  rw [htol, peekTok_false, hpk]
  rfl

theorem stop_test_char (stop : StopTok) (t : Token)
    (h : t.kind = .char ∨ t.kind = .braceOpen ∨ t.kind = .macro ∨ t.kind = .comment ∨ t.kind = .specials ∨ t.kind = .beginEnv) :
    stop.test t = false := by
  cases stop with
  | none => rfl
  | braceClose c => rcases h with h | h | h | h | h | h <;> (simp only [StopTok.test, h]; rfl)
  | mathClose d c => rcases h with h | h | h | h | h | h <;> cases d <;> (simp only [StopTok.test, h]; rfl)
  | endEnv n => rcases h with h | h | h | h | h | h <;> (simp only [StopTok.test, h]; rfl)

end loop

/-! ### reaching a later collector state -/

/-- from `st` the collector gets to some `st'`, `n` characters further, having produced the shapes `tr` (up to the
    merging of adjacent chars nodes), whatever comes afterwards -/
def Reaches (env : Env) (f : PSFields) (stop : StopTok) (child : ChildPS) (st : LoopSt) (tr : List Shape) (n : Nat) : Prop :=
  ∃ st' : LoopSt, st'.pos = st.pos + n ∧ mergeChars (sh st') = mergeChars (sh st ++ tr) ∧
    ∀ R, Ev env (.loop f stop child st') R → Ev env (.loop f stop child st) R

theorem Reaches.refl (env : Env) (f : PSFields) (stop : StopTok) (child : ChildPS) (st : LoopSt) :
    Reaches env f stop child st [] 0 :=
  ⟨st, rfl, by rw [List.append_nil], fun _ h => h⟩

end C02
end Pylx
