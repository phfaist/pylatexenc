/-
  Lemmas about the renderer model `Pylx.L2T` shared by C03, C07 and C12: the laws of the state transformer `R`,
  one equation per case of the renderer's mutual block, the cases of `applySpec`, and what `isBare` reads of a node.
-/
import Pylx.L2TDrv
namespace Pylx.L2T

theorem R.pure_bind {α β : Type} (a : α) (f : α → R β) : R.bind (R.pure a) f = f a := rfl

theorem R.bind_pure {α : Type} (x : R α) : R.bind x R.pure = x := by
  funext st
  unfold R.bind
  cases x st <;> rfl

theorem R.bind_assoc {α β γ : Type} (x : R α) (f : α → R β) (g : β → R γ) :
    R.bind (R.bind x f) g = R.bind x fun a => R.bind (f a) g := by
  funext st
  unfold R.bind
  cases x st <;> rfl

theorem R.bind_congr {α β : Type} {x x' : R α} {f f' : α → R β} (hx : x = x') (hf : ∀ a, f a = f' a) :
    R.bind x f = R.bind x' f' := by
  rw [hx, funext hf]

theorem R.bind_ok {α β : Type} {x : R α} {f : α → R β} {st : St} {r : β × St} (h : R.bind x f st = .ok r) :
    ∃ a st1, x st = .ok (a, st1) ∧ f a st1 = .ok r := by
  unfold R.bind at h
  split at h
  · exact ⟨_, _, ‹_›, h⟩
  · cases h

theorem R.pure_ok {α : Type} {a : α} {st : St} {r : α × St} (h : R.pure a st = .ok r) : r = (a, st) := by
  cases h; rfl

/-- the thunks `renderNode` hands to `applySpec`, as a function of the node's arguments -/
def argThunks (E : Env) (c : Sls) (args : Option (List Arg)) (body bodyEq : R Str) (bodyNone : Bool)
    (matrix : R (List (List Str))) : Thunks :=
  { noArgd := args.isNone, n := (args.getD []).length, absent := absentAt (args.getD []),
    each := argsEachO E c args, single := fun k => singleAtO E c k args, contents := fun k => contentsAtO E c k args,
    body := body, bodyEq := bodyEq, bodyNone := bodyNone, matrix := matrix }

def macThunks (E : Env) (c : Sls) (args : Option (List Arg)) : Thunks :=
  argThunks E c args (R.pure []) (R.pure []) true (R.pure [])

def envThunks (E : Env) (c : Sls) (args : Option (List Arg)) (body : Option (List Node)) : Thunks :=
  argThunks E c args (renderBody E c body) (renderBody E c.enterEq body) body.isNone (matrixBody E c body)

namespace C12
def macSpec (E : Env) (name : Str) : TSpec := (lookupFirst name E.db.macros).getD ⟨true, true, .none⟩
def envSpec (E : Env) (name : Str) : TSpec := (lookupFirst name E.db.envs).getD ⟨true, false, .none⟩

def isOkText (o : Out Str) (t : Str) : Bool :=
  match o with
  | .ok a => a == t
  | .crash _ => false

theorem ok_of_isOkText {o : Out Str} {t : Str} (h : isOkText o t = true) : o = .ok t := by
  cases o with
  | ok a =>
    simp only [isOkText, beq_iff_eq] at h
    rw [h]
  | crash k => cases h
end C12
open C12 (macSpec envSpec)

theorem renderNode_comment (E : Env) (c : Sls) (p e : Nat) (ps : PSInfo) (cm post : Str) :
    renderNode E c (.comment p e ps cm post) =
      R.pure (
        if E.opts.keepComments then
          (if c.ac then '%' :: cm ++ (if post.isEmpty then [] else ['\n']) else '%' :: cm ++ post)
        else (if c.ac then [] else post)) := by
  rw [renderNode]

theorem renderNode_group (E : Env) (c : Sls) (p e : Nat) (ps : PSInfo) (o cl : Str) (body : Option (List Node)) :
    renderNode E c (.group p e ps o cl body) =
      R.bind (renderBody E c body) fun t =>
        R.pure (if E.opts.keepBraced && (t.length : Int) ≥ E.opts.minLen then o ++ t ++ cl else t) := by
  rw [renderNode]

theorem renderNode_mac (E : Env) (c : Sls) (p e : Nat) (ps : PSInfo) (name post : Str) (args : Option (List Arg)) :
    renderNode E c (.mac p e ps name post args) =
      applySpec E ⟨.mac, name, p, e⟩ (macThunks E c args) (macSpec E name) (argsCatO E c args) := by
  rw [renderNode]; rfl

theorem renderNode_env (E : Env) (c : Sls) (p e : Nat) (ps : PSInfo) (name : Str) (args : Option (List Arg))
    (body : Option (List Node)) :
    renderNode E c (.env p e ps name args body) =
      applySpec E ⟨.env, name, p, e⟩ (envThunks E c args body) (envSpec E name) (renderBody E c body) := by
  rw [renderNode]; rfl

theorem renderNode_specials (E : Env) (c : Sls) (p e : Nat) (ps : PSInfo) (ch : Str) (args : Option (List Arg)) :
    renderNode E c (.specials p e ps ch args) =
      match lookupFirst ch E.db.specials with
      | none => R.pure ch
      | some sp => applySpec E ⟨.specials, ch, p, e⟩ (macThunks E c args) sp (argsCatO E c args) := by
  rw [renderNode]; rfl

theorem renderNode_math (E : Env) (c : Sls) (p e : Nat) (ps : PSInfo) (d : Bool) (o cl : Str) (body : Option (List Node)) :
    renderNode E c (.math p e ps d o cl body) = mathText E false d o cl p e (renderBody E c.enterEq body) := by
  rw [renderNode]

theorem renderList_nil (E : Env) (c : Sls) (prev : Option Node) (acc : Str) : renderList E c prev acc [] = R.pure acc := by
  rw [renderList]

theorem renderList_cons (E : Env) (c : Sls) (prev : Option Node) (acc : Str) (n : Node) (ns : List Node) :
    renderList E c prev acc (n :: ns) =
      R.bind (R.ofOut (preOf E c prev n)) fun pre =>
        R.bind (renderNode E c n) fun t => renderList E c (some n) (acc ++ pre ++ t) ns := by
  rw [renderList]

theorem renderList_acc (E : Env) (c : Sls) : ∀ (ns : List Node) (prev : Option Node) (acc : Str),
    renderList E c prev acc ns = R.bind (renderList E c prev [] ns) fun t => R.pure (acc ++ t)
  | [], prev, acc => by rw [renderList_nil, renderList_nil, R.pure_bind, List.append_nil]
  | n :: ns, prev, acc => by
    rw [renderList_cons, renderList_cons, R.bind_assoc]
    refine R.bind_congr rfl fun pre => ?_
    rw [R.bind_assoc]
    refine R.bind_congr rfl fun t => ?_
    rw [renderList_acc E c ns (some n) (acc ++ pre ++ t), renderList_acc E c ns (some n) ([] ++ pre ++ t), R.bind_assoc]
    refine R.bind_congr rfl fun u => ?_
    rw [R.pure_bind, List.nil_append, List.append_assoc, List.append_assoc, List.append_assoc]

theorem matrixLoop_nil (E : Env) (c : Sls) (prev : Option Node) (cell : Option Str) (row : List Str) (rows : List (List Str)) :
    matrixLoop E c prev cell row rows [] = R.pure (rows ++ [closeCell cell row]) := by
  rw [matrixLoop]

theorem matrixLoop_cons (E : Env) (c : Sls) (prev : Option Node) (cell : Option Str) (row : List Str) (rows : List (List Str))
    (n : Node) (ns : List Node) :
    matrixLoop E c prev cell row rows (n :: ns) =
      if isSpecialsNamed ['&'] n then matrixLoop E c none none (closeCell cell row) rows ns
      else if isMacroNamed ['\\'] n then matrixLoop E c none none [] (rows ++ [closeCell cell row]) ns
      else
        R.bind (R.ofOut (preOf E c prev n)) fun pre =>
          R.bind (renderNode E c n) fun t =>
            matrixLoop E c (some n) (some (cell.getD [] ++ pre ++ t)) row rows ns := by
  rw [matrixLoop]

/-- `render` returns a text exactly when the database has the modelled shape and the loop, started on a fresh converter
    object, returns that text -/
theorem render_ok_iff (opts : Opts) (db : TextDb) (ctx : Ctx) (lib : Lib) (src : Str) (ns : List Node) (out : Str) :
    render opts db ctx lib src ns = .ok out ↔
      db.shapeOk = true ∧ ∃ st, renderList ⟨opts, db, ctx, lib, src⟩ (parseSls opts.sls) none [] ns {} = .ok (out, st) := by
  unfold render
  cases db.shapeOk with
  | false => simp
  | true =>
    cases renderList ⟨opts, db, ctx, lib, src⟩ (parseSls opts.sls) none [] ns {} with
    | crash k => simp
    | ok q => simp [Prod.ext_iff, eq_comm]

theorem applySpec_of_falsy {E : Env} {sp : TSpec} (h : replTruthy E.lib sp.repl = false) (hd : sp.hasDiscard = true)
    (info : NodeInfo) (th : Thunks) (dflt : R Str) :
    applySpec E info th sp dflt = if sp.discard then R.pure [] else dflt := by
  unfold applySpec
  simp only [h, hd, Bool.false_eq_true, if_false, Bool.not_true]

theorem applySpec_fmt {E : Env} {sp : TSpec} {raw : Str} {segs : List Seg} (h : sp.repl = .fmt raw segs)
    (info : NodeInfo) (th : Thunks) (dflt : R Str) :
    applySpec E info th sp dflt = applyString E info th raw segs := by
  unfold applySpec
  simp only [h, replTruthy, if_true]

theorem applySpec_eqEnv {E : Env} {sp : TSpec} (h : sp.repl = .eqEnv) (name : Str) (p e : Nat) (th : Thunks) (dflt : R Str) :
    applySpec E ⟨.env, name, p, e⟩ th sp dflt =
      mathText E true false ("\\begin{".toList ++ name ++ ['}']) ("\\end{".toList ++ name ++ ['}']) p e th.bodyEq := by
  unfold applySpec
  simp only [h, replTruthy, if_true, applyCallable]
  rfl

theorem mathText_remove {E : Env} (hm : E.opts.mathMode = .remove) (isEnv d : Bool) (d0 d1 : Str) (p e : Nat) (b : R Str) :
    mathText E isEnv d d0 d1 p e b = R.pure [] := by
  simp only [mathText, hm]

theorem mathText_verbatim {E : Env} (hm : E.opts.mathMode = .verbatim) (isEnv d : Bool) (d0 d1 : Str) (p e : Nat) (b : R Str) :
    mathText E isEnv d d0 d1 p e b =
      R.pure (if isEnv || d then indentedBlock (slice E.src p e) [] else slice E.src p e) := by
  simp only [mathText, hm]

theorem mathText_withDelims {E : Env} (hm : E.opts.mathMode = .withDelims) (isEnv d : Bool) (d0 d1 : Str) (p e : Nat) (b : R Str) :
    mathText E isEnv d d0 d1 p e b =
      R.bind b fun t =>
        R.pure (if isEnv || d then d0 ++ indentedBlock (strip t) [] ++ d1 else d0 ++ strip t ++ d1) := by
  simp only [mathText, hm]

theorem mathText_text {E : Env} (hm : E.opts.mathMode = .text) (isEnv d : Bool) (d0 d1 : Str) (p e : Nat) (b : R Str) :
    mathText E isEnv d d0 d1 p e b =
      R.bind b fun t => R.pure (if isEnv || d then indentedBlock (strip t) "    ".toList else strip t) := by
  simp only [mathText, hm]

theorem absentAt_eq (l : List Arg) (k : Nat) : absentAt l k = ((l.map isAbsent)[k]?).getD false := by
  unfold absentAt
  rw [List.getElem?_map]
  cases l[k]? <;> rfl

/-- `isBare` of a macro node as a function of what it reads of the arguments: whether `nodeargd` is `None`, and which
    arguments are absent -/
def bareOfShape (E : Env) (name : Str) (noArgd : Bool) (abs : List Bool) : Out Bool :=
  if noArgd then (if E.opts.repaired then .ok true else .crash "TypeError")
  else if abs.isEmpty then .ok true
  else
    match (legacyOf (((walkerSpec E .mac name).map argspecOf).getD [])).optIdx with
    | none => .ok false
    | some k =>
      match abs[k]? with
      | none => .crash "IndexError"
      | some b => .ok (b && (abs.drop (legacyOf (((walkerSpec E .mac name).map argspecOf).getD [])).off).isEmpty)

theorem isBare_mac (E : Env) (p e : Nat) (ps : PSInfo) (name post : Str) (a : Option (List Arg)) :
    isBare E (some (.mac p e ps name post a)) = bareOfShape E name a.isNone ((a.getD []).map isAbsent) := by
  cases a with
  | none => rfl
  | some l =>
    cases l with
    | nil => rfl
    | cons b l =>
      simp only [isBare, bareOfShape, Option.isNone_some, Option.getD_some, List.map_cons, List.isEmpty_cons,
        Bool.false_eq_true, if_false]
      cases (legacyOf (((walkerSpec E .mac name).map argspecOf).getD [])).optIdx with
      | none => rfl
      | some k =>
        simp only [← List.map_cons, List.getElem?_map, ← List.map_drop, List.isEmpty_map]
        cases (b :: l)[k]? <;> rfl

end Pylx.L2T
