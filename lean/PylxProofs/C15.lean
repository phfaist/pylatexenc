/-
  C15 — `\input` never reads outside the configured directory in strict mode.

  Theorems about `Pylx.readLatexFile` / `Pylx.readInputFile` (the *repaired*
  `read_latex_file` / `LatexNodes2Text.read_input_file`) for **every** file
  system oracle `fs` — no law is assumed of it, not even idempotence of
  `realpath` (which CPython's `os.path.realpath` does not satisfy on layouts
  with symbolic-link loops; the repaired code checks canonicity at run time);
  concrete `FS` witnesses showing that the same statement is false for
  `Pylx.readLatexFileAsIs` (the code on the unrepaired tree) even for
  idempotent `realpath`, in two independent ways (string-prefix containment;
  completion after the check); and for `Pylx.readLatexFileNoCanon` (the repair
  without the run-time canonicity check): correct if `realpath` is idempotent,
  false otherwise (witness: the recorded answers of CPython 3.12 on a layout
  with a link loop).
-/
import Pylx.InputFile
namespace Pylx

/-- Containment of real paths as the property states it. -/
def Under (d f : Str) : Prop := f = d ∨ (d ++ ['/']) <+: f

/-- Containment as the repaired code tests it: `f` starts with `os.path.join(d, '')`.
    For a `d` that does not end in a separator this is the strict part of `Under`;
    for the root `/` it is "`f` is absolute". -/
def Inside (d f : Str) : Prop := dirSlash d <+: f

instance (d f : Str) : Decidable (Under d f) := by unfold Under; infer_instance
instance (d f : Str) : Decidable (Inside d f) := by unfold Inside; infer_instance

def RealIdem (fs : FS) : Prop := ∀ p, fs.realpath (fs.realpath p) = fs.realpath p

theorem realIdem_of_single {fs : FS} {a b : Str} (h : ∀ p, fs.realpath p = if p = a then b else p) (hb : b ≠ a) :
    RealIdem fs := by
  intro p
  rw [h p]
  split
  · rw [h b, if_neg hb]
  · rw [h p, if_neg ‹_›]

/-- "`d` is an ordinary directory path": non-empty, no trailing separator
    (true of every `realpath` result except the root). -/
def Plain (d : Str) : Prop := dirSlash d = d ++ ['/']

instance (d : Str) : Decidable (Plain d) := by unfold Plain; infer_instance

theorem plain_of_noSep (d : Str) (h1 : d ≠ []) (h2 : d.getLast? ≠ some '/') : Plain d :=
  if_neg (not_or.mpr ⟨h1, h2⟩)

theorem Inside.under {d f : Str} (hp : Plain d) (h : Inside d f) : Under d f := by
  unfold Inside at h; rw [hp] at h; exact Or.inr h

theorem inside_of_trailingSep (d f : Str) (h : d.getLast? = some '/') : Inside d f ↔ d <+: f := by
  unfold Inside dirSlash; rw [if_pos (Or.inr h)]

theorem inside_root (f : Str) : Inside ['/'] f ↔ ['/'] <+: f :=
  inside_of_trailingSep _ _ (by decide)

theorem prefix_dirSlash (d : Str) : d <+: dirSlash d := by
  unfold dirSlash; split
  · exact List.prefix_refl _
  · exact List.prefix_append _ _

theorem finish_content (fs : FS) (f c : Str) :
    finish fs f = .content c ↔ fs.isfile f = true ∧ fs.read f = some c := by
  unfold finish
  cases hi : fs.isfile f <;> cases hr : fs.read f <;> simp

theorem complete_eq (fs : FS) (f0 : Str) :
    complete fs f0 = if fs.exists_ f0 then f0 else if fs.exists_ (f0 ++ extTex) then f0 ++ extTex
      else if fs.exists_ (f0 ++ extLatex) then f0 ++ extLatex else f0 := by
  unfold complete
  cases h0 : fs.exists_ f0 <;> cases h1 : fs.exists_ (f0 ++ extTex) <;> simp [h0, h1]

theorem complete_cases (fs : FS) (f0 : Str) :
    complete fs f0 = f0 ∨ complete fs f0 = f0 ++ extTex ∨ complete fs f0 = f0 ++ extLatex := by
  rw [complete_eq]
  split
  · exact .inl rfl
  · split
    · exact .inr (.inl rfl)
    · split
      · exact .inr (.inr rfl)
      · exact .inl rfl

/-- The final name the repaired code settles on before the guard. -/
def finalName (fs : FS) (dir fn : Str) : Str := complete fs (fs.realpath (fs.join dir fn))

theorem readLatexFile_strict (fs : FS) (dir fn : Str) :
    readLatexFile fs dir true fn =
      if fs.realpath (fs.realpath (finalName fs dir fn)) = fs.realpath (finalName fs dir fn) ∧
         Inside (fs.realpath dir) (fs.realpath (finalName fs dir fn))
      then finish fs (fs.realpath (finalName fs dir fn)) else .denied := by
  simp only [readLatexFile, finalName, Inside, if_true, Bool.and_eq_true, beq_iff_eq, List.isPrefixOf_iff_prefix]
  congr

theorem readLatexFileNoCanon_strict (fs : FS) (dir fn : Str) :
    readLatexFileNoCanon fs dir true fn =
      if Inside (fs.realpath dir) (fs.realpath (finalName fs dir fn))
      then finish fs (fs.realpath (finalName fs dir fn)) else .denied := by
  simp only [readLatexFileNoCanon, finalName, Inside, if_true, List.isPrefixOf_iff_prefix]
  congr

/-- **C15 guard** for a reader `rd`: in strict mode, whatever content is returned
    is the content of a file whose real path lies under the real path of the
    directory — for every file system satisfying `law`, every directory (whose
    real path is an ordinary path), every requested name. -/
def GuardPropUnder (law : FS → Prop) (rd : FS → Str → Bool → Str → InRes) : Prop :=
  ∀ (fs : FS) (dir fn c : Str), law fs → Plain (fs.realpath dir) →
    rd fs dir true fn = .content c →
    ∃ f, fs.read f = some c ∧ Under (fs.realpath dir) (fs.realpath f)

def GuardProp := GuardPropUnder (fun _ => True)
def GuardPropIdem := GuardPropUnder RealIdem

theorem GuardPropUnder.not_of_call {law : FS → Prop} {rd : FS → Str → Bool → Str → InRes} (fs : FS) (dir fn c : Str)
    (hl : law fs) (hp : Plain (fs.realpath dir)) (hc : rd fs dir true fn = .content c)
    (hout : ∀ f, fs.read f = some c → ¬ Under (fs.realpath dir) (fs.realpath f)) : ¬ GuardPropUnder law rd :=
  fun h => let ⟨f, hr, hu⟩ := h fs dir fn c hl hp hc; hout f hr hu

/-- Strong form (no side condition on the directory, no law; conclusion is the
    strict containment; the file is named and is its own real path). -/
theorem C15_guard_inside (fs : FS) (dir fn c : Str)
    (h : readLatexFile fs dir true fn = .content c) :
    ∃ f, f = fs.realpath (finalName fs dir fn) ∧ fs.realpath f = f ∧ fs.isfile f = true ∧
      fs.read f = some c ∧ Inside (fs.realpath dir) (fs.realpath f) := by
  rw [readLatexFile_strict] at h
  split at h
  · next hin =>
    obtain ⟨hi, hr⟩ := (finish_content _ _ _).mp h
    exact ⟨_, rfl, hin.1, hi, hr, by rw [hin.1]; exact hin.2⟩
  · cases h

/-- **C15_guard** — the repaired reader satisfies the guard property for every
    file system oracle. -/
theorem C15_guard : GuardProp readLatexFile := by
  intro fs dir fn c _ hp h
  obtain ⟨f, _, _, _, hr, hin⟩ := C15_guard_inside fs dir fn c h
  exact ⟨f, hr, hin.under hp⟩

theorem eq_content_of_toPy_ne_nil {r : InRes} (h : r.toPy ≠ []) : r = .content r.toPy := by
  cases r with
  | content s => rfl
  | _ => exact absurd rfl h

/-- The guard at the entry point and on the value Python returns: a non-empty
    return value in strict mode is the content of a file inside the directory
    (and a directory was set). -/
theorem C15_guard_py (fs : FS) (dir : Option Str) (fn : Str)
    (h : (readInputFile fs dir true fn).toPy ≠ []) :
    ∃ d f, dir = some d ∧ fs.read f = some (readInputFile fs dir true fn).toPy ∧
      Inside (fs.realpath d) (fs.realpath f) := by
  cases dir with
  | none => exact absurd rfl h
  | some d =>
    obtain ⟨f, _, _, _, hr, hin⟩ := C15_guard_inside fs d fn _ (eq_content_of_toPy_ne_nil h)
    exact ⟨d, f, rfl, hr, hin⟩

/-- Whatever lies outside is refused (strict mode), before `isfile` or `open`
    are asked about it. -/
theorem C15_outside_denied (fs : FS) (dir fn : Str)
    (h : ¬ Inside (fs.realpath dir) (fs.realpath (finalName fs dir fn))) :
    readLatexFile fs dir true fn = .denied := by
  rw [readLatexFile_strict, if_neg (fun hh => h hh.2)]

/-- A "real path" that `realpath` itself does not confirm is refused as well. -/
theorem C15_noncanonical_denied (fs : FS) (dir fn : Str)
    (h : fs.realpath (fs.realpath (finalName fs dir fn)) ≠ fs.realpath (finalName fs dir fn)) :
    readLatexFile fs dir true fn = .denied := by
  rw [readLatexFile_strict, if_neg (fun hh => h hh.1)]

/-- **C15_inside** — a name whose final form (after the implicit completion)
    really lies inside the directory and is a readable file *is* read. -/
theorem C15_inside (fs : FS) (dir fn c : Str)
    (hcan : fs.realpath (fs.realpath (finalName fs dir fn)) = fs.realpath (finalName fs dir fn))
    (hin : Inside (fs.realpath dir) (fs.realpath (finalName fs dir fn)))
    (hf : fs.isfile (fs.realpath (finalName fs dir fn)) = true)
    (hr : fs.read (fs.realpath (finalName fs dir fn)) = some c) :
    readLatexFile fs dir true fn = .content c := by
  rw [readLatexFile_strict, if_pos ⟨hcan, hin⟩]
  exact (finish_content _ _ _).mpr ⟨hf, hr⟩

theorem C15_inside_of_complete (fs : FS) (hid : RealIdem fs) (dir fn c f : Str)
    (hc : complete fs (fs.realpath (fs.join dir fn)) = f) (hin : Inside (fs.realpath dir) (fs.realpath f))
    (hf : fs.isfile (fs.realpath f) = true) (hr : fs.read (fs.realpath f) = some c) :
    readLatexFile fs dir true fn = .content c := by
  subst hc
  exact C15_inside fs dir fn c (hid _) hin hf hr

/-- `C15_inside` spelled out for the three ways a name is completed (for a file system whose
    `realpath` is idempotent the canonicity hypothesis is automatic). -/
theorem C15_inside_exact (fs : FS) (hid : RealIdem fs) (dir fn c : Str)
    (he : fs.exists_ (fs.realpath (fs.join dir fn)) = true)
    (hin : Inside (fs.realpath dir) (fs.realpath (fs.realpath (fs.join dir fn))))
    (hf : fs.isfile (fs.realpath (fs.realpath (fs.join dir fn))) = true)
    (hr : fs.read (fs.realpath (fs.realpath (fs.join dir fn))) = some c) :
    readLatexFile fs dir true fn = .content c :=
  C15_inside_of_complete fs hid dir fn c _ (by simp [complete_eq, he]) hin hf hr

theorem C15_inside_tex (fs : FS) (hid : RealIdem fs) (dir fn c : Str)
    (h0 : fs.exists_ (fs.realpath (fs.join dir fn)) = false)
    (h1 : fs.exists_ (fs.realpath (fs.join dir fn) ++ extTex) = true)
    (hin : Inside (fs.realpath dir) (fs.realpath (fs.realpath (fs.join dir fn) ++ extTex)))
    (hf : fs.isfile (fs.realpath (fs.realpath (fs.join dir fn) ++ extTex)) = true)
    (hr : fs.read (fs.realpath (fs.realpath (fs.join dir fn) ++ extTex)) = some c) :
    readLatexFile fs dir true fn = .content c :=
  C15_inside_of_complete fs hid dir fn c _ (by simp [complete_eq, h0, h1]) hin hf hr

theorem C15_inside_latex (fs : FS) (hid : RealIdem fs) (dir fn c : Str)
    (h0 : fs.exists_ (fs.realpath (fs.join dir fn)) = false)
    (h1 : fs.exists_ (fs.realpath (fs.join dir fn) ++ extTex) = false)
    (h2 : fs.exists_ (fs.realpath (fs.join dir fn) ++ extLatex) = true)
    (hin : Inside (fs.realpath dir) (fs.realpath (fs.realpath (fs.join dir fn) ++ extLatex)))
    (hf : fs.isfile (fs.realpath (fs.realpath (fs.join dir fn) ++ extLatex)) = true)
    (hr : fs.read (fs.realpath (fs.realpath (fs.join dir fn) ++ extLatex)) = some c) :
    readLatexFile fs dir true fn = .content c :=
  C15_inside_of_complete fs hid dir fn c _ (by simp [complete_eq, h0, h1, h2]) hin hf hr

/-- **C15_nodir** — without a directory nothing is looked up: the outcome is
    `nodir` (Python `''`) and it is the same for every file system. -/
theorem C15_nodir (fs fs' : FS) (strict strict' : Bool) (fn : Str) :
    readInputFile fs none strict fn = .nodir ∧ (readInputFile fs none strict fn).toPy = [] ∧
      readInputFile fs none strict fn = readInputFile fs' none strict' fn :=
  ⟨rfl, rfl, rfl⟩

/-- The repair does not change non-strict mode. -/
theorem C15_nonstrict_unchanged (fs : FS) (dir fn : Str) :
    readLatexFile fs dir false fn = readLatexFileAsIs fs dir false fn := by
  simp [readLatexFile, readLatexFileAsIs]

/-- The repair does not change strict mode either for a name that exists as
    given and is inside: both versions open the same path. -/
theorem C15_fix_agrees_inside (fs : FS) (hid : RealIdem fs) (dir fn : Str)
    (he : fs.exists_ (fs.realpath (fs.join dir fn)) = true)
    (hin : Inside (fs.realpath dir) (fs.realpath (fs.join dir fn))) :
    readLatexFile fs dir true fn = readLatexFileAsIs fs dir true fn := by
  rw [readLatexFile_strict]
  simp only [finalName, complete_eq, he, if_true, hid (fs.join dir fn)]
  rw [if_pos ⟨trivial, hin⟩]
  unfold readLatexFileAsIs
  have hpre : (fs.realpath dir).isPrefixOf (fs.realpath (fs.join dir fn)) = true :=
    List.isPrefixOf_iff_prefix.mpr (List.IsPrefix.trans (prefix_dirSlash _) hin)
  simp [hpre, complete_eq, he]

/-- Witness (a): directory `/r/base`, sibling `/r/base2`, name `../base2/s.tex`. -/
def fsA : FS where
  join a b := a ++ ['/'] ++ b
  realpath p := if p = "/r/base/../base2/s.tex".toList then "/r/base2/s.tex".toList else p
  exists_ p := decide (p = "/r/base2/s.tex".toList)
  isfile p := decide (p = "/r/base2/s.tex".toList)
  read p := if p = "/r/base2/s.tex".toList then some "SECRET".toList else none

theorem fsA_idem : RealIdem fsA := realIdem_of_single (fun _ => rfl) (by decide)

/-- Witness (b): directory `/r/base` containing the symbolic link
    `lnk.tex → /r/out/s.tex`, name `lnk`. -/
def fsB : FS where
  join a b := a ++ ['/'] ++ b
  realpath p := if p = "/r/base/lnk.tex".toList then "/r/out/s.tex".toList else p
  exists_ p := decide (p = "/r/base/lnk.tex".toList) || decide (p = "/r/out/s.tex".toList)
  isfile p := decide (p = "/r/base/lnk.tex".toList) || decide (p = "/r/out/s.tex".toList)
  read p := if p = "/r/base/lnk.tex".toList ∨ p = "/r/out/s.tex".toList
            then some "SECRET".toList else none

theorem fsB_idem : RealIdem fsB := realIdem_of_single (fun _ => rfl) (by decide)

/-- **The guard property is false of the code as it is** (string-prefix containment). -/
theorem C15_asis_violates_guard_prefix : ¬ GuardPropIdem readLatexFileAsIs :=
  GuardPropUnder.not_of_call fsA "/r/base".toList "../base2/s.tex".toList "SECRET".toList fsA_idem (by decide) (by decide)
    fun f hr => by
      obtain ⟨rfl, _⟩ := Option.ite_none_right_eq_some.mp hr
      decide

/-- **The guard property is false of the code as it is** (completion after the check;
    this witness passes even a separator-aware containment test). -/
theorem C15_asis_violates_guard_completion : ¬ GuardPropIdem readLatexFileAsIs :=
  GuardPropUnder.not_of_call fsB "/r/base".toList "lnk".toList "SECRET".toList fsB_idem (by decide) (by decide)
    fun f hr => by
      obtain ⟨rfl | rfl, _⟩ := Option.ite_none_right_eq_some.mp hr <;> decide

/-- Without any law the as-is code fails all the more. -/
theorem C15_asis_violates_guard : ¬ GuardProp readLatexFileAsIs := fun h =>
  C15_asis_violates_guard_prefix (fun fs dir fn c _ hp hc => h fs dir fn c trivial hp hc)

/-- The repair without the run-time canonicity check satisfies the guard for file systems with
    idempotent `realpath` … -/
theorem C15_nocanon_guard_idem : GuardPropIdem readLatexFileNoCanon := by
  intro fs dir fn c hid hp h
  rw [readLatexFileNoCanon_strict] at h
  split at h
  · next hin =>
    obtain ⟨_, hr⟩ := (finish_content _ _ _).mp h
    exact ⟨_, hr, Inside.under hp (by rw [hid]; exact hin)⟩
  · cases h

/-- … but CPython's `realpath` is not idempotent.  Witness (c): the answers
    recorded from CPython 3.12 on the layout `d/loop → loop`,
    `d/x.tex → loop/../y`, `d/y → loop/../z`, `d/z → ../out/s.tex`
    (`d/y` does not "exist" for the OS: resolving it runs into the loop). -/
def fsD : FS where
  join a b := a ++ ['/'] ++ b
  realpath p := if p = "/r/d/x.tex".toList then "/r/d/y".toList
                else if p = "/r/d/y".toList then "/r/d/z".toList
                else if p = "/r/d/z".toList then "/r/out/s.tex".toList else p
  exists_ p := decide (p = "/r/d/z".toList) || decide (p = "/r/out/s.tex".toList)
  isfile p := decide (p = "/r/d/z".toList) || decide (p = "/r/out/s.tex".toList)
  read p := if p = "/r/d/z".toList ∨ p = "/r/out/s.tex".toList then some "SECRET".toList else none

theorem C15_nocanon_violates_guard : ¬ GuardProp readLatexFileNoCanon :=
  GuardPropUnder.not_of_call fsD "/r/d".toList "x.tex".toList "SECRET".toList trivial (by decide) (by decide)
    fun f hr => by
      obtain ⟨rfl | rfl, _⟩ := Option.ite_none_right_eq_some.mp hr <;> decide

/-- the as-is code is caught by the one-level form of the same layout -/
example : readLatexFileAsIs fsD "/r/d".toList true "y".toList = .content "SECRET".toList := by decide
/-- the repaired reader refuses -/
example : readLatexFile fsD "/r/d".toList true "x.tex".toList = .denied := by decide
example : readLatexFile fsD "/r/d".toList true "y".toList = .denied := by decide

/-- The repaired reader refuses both. -/
example : readLatexFile fsA "/r/base".toList true "../base2/s.tex".toList = .denied := by decide
example : readLatexFile fsB "/r/base".toList true "lnk".toList = .denied := by decide

/-! ### Non-vacuity: concrete file systems meeting the hypotheses -/

/-- directory `/r/base` with `a.tex`, `sub/d.latex`, and a link `up → .` in `sub` -/
def fsC : FS where
  join a b := a ++ ['/'] ++ b
  realpath p := if p = "/r/base/sub/up/a".toList then "/r/base/a".toList else p
  exists_ p := decide (p = "/r/base/a.tex".toList) || decide (p = "/r/base/sub/d.latex".toList)
  isfile p := decide (p = "/r/base/a.tex".toList) || decide (p = "/r/base/sub/d.latex".toList)
  read p := if p = "/r/base/a.tex".toList then some "AAA".toList
            else if p = "/r/base/sub/d.latex".toList then some "DDD".toList else none

theorem fsC_idem : RealIdem fsC := realIdem_of_single (fun _ => rfl) (by decide)

theorem Conv.run_append (fs : FS) (c : Conv) (a b : List ConvOp) :
    (Conv.run fs c (a ++ b)).1 = (Conv.run fs (Conv.run fs c a).1 b).1 := by
  induction a generalizing c with
  | nil => rfl
  | cons op a ih => exact ih _

theorem Conv.run_read_state (fs : FS) (c : Conv) (fn : Str) : (c.step fs (.read fn)).1 = c := rfl

/-- reads do not change the object: after a history, the configuration is the one of the last
    `set_tex_input_directory` call (or the initial one) -/
def lastConfig : Conv → List ConvOp → Conv
  | c, [] => c
  | _, .setDir d s :: ops => lastConfig { dir := d, strict := s } ops
  | c, .read _ :: ops => lastConfig c ops

theorem Conv.run_state (fs : FS) (c : Conv) (ops : List ConvOp) : (Conv.run fs c ops).1 = lastConfig c ops := by
  induction ops generalizing c with
  | nil => rfl
  | cons op ops ih => cases op <;> exact ih _

/-- **C15 (history independence).**  Whatever was set and read before on the same converter object (other directories,
    non-strict mode, successful reads of the same name), a read returns what a fresh object with the current
    configuration returns. -/
theorem C15_session (fs : FS) (c : Conv) (ops : List ConvOp) (fn : Str) :
    ((Conv.run fs c ops).1.step fs (.read fn)).2 =
      some (readInputFile fs (lastConfig c ops).dir (lastConfig c ops).strict fn) := by
  rw [Conv.run_state]; rfl

/-- **C15 (guard over histories).**  After any history that ends by confining the object strictly to `d`, a non-empty
    answer is the content of a file whose real path is inside `d` — nothing read earlier can come back. -/
theorem C15_session_guard (fs : FS) (c : Conv) (ops : List ConvOp) (d : Option Str) (fn : Str) (r : InRes)
    (h : ((Conv.run fs c (ops ++ [.setDir d true])).1.step fs (.read fn)).2 = some r) (hne : r.toPy ≠ []) :
    ∃ d' f, d = some d' ∧ fs.read f = some r.toPy ∧ Inside (fs.realpath d') (fs.realpath f) := by
  rw [Conv.run_append] at h
  simp only [Conv.run, Conv.step, Option.some.injEq] at h
  subst h
  exact C15_guard_py fs d fn hne

-- C15_session / C15_session_guard: a history that first reads the sibling's file successfully (directory base2),
-- then confines the object strictly to base and asks for the same name again: nothing comes back
example : (Conv.run fsA {} [.setDir (some "/r/base2".toList) true, .read "s.tex".toList,
      .setDir (some "/r/base".toList) true, .read "s.tex".toList]).2 =
    [none, some (.content "SECRET".toList), none, some .missing] := by decide

-- C15_guard / C15_guard_inside / C15_guard_py: content is returned, hypotheses hold
example : readLatexFile fsC "/r/base".toList true "sub/up/a".toList = .content "AAA".toList := by decide
example : Plain (fsC.realpath "/r/base".toList) := by decide
example : (readInputFile fsC (some "/r/base".toList) true "sub/d".toList).toPy = "DDD".toList := by decide
-- C15_inside_exact / _tex / _latex: each hypothesis set is met
example : fsC.exists_ (fsC.realpath (fsC.join "/r/base".toList "a.tex".toList)) = true ∧
    Inside (fsC.realpath "/r/base".toList)
      (fsC.realpath (fsC.realpath (fsC.join "/r/base".toList "a.tex".toList))) := by decide
example : fsC.exists_ (fsC.realpath (fsC.join "/r/base".toList "sub/up/a".toList)) = false ∧
    fsC.exists_ (fsC.realpath (fsC.join "/r/base".toList "sub/up/a".toList) ++ extTex) = true ∧
    Inside (fsC.realpath "/r/base".toList)
      (fsC.realpath (fsC.realpath (fsC.join "/r/base".toList "sub/up/a".toList) ++ extTex)) := by decide
example : fsC.exists_ (fsC.realpath (fsC.join "/r/base".toList "sub/d".toList)) = false ∧
    fsC.exists_ (fsC.realpath (fsC.join "/r/base".toList "sub/d".toList) ++ extTex) = false ∧
    fsC.exists_ (fsC.realpath (fsC.join "/r/base".toList "sub/d".toList) ++ extLatex) = true := by decide
-- C15_outside_denied: a name that leaves the directory
example : ¬ Inside (fsA.realpath "/r/base".toList)
    (fsA.realpath (finalName fsA "/r/base".toList "../base2/s.tex".toList)) := by decide
-- C15_noncanonical_denied: the link-loop answers of `fsD`
example : fsD.realpath (fsD.realpath (finalName fsD "/r/d".toList "x.tex".toList)) ≠
    fsD.realpath (finalName fsD "/r/d".toList "x.tex".toList) := by decide
-- C15_inside: canonical, inside, a file (with completion through the link `sub/up`)
example : fsC.realpath (fsC.realpath (finalName fsC "/r/base".toList "sub/up/a".toList)) =
      fsC.realpath (finalName fsC "/r/base".toList "sub/up/a".toList) ∧
    Inside (fsC.realpath "/r/base".toList) (fsC.realpath (finalName fsC "/r/base".toList "sub/up/a".toList)) ∧
    fsC.isfile (fsC.realpath (finalName fsC "/r/base".toList "sub/up/a".toList)) = true := by decide
-- C15_fix_agrees_inside
example : readLatexFileAsIs fsC "/r/base".toList true "a.tex".toList = .content "AAA".toList := by decide
-- the root directory: everything absolute is inside, `Under` as stated would not say so
example : Inside "/".toList "/etc/x.tex".toList ∧ ¬ Under "/".toList "/etc/x.tex".toList := by decide
-- C15_nodir
example : (readInputFile fsA none true "../base2/s.tex".toList).toPy = [] := by decide

end Pylx
