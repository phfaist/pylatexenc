/-
  C10 — the parser on runs of letters between dollar signs (default state, default context).
-/
import PylxProofs.C10Lemmas5
import Pylx.Gen.WalkerDb
namespace Pylx
namespace C10

/-- the walker's default parsing state for the default context -/
def f₀ : PSFields := { specials := Gen.defaultCtx.specials.map (·.1) }

/-- parsing of `s` with the default context -/
def denv (tol : Bool) (s : Str) : Env := { tol := tol, ctx := Gen.defaultCtx, s := s }

@[simp] theorem denv_tol (tol : Bool) (s : Str) : (denv tol s).tol = tol := rfl
@[simp] theorem denv_s (tol : Bool) (s : Str) : (denv tol s).s = s := rfl

/-- a non-empty run of ASCII letters -/
def PlainX (a : Str) : Prop := a ≠ [] ∧ ∀ c ∈ a, isAsciiAlpha c = true

/-- the two dollar delimiters with their kind -/
def Dollar (d : Str) (disp : Bool) : Prop := (d = ['$'] ∧ disp = false) ∨ (d = ['$', '$'] ∧ disp = true)

/-! ### closed facts about the three states involved -/

theorem letterPS_f₀ : LetterPS (mkPS f₀) := ⟨by decide, by decide, rfl, rfl, rfl, by decide, rfl⟩
theorem letterPS_math {d : Str} {disp : Bool} (h : Dollar d disp) : LetterPS (mkPS (mathFields f₀ d)) := by
  rcases h with ⟨rfl, rfl⟩ | ⟨rfl, rfl⟩
  · exact ⟨by decide, by decide, rfl, rfl, rfl, by decide, rfl⟩
  · exact ⟨by decide, by decide, rfl, rfl, rfl, by decide, rfl⟩

theorem expectClose_dollar {d : Str} {disp : Bool} (h : Dollar d disp) :
    (mkPS (mathFields f₀ d)).t.expectClose = some (d, disp) := by
  rcases h with ⟨rfl, rfl⟩ | ⟨rfl, rfl⟩ <;> decide

theorem stop_char (stop : StopTok) (t : Token) (h : t.kind = .char) : stop.test t = false := by
  cases stop with
  | none => rfl
  | braceClose c => rw [StopTok.test, h]; rfl
  | mathClose d c => cases d <;> (rw [StopTok.test, h]; rfl)
  | endEnv n => rw [StopTok.test, h]; rfl

/-- where the pending characters start after the run `w` has been pushed at `p` -/
def pendAfter (pp : Option Nat) (p : Nat) : Str → Option Nat
  | [] => pp
  | _ :: _ => some (pp.getD p)

/-! ### a run of letters in the collector -/

theorem letters_loop (tol : Bool) (s : Str) (f : PSFields) (hps : LetterPS (mkPS f)) (stop : StopTok) (child : ChildPS) :
    ∀ (w : Str) (p : Nat) (acc : List Node) (pd : Str) (pp : Option Nat) (rest : Str) (n : Nat),
      (∀ c ∈ w, isAsciiAlpha c = true) → s.drop p = w ++ rest →
      run (denv tol s) (n + w.length) (.loop f stop child { pos := p, acc := acc, pend := pd, pendPos := pp }) =
      run (denv tol s) n
        (.loop f stop child { pos := p + w.length, acc := acc, pend := pd ++ w, pendPos := pendAfter pp p w }) := by
  intro w
  induction w with
  | nil => intro p acc pd pp rest n _ _; simp [pendAfter]
  | cons c w ih =>
    intro p acc pd pp rest n hw hdrop
    have hc : isAsciiAlpha c = true := hw c (by simp)
    have hdrop' : s.drop p = c :: (w ++ rest) := hdrop
    have e : n + (c :: w).length = (n + w.length) + 1 := by simp only [List.length_cons]; omega
    have hlt : LoopTok (denv tol s) f { pos := p, acc := acc, pend := pd, pendPos := pp }
        { kind := .char, arg := [c], pos := p, posEnd := p + 1, pre := [] } :=
      .peek (by show peekTok tol (mkPS f) s p = _; unfold peekTok; rw [peek_letter (mkPS f) hps s p c _ hdrop' hc])
    rw [e, run_step, step_loop, loopStep_char hlt (stop_char stop _ rfl) rfl]
    have ih2 := ih (p + 1) acc (pd ++ [c]) (some (pp.getD p)) rest n (fun x hx => hw x (by simp [hx]))
      (drop_succ hdrop')
    have e1 : ({ pos := p, acc := acc, pend := pd, pendPos := pp } : LoopSt).push ([] ++ [c]) (p - ([] : Str).length) =
        { pos := p, acc := acc, pend := pd ++ [c], pendPos := some (pp.getD p) } := by
      cases pp <;> simp [LoopSt.push]
    rw [e1]
    simp only
    rw [ih2]
    congr 2
    have e2 : p + 1 + w.length = p + (c :: w).length := by simp only [List.length_cons]; omega
    rw [e2, List.append_assoc]
    cases w <;> simp [pendAfter]

/-! ### the body of a formula -/

theorem mathTok_stop {d : Str} {disp : Bool} (h : Dollar d disp) (p : Nat) :
    (StopTok.mathClose disp d).test (mathTok p [] d disp) = true := by
  rcases h with ⟨rfl, rfl⟩ | ⟨rfl, rfl⟩ <;> rfl

theorem body_loop (tol : Bool) (s : Str) {d : Str} {disp : Bool} (hd : Dollar d disp) (a : Str) (ha : PlainX a) (p : Nat) (rest : Str)
    (hdrop : s.drop p = a ++ (d ++ rest)) (n : Nat) (hn : a.length + 1 ≤ n) :
    run (denv tol s) n (.loop (mathFields f₀ d) (.mathClose disp d) .same { pos := p }) =
      .loopEnd { nodes := [Node.chars p (p + a.length) (mathInfo d) a], pos := p + a.length,
                 stopTok := some (mathTok (p + a.length) [] d disp), err := none } := by
  obtain ⟨m, rfl⟩ : ∃ m, n = (m + 1) + a.length := ⟨n - a.length - 1, by omega⟩
  rw [letters_loop tol s _ (letterPS_math hd) _ _ a p [] [] none (d ++ rest) (m + 1) ha.2 hdrop, run_step]
  have hpend : pendAfter none p a = some p := by
    cases a with
    | nil => exact absurd rfl ha.1
    | cons x xs => rfl
  rw [hpend]
  have hd2 := drop_add a (d ++ rest) hdrop
  have hpk : peekTok tol (mkPS (mathFields f₀ d)) s (p + a.length) = .tok (mathTok (p + a.length) [] d disp) := by
    unfold peekTok
    rcases hd with ⟨rfl, rfl⟩ | ⟨rfl, rfl⟩
    · rw [peek_close _ s _ ['$'] false '$' [] rest rfl hd2 (by decide) (by decide) (by decide) (by decide) (by decide)]
    · rw [peek_close _ s _ ['$', '$'] true '$' ['$'] rest rfl hd2 (by decide) (by decide) (by decide) (by decide)
        (by decide)]
  rw [step_loop, loopStep_stop (.peek hpk) (mathTok_stop hd _)]
  simp [loopFinish, LoopSt.flush, LoopSt.push, mathTok, ha.1, psInfo_mathFields]

/-- the general-nodes parser on the body of a formula -/
theorem body_pc (tol : Bool) (s : Str) {d : Str} {disp : Bool} (hd : Dollar d disp) (a : Str) (ha : PlainX a) (p : Nat) (rest : Str)
    (hdrop : s.drop p = a ++ (d ++ rest)) (n : Nat) (hn : a.length + 2 ≤ n) :
    run (denv tol s) n (.pc (.general (.mathClose disp d) true .same) (mathFields f₀ d) p) =
      .ok (.list (some p) (some (p + a.length)) [Node.chars p (p + a.length) (mathInfo d) a])
        (p + a.length + d.length) := by
  obtain ⟨m, rfl⟩ : ∃ m, n = m + 1 := ⟨n - 1, by omega⟩
  rw [run_step, step_pc, rawParse_general, rawGeneral_loopEnd (body_loop tol s hd a ha p rest hdrop m (by omega))]
  simp [listOf, parseContent, StopTok.isSome, mathTok, Node.pos, Node.posEnd]

/-! ### a formula -/

/-- the node of the formula `d a d` at `p` -/
def formula (p : Nat) (d : Str) (disp : Bool) (a : Str) : Node :=
  Node.math p (p + a.length + 2 * d.length) {} disp d d
    (some [Node.chars (p + d.length) (p + d.length + a.length) (mathInfo d) a])

theorem math_pc (tol : Bool) (s : Str) {d : Str} {disp : Bool} (hd : Dollar d disp) (a : Str) (ha : PlainX a) (p : Nat) (rest : Str)
    (hdrop : s.drop p = d ++ (a ++ (d ++ rest)))
    (hopen : peekImpl (mkPS f₀) s p = .tok (mathTok p [] d disp)) (n : Nat) (hn : a.length + 3 ≤ n) :
    run (denv tol s) n (.pc (.math d) f₀ p) = .ok (.node (formula p d disp a)) (p + a.length + 2 * d.length) := by
  obtain ⟨m, rfl⟩ : ∃ m, n = m + 1 := ⟨n - 1, by omega⟩
  have hpk : peekTok (denv tol s).tol (mkPS f₀) (denv tol s).s p = .tok (mathTok p [] d disp) := by
    show peekTok tol (mkPS f₀) s p = _; unfold peekTok; rw [hopen]
  have hopens : MathOpens d (mathTok p [] d disp) := ⟨rfl, by cases disp <;> simp [mathTok], rfl⟩
  rw [run_step, step_pc, rawParse_math, rawMath_tok hpk, rawMathTok_open hopens (expectClose_dollar hd)]
  show parseContent _ (bindOk (run (denv tol s) m (.pc (.general (.mathClose
    ((mathTok p [] d disp).kind == .mathDisplay) d) true .same) (mathFields f₀ d) (p + d.length))) _) = _
  rw [mathTok_kindX, body_pc tol s hd a ha (p + d.length) rest (drop_add d _ hdrop) m (by omega)]
  have e : p + d.length + a.length + d.length = p + a.length + 2 * d.length := by omega
  simp only [bindOk, parseContent, bodyOf, formula, e]
  rfl

/-! ### the top-level collector -/

theorem byOpen_dollar {d : Str} {disp : Bool} (h : Dollar d disp) :
    ((mkPS f₀).t.mathByOpen.any fun x => x.1 == d) = true := by
  rcases h with ⟨rfl, rfl⟩ | ⟨rfl, rfl⟩ <;> decide

theorem top_formula (tol : Bool) (s : Str) {d : Str} {disp : Bool} (hd : Dollar d disp) (a : Str) (ha : PlainX a) (p : Nat) (rest : Str)
    (acc : List Node)
    (hdrop : s.drop p = d ++ (a ++ (d ++ rest)))
    (hopen : peekImpl (mkPS f₀) s p = .tok (mathTok p [] d disp)) (n : Nat) (hn : a.length + 3 ≤ n) :
    run (denv tol s) (n + 1) (.loop f₀ .none .same { pos := p, acc := acc }) =
      run (denv tol s) n (.loop f₀ .none .same { pos := p + a.length + 2 * d.length, acc := acc ++ [formula p d disp a] }) := by
  have hpk : peekTok (denv tol s).tol (mkPS f₀) (denv tol s).s p = .tok (mathTok p [] d disp) := by
    show peekTok tol (mkPS f₀) s p = _; unfold peekTok; rw [hopen]
  have hk : (mathTok p [] d disp).kind = .mathInline ∨ (mathTok p [] d disp).kind = .mathDisplay := by
    cases disp
    · exact .inl rfl
    · exact .inr rfl
  rw [run_step, step_loop, loopStep_dispatch (.peek hpk) rfl (by cases disp <;> exact fun h => nomatch h),
    LoopSt.flushBefore_nil rfl rfl,
    loopDispatch_child (t := { mathTok p [] d disp with pre := [] }) (.math hk (byOpen_dollar hd))]
  show afterChild _ _ _ _ _ _ (run (denv tol s) n (.pc (.math d) f₀ p)) = _
  rw [math_pc tol s hd a ha p rest hdrop hopen n hn, afterChild_node]

theorem top_eos (tol : Bool) (s : Str) (p : Nat) (acc : List Node) (h : s.drop p = []) (n : Nat) :
    run (denv tol s) (n + 1) (.loop f₀ .none .same { pos := p, acc := acc }) =
      .loopEnd { nodes := acc, pos := p, stopTok := none, err := none } := by
  have hpk : peekTok (denv tol s).tol (mkPS f₀) (denv tol s).s p = .eos [] := by
    show peekTok tol (mkPS f₀) s p = _; unfold peekTok; rw [peekImpl_eos _ h]
  rw [run_step, step_loop, loopStep_inr (loopRead_eos hpk), loopFinish_eq, LoopSt.flush_nil rfl]

end C10
end Pylx
