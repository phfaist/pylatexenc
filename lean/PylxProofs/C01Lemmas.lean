/-
  C01Lemmas — structural lemmas for C01: `Tiles` / `Chain` algebra, the subnode lists, slices,
  and predicates that hold of every node of a forest.
-/
import PylxProofs.ParseSpec
import PylxProofs.C11
namespace Pylx

/-! ### slices -/

theorem slice_length (s : Str) (a b : Nat) (hab : a ≤ b) (hb : b ≤ s.length) : (slice s a b).length = b - a := by
  simp [slice]; omega

theorem slice_zero_length (s : Str) : slice s 0 s.length = s := by
  simp [slice]

theorem slice_one (s : Str) (p : Nat) (c : Char) (h : s[p]? = some c) : slice s p (p + 1) = [c] := by
  have hlt := getElem?_lt _ _ _ h
  unfold slice
  rw [Nat.add_sub_cancel_left]
  rw [List.getElem?_eq_getElem hlt] at h
  cases h
  rw [List.drop_eq_getElem_cons hlt]
  simp [List.take]

/-! ### chains and tilings -/

theorem Tiles.le {ns : List Node} {a b : Nat} (h : Tiles ns a b) : a ≤ b := by
  induction h with
  | nil => exact Nat.le_refl _
  | cons h1 _ ih => omega

theorem Tiles.append {xs ys : List Node} {a b c : Nat} (h1 : Tiles xs a b) (h2 : Tiles ys b c) :
    Tiles (xs ++ ys) a c := by
  induction h1 with
  | nil => exact h2
  | cons hle _ ih => exact Tiles.cons hle (ih h2)

theorem Tiles.single (n : Node) (h : n.pos ≤ n.posEnd) : Tiles [n] n.pos n.posEnd :=
  Tiles.cons h Tiles.nil

theorem Tiles.snoc {xs : List Node} {a : Nat} {n : Node} (h1 : Tiles xs a n.pos) (h : n.pos ≤ n.posEnd) :
    Tiles (xs ++ [n]) a n.posEnd :=
  h1.append (Tiles.single n h)

theorem Tiles.snoc' {xs : List Node} {a m e : Nat} {n : Node} (h1 : Tiles xs a m) (hp : n.pos = m)
    (he : n.posEnd = e) (h : m ≤ e) : Tiles (xs ++ [n]) a e := by
  subst hp; subst he; exact h1.snoc h

theorem Chain.le {ns : List Node} {a b : Nat} (h : Chain ns a b) : a ≤ b := by
  induction h with
  | nil h => exact h
  | cons h1 h2 _ ih => omega

theorem Chain.weaken {ns : List Node} {a b a' b' : Nat} (h : Chain ns a b) (ha : a' ≤ a) (hb : b ≤ b') :
    Chain ns a' b' := by
  induction h generalizing a' with
  | nil h => exact Chain.nil (by omega)
  | cons h1 h2 _ ih => exact Chain.cons (by omega) h2 (ih (Nat.le_refl _) hb)

theorem Chain.append {xs ys : List Node} {a b c : Nat} (h1 : Chain xs a b) (h2 : Chain ys b c) :
    Chain (xs ++ ys) a c := by
  induction h1 with
  | nil h => exact h2.weaken h (Nat.le_refl _)
  | cons h1 h2' _ ih => exact Chain.cons h1 h2' (ih h2)

theorem Chain.single {n : Node} {a b : Nat} (h1 : a ≤ n.pos) (h2 : n.pos ≤ n.posEnd) (h3 : n.posEnd ≤ b) :
    Chain [n] a b :=
  Chain.cons h1 h2 (Chain.nil h3)

theorem Tiles.toChain {ns : List Node} {a b a' b' : Nat} (h : Tiles ns a b) (ha : a' ≤ a) (hb : b ≤ b') :
    Chain ns a' b' := by
  induction h generalizing a' with
  | nil => exact Chain.nil (by omega)
  | cons h1 _ ih => exact Chain.cons ha h1 (ih (Nat.le_refl _) hb)

/-- the verbatim source of a tiling is the source slice of the tiled range -/
theorem Tiles.verbatim (s : Str) {ns : List Node} {a b : Nat} (h : Tiles ns a b) :
    (ns.map (fun x => slice s x.pos x.posEnd)).flatten = slice s a b := by
  induction h with
  | nil => simp [slice_self]
  | cons h1 h2 ih =>
    simp only [List.map_cons, List.flatten_cons, ih]
    exact slice_slice_append s _ _ _ h1 h2.le

/-! ### subnodes -/

theorem subnodesList_append (xs ys : List Node) : subnodesList (xs ++ ys) = subnodesList xs ++ subnodesList ys := by
  induction xs with
  | nil => simp [subnodesList]
  | cons x xs ih => simp [subnodesList, ih]

theorem subnodesArg_eq (a : Arg) : subnodesArg a = subnodesList a.nodes := by
  cases a <;> simp [subnodesArg, Arg.nodes, subnodesList]

theorem subnodesArgList_eq (l : List Arg) : subnodesArgList l = subnodesList (l.flatMap Arg.nodes) := by
  induction l with
  | nil => simp [subnodesArgList, subnodesList]
  | cons a l ih => simp [subnodesArgList, subnodesArg_eq, ih, subnodesList_append]

theorem subnodesArgs_eq (a : Option (List Arg)) : subnodesArgs a = subnodesList (argNodes a) := by
  cases a with
  | none => simp [subnodesArgs, argNodes, subnodesList]
  | some l => simp [subnodesArgs, argNodes, subnodesArgList_eq]

theorem subnodesBody_eq (b : Option (List Node)) : subnodesBody b = subnodesList (b.getD []) := by
  cases b <;> simp [subnodesBody, subnodesList]

theorem Node.subnodes_eq (n : Node) : n.subnodes = n :: subnodesList n.children := by
  cases n <;>
    simp [Node.subnodes, Node.children, subnodesList, subnodesArgs_eq, subnodesBody_eq, subnodesList_append]

/-! ### a property of every node of a forest -/

theorem forest_nil {P : Node → Prop} : ∀ x ∈ subnodesList [], P x := by
  intro x hx; simp [subnodesList] at hx

theorem forest_append {P : Node → Prop} {xs ys : List Node} :
    (∀ x ∈ subnodesList (xs ++ ys), P x) ↔ (∀ x ∈ subnodesList xs, P x) ∧ ∀ x ∈ subnodesList ys, P x := by
  rw [subnodesList_append]
  constructor
  · intro h; exact ⟨fun x hx => h x (List.mem_append_left _ hx), fun x hx => h x (List.mem_append_right _ hx)⟩
  · intro h x hx
    rcases List.mem_append.mp hx with hx | hx
    · exact h.1 x hx
    · exact h.2 x hx

theorem forest_single {P : Node → Prop} {n : Node} :
    (∀ x ∈ subnodesList [n], P x) ↔ P n ∧ ∀ x ∈ subnodesList n.children, P x := by
  simp only [subnodesList, List.append_nil]
  rw [Node.subnodes_eq]
  constructor
  · intro h; exact ⟨h n List.mem_cons_self, fun x hx => h x (List.mem_cons_of_mem _ hx)⟩
  · intro h x hx
    rcases List.mem_cons.mp hx with hx | hx
    · rw [hx]; exact h.1
    · exact h.2 x hx

/-- every node of the forest `ns` covers its source -/
def AllOk (s cs : Str) (ns : List Node) : Prop := ∀ x ∈ subnodesList ns, NodeOk s cs x

theorem allOk_nil (s cs : Str) : AllOk s cs [] := forest_nil

theorem allOk_append {s cs : Str} {xs ys : List Node} : AllOk s cs (xs ++ ys) ↔ AllOk s cs xs ∧ AllOk s cs ys :=
  forest_append

theorem allOk_single {s cs : Str} {n : Node} : AllOk s cs [n] ↔ NodeOk s cs n ∧ AllOk s cs n.children :=
  forest_single

theorem allOk_snoc {s cs : Str} {xs : List Node} {n : Node} (h1 : AllOk s cs xs) (h2 : AllOk s cs [n]) :
    AllOk s cs (xs ++ [n]) := allOk_append.mpr ⟨h1, h2⟩

/-- a leaf node (no children) is fine as soon as its own conditions hold -/
theorem allOk_leaf {s cs : Str} {n : Node} (hc : n.children = []) (h1 : n.pos ≤ n.posEnd) (h2 : n.posEnd ≤ s.length)
    (h3 : TextOk s cs n) : AllOk s cs [n] := by
  rw [allOk_single, hc]
  exact ⟨⟨h1, h2, by rw [hc]; exact Chain.nil h1, h3⟩, allOk_nil s cs⟩

theorem allOk_chars {s cs : Str} (a b : Nat) (pi : PSInfo) (hab : a ≤ b) (hb : b ≤ s.length) :
    AllOk s cs [Node.chars a b pi (slice s a b)] :=
  allOk_leaf rfl hab hb rfl

theorem allOk_chars' {s cs : Str} (a b : Nat) (pi : PSInfo) (c : Str) (hab : a ≤ b) (hb : b ≤ s.length)
    (hc : c = slice s a b) : AllOk s cs [Node.chars a b pi c] :=
  allOk_leaf rfl hab hb hc

theorem AllOk.pos_le {s cs : Str} {n : Node} (h : AllOk s cs [n]) : n.pos ≤ n.posEnd := (allOk_single.mp h).1.1
theorem AllOk.end_le {s cs : Str} {n : Node} (h : AllOk s cs [n]) : n.posEnd ≤ s.length := (allOk_single.mp h).1.2.1

end Pylx
