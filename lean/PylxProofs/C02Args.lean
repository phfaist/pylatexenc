/-
  C02Args — each sub-parser the prefix lemmas go through (delimited groups, argument markers, the expression parser, the
  arguments loop, `\verb`, macro / environment / specials calls, math), run on the source shape the document grammar
  writes for it: from the runs of its recursive parts (`Ev`: for every sufficiently large amount of fuel) to the run of
  the parser and the node it returns (`*_runs`); what the collector does with the token that starts such a sub-parse
  (`dispatch_*`); the facts about child states, stop conditions and signature checks the prefix lemmas meet; and
  `Ev.parseStrict`, which turns a result for all large fuel into the result of `parseStrict`.
-/
import PylxProofs.C02Loop
import PylxProofs.C02Tok3
namespace Pylx
namespace C02
open Doc

theorem peek0 {ps : PState} {s : Str} {p : Nat} {c : Char} {rest : Str} (hd : s.drop p = c :: rest) (hc : isPySpace c = false) :
    peekImpl ps s p = peekAtChar ps s p c [] :=
  peekImpl_at_nonspace (getElem?_of_drop hd) hc

theorem kind_braceOpen_of_beq (k : TokKind) (h : (k == TokKind.braceOpen) = true) : k = .braceOpen := by
  cases k <;> first | rfl | cases h

section parsers
variable {env : Env} {keys : List Str} {m : Bool} {md : Option Str}

theorem general_of_loop_stop {f : PSFields} {stop : StopTok} {child : ChildPS} {pos : Nat} {e : LoopEnd} {t : Token}
    (htol : env.tol = false) (hl : Ev env (.loop f stop child { pos := pos }) (.loopEnd e)) (herr : e.err = none)
    (hst : e.stopTok = some t) (hsome : stop.isSome = true) :
    Ev env (.pc (.general stop true child) f pos) (.ok (listOf e.nodes (some pos) (some pos)) t.posEnd) := by
  obtain ⟨n, hn⟩ := hl
  refine Ev.of_step ⟨n, fun k hk => ?_⟩
  show parseContent env.tol (rawGeneral (run env k) stop true child f pos) = _
  unfold rawGeneral
  rw [hn k hk, htol]
  unfold retOfLoop
  simp only [herr, hst, hsome, Option.isNone_some, Bool.and_false, Bool.false_eq_true, if_false, if_true,
    movePastToken]
  rfl

theorem general_of_loop_top {f : PSFields} {e : LoopEnd} (htol : env.tol = false)
    (hl : Ev env (.loop f .none .same { pos := 0 }) (.loopEnd e)) (herr : e.err = none) (hst : e.stopTok = none) :
    Ev env (topTask f) (.ok (listOf e.nodes (some 0) (some 0)) e.pos) := by
  obtain ⟨n, hn⟩ := hl
  refine Ev.of_step ⟨n, fun k hk => ?_⟩
  show parseContent env.tol (rawGeneral (run env k) .none true .same f 0) = _
  unfold rawGeneral
  rw [hn k hk, htol]
  unfold retOfLoop
  simp only [herr, hst, StopTok.isSome, Bool.and_false, Bool.false_and, Bool.false_eq_true, if_false]
  rfl

theorem ef_eq (hn : NormOk m md) (br : Xp) :
    ({ stdF keys m md true br with enEnvs := false } : PSFields).normalize = stdF keys m md false br := by
  cases m with
  | false => cases (hn rfl); rfl
  | true => rfl

/-- `LatexDelimitedGroupParser` on `{ body }` -/
theorem group_runs (htol : env.tol = false) (hn : NormOk m md) {pos p : Nat} {rest : Str} {a b : Option Nat} {ns : List Node}
    (hd : env.s.drop pos = '{' :: rest)
    (hb : Ev env (.pc (.general (.braceClose ['}']) true (.group ['{'] (stdF keys m md true) (stdF keys m md true)))
      (stdF keys m md true) (pos + 1)) (.ok (.list a b ns) p)) :
    Ev env (.pc (.group (.auto ['{']) false false) (stdF keys m md true) pos)
      (.ok (.node (Node.group pos p (psInfo (stdF keys m md true)) ['{'] ['}'] (some ns))) p) := by
  have hps := psStd_std keys m md true none hn
  have hpk : peekImpl (mkPS (stdF keys m md true)) env.s pos = _ := (peek0 hd (by decide)).trans (peekAtChar_open hps hd)
  obtain ⟨n, hb⟩ := hb
  refine Ev.of_step ⟨n, fun k hk => ?_⟩
  show parseContent env.tol (rawGroup env (run env k) (.auto ['{']) false false (stdF keys m md true) pos) = _
  unfold rawGroup
  have hgs : groupState (.auto ['{']) (stdF keys m md true) = some (stdF keys m md true) := by
    unfold groupState
    rw [hps.go]
    rfl
  rw [hgs]
  simp only
  rw [htol, peekTok_false, hpk]
  simp only
  unfold rawGroupTok
  have hgc : groupCloser (.auto ['{']) (stdF keys m md true) = some ['}'] := by
    unfold groupCloser
    rw [hps.go]
    rfl
  rw [hgc]
  simp only [GroupDelims.opener, List.isEmpty_nil, Bool.not_true, Bool.and_false, Bool.not_false, Bool.true_and,
    beq_self_eq_true]
  rw [hb k hk]
  rfl

theorem groupState_x (ee : Bool) {o c : Char} (ho : isXDelim o = true) :
    groupState (.pair [o] [c]) (stdF keys m md ee) = some (stdF keys m md ee (some (o, c))) := by
  have ho' := (xdelim_ne ho).2.2.2.1
  unfold groupState
  have h : (stdF keys m md ee).groupDelims.contains ([o], [c]) = false := by
    show (brPairs none).contains ([o], [c]) = false
    simp [brPairs, ho']
  simp only [h]
  rfl

/-- `LatexDelimitedGroupParser` on a written delimited argument `o body c` (optional or not) -/
theorem xgroup_runs (htol : env.tol = false) (hn : NormOk m md) {o c : Char} (hx : XpOk (some (o, c))) (opt ap : Bool)
    {pos p : Nat} {rest : Str} {a b : Option Nat} {ns : List Node} (hd : env.s.drop pos = o :: rest)
    (hb : Ev env (.pc (.general (.braceClose [c]) true (.group [o] (stdF keys m md true (some (o, c))) (stdF keys m md true)))
      (stdF keys m md true (some (o, c))) (pos + 1)) (.ok (.list a b ns) p)) :
    Ev env (.pc (.group (.pair [o] [c]) opt ap) (stdF keys m md true) pos)
      (.ok (.node (Node.group pos p (psInfo (stdF keys m md true (some (o, c)))) [o] [c] (some ns))) p) := by
  have hps := psStd_std keys m md true (some (o, c)) hn
  have hpk : peekImpl (mkPS (stdF keys m md true (some (o, c)))) env.s pos = _ :=
    (peek0 hd (xdelim_ne hx.1).2.2.2.2.2).trans (peekAtChar_xopen hps hx hd)
  obtain ⟨n, hb⟩ := hb
  refine Ev.of_step ⟨n, fun k hk => ?_⟩
  show parseContent env.tol (rawGroup env (run env k) (.pair [o] [c]) opt ap (stdF keys m md true) pos) = _
  unfold rawGroup
  rw [groupState_x true hx.1]
  simp only
  rw [htol, peekTok_false, hpk]
  simp only
  unfold rawGroupTok
  simp only [groupCloser, GroupDelims.opener, List.isEmpty_nil, Bool.not_true, Bool.and_false, Bool.not_false, Bool.true_and,
    beq_self_eq_true]
  rw [hb k hk]
  rfl

theorem nextNonSpace_eq (F : Str) : nextNonSpace F = (F.dropWhile isPySpace).head? := rfl

/-- `LatexDelimitedGroupParser` on an optional delimited argument that is not there -/
theorem xgroup_absent_runs (htol : env.tol = false) (hn : NormOk m md) {o c : Char} (ho : isXDelim o = true) (ap : Bool) {pos : Nat}
    {F : Str} (hd : env.s.drop pos = F) (hok : absentFollowOk F = true)
    (habs : (if ap then nextNonSpace F != some o else F.head? != some o) = true) :
    Ev env (.pc (.group (.pair [o] [c]) true ap) (stdF keys m md true) pos) (.ok .none pos) := by
  have hps := psStd_std keys m md true (some (o, c)) hn
  refine Ev.of_const (fun rec => ?_)
  show parseContent env.tol (rawGroup env rec (.pair [o] [c]) true ap (stdF keys m md true) pos) = _
  unfold rawGroup
  rw [groupState_x true ho]
  simp only
  rw [htol, peekTok_false]
  rcases peek_follow hps hd hok with ⟨_, h⟩ | ⟨c0, r, t, hF, h, hta⟩
  · rw [h]; rfl
  · rw [h]
    simp only
    unfold rawGroupTok
    have hcond : (!(!ap && !t.pre.isEmpty) && t.kind == TokKind.braceOpen && t.arg == GroupDelims.opener (.pair [o] [c])) = false := by
      cases hc : (!(!ap && !t.pre.isEmpty) && t.kind == TokKind.braceOpen && t.arg == GroupDelims.opener (.pair [o] [c])) with
      | false => rfl
      | true =>
        exfalso
        simp only [Bool.and_eq_true, GroupDelims.opener] at hc
        obtain ⟨⟨h1, hk⟩, ha⟩ := hc
        have hk' := kind_braceOpen_of_beq _ hk
        have ha' : t.arg = [o] := by simpa using ha
        have hc' : c0 = o := by
          have := hta.brace hk'
          rw [ha'] at this
          simpa using this.symm
        subst hc'
        cases ap with
        | true =>
          simp only [if_true, nextNonSpace_eq, hF] at habs
          simp at habs
        | false =>
          simp only [Bool.not_false, Bool.true_and, Bool.not_eq_eq_eq_not, Bool.not_true, Bool.not_eq_false] at h1
          have hpre : F.takeWhile isPySpace = [] := by
            have := hta.pre
            rw [← this]
            exact List.isEmpty_iff.mp h1
          have hFF : F = c0 :: r := by
            have := takeWhile_append_dropWhile isPySpace F
            rw [hpre, hF] at this
            exact this.symm
          simp only [Bool.false_eq_true, if_false, hFF] at habs
          simp at habs
    rw [hcond]
    simp only [Bool.false_eq_true, if_false, if_true]
    have : moveToToken t true = pos := by
      unfold moveToToken
      simp only [if_true]
      rw [hta.pos, hta.pre]
      omega
    rw [this]
    rfl

theorem marker_star_runs (htol : env.tol = false) (hn : NormOk m md) (hk : keysCore keys = true) {pos : Nat} {rest : Str}
    (hd : env.s.drop pos = '*' :: rest) :
    Ev env (.pc (.marker '*' false true) (stdF keys m md true) pos)
      (.ok (.node (Node.chars pos (pos + 1) (psInfo (stdF keys m md true)) ['*'])) (pos + 1)) := by
  have hps := psStd_std keys m md true none hn
  have hpk : peekImpl (mkPS (stdF keys m md true)) env.s pos = _ := (peek0 hd (by decide)).trans (peekAtChar_star hps hk hd)
  refine Ev.of_const (fun rec => ?_)
  show parseContent env.tol (rawMarker env '*' false true (stdF keys m md true) pos) = _
  unfold rawMarker
  rw [htol, peekTok_false, hpk]
  rfl

theorem marker_absent_runs (htol : env.tol = false) (hn : NormOk m md) (c : Char) (fl : Bool) {pos : Nat} {F : Str}
    (hd : env.s.drop pos = F) (hok : absentFollowOk F = true) (habs : (nextNonSpace F != some c) = true) :
    Ev env (.pc (.marker c fl true) (stdF keys m md true) pos) (.ok .none pos) := by
  have hps := psStd_std keys m md true none hn
  refine Ev.of_const (fun rec => ?_)
  show parseContent env.tol (rawMarker env c fl true (stdF keys m md true) pos) = _
  unfold rawMarker
  rw [htol, peekTok_false]
  rcases peek_follow hps hd hok with ⟨_, h⟩ | ⟨c0, r, t, hF, h, hta⟩
  · rw [h]; rfl
  · rw [h]
    simp only [Bool.not_true, Bool.and_false, Bool.false_eq_true, if_false]
    have hcond : ((t.kind == TokKind.char || t.kind == TokKind.specials) && t.arg == [c]) = false := by
      cases hc : ((t.kind == TokKind.char || t.kind == TokKind.specials) && t.arg == [c]) with
      | false => rfl
      | true =>
        exfalso
        simp only [Bool.and_eq_true, Bool.or_eq_true] at hc
        obtain ⟨hk, ha⟩ := hc
        have ha' : t.arg = [c] := by simpa using ha
        have hk' : t.kind = .char ∨ t.kind = .specials := by
          rcases hk with hk | hk
          · left; revert hk; cases t.kind <;> intro hk <;> first | rfl | cases hk
          · right; revert hk; cases t.kind <;> intro hk <;> first | rfl | cases hk
        have hc' := hta.single hk' c ha'
        subst hc'
        simp only [nextNonSpace_eq, hF] at habs
        simp at habs
    rw [hcond]
    simp only [Bool.false_eq_true, if_false]
    split <;> rfl

theorem peekAtChar_marker {ps : PState} {ee m' : Bool} {ex : Option (Str × Bool)} (hps : PSStd keys ee m' ex none ps)
    {s : Str} {p : Nat} {c : Char} {rest pre : Str} (hd : s.drop p = c :: rest) (hm : markerOk keys c rest = true) :
    ∃ t, peekAtChar ps s p c pre = .tok t ∧ (t.kind = .char ∨ t.kind = .specials) ∧ t.arg = [c] ∧ t.pos = p ∧
      t.posEnd = p + 1 ∧ t.pre = pre := by
  unfold markerOk at hm
  simp only [Bool.and_eq_true, Bool.not_eq_eq_eq_not, Bool.not_true, bne_iff_ne, ne_eq] at hm
  obtain ⟨⟨⟨⟨⟨⟨_, h2⟩, h3⟩, h4⟩, h5⟩, h1⟩, hts⟩ := hm
  rw [peekAtChar_toGroups hps hd h1 h2 h3]
  unfold peekGroups
  rw [hps.eg, hps.go, hps.gc]
  have e5 : (brPairs none).any (fun d => d.1 == [c]) = false := by simp [brPairs, Ne.symm h4]
  have e6 : ((brPairs none).map (·.2)).any (fun d => d == [c]) = false := by simp [brPairs, Ne.symm h5]
  simp only [e5, e6, if_true, Bool.false_eq_true, if_false]
  unfold peekSpecialsOrChar
  rw [hps.hc, hps.es, hps.sp]
  simp only [Bool.and_self, if_true]
  rw [testSpecials_drop, hd]
  cases hh : testSpecials keys (c :: rest) 0 with
  | none =>
    simp only
    unfold charToken
    rw [hps.fb]
    exact ⟨_, by simp; rfl, Or.inl rfl, rfl, rfl, rfl, rfl⟩
  | some k =>
    rw [hh] at hts
    have hk : k = [c] := by simpa using hts
    subst hk
    exact ⟨_, rfl, Or.inr rfl, rfl, rfl, rfl, rfl⟩

theorem marker_runs (htol : env.tol = false) (hn : NormOk m md) {c : Char} (fl : Bool) {pos : Nat} {rest : Str}
    (hd : env.s.drop pos = c :: rest) (hm : markerOk keys c rest = true) :
    Ev env (.pc (.marker c fl true) (stdF keys m md true) pos)
      (.ok (if fl then .list (some pos) (some (pos + 1)) [Node.chars pos (pos + 1) (psInfo (stdF keys m md true)) [c]]
            else .node (Node.chars pos (pos + 1) (psInfo (stdF keys m md true)) [c])) (pos + 1)) := by
  have hps := psStd_std keys m md true none hn
  have hsp : isPySpace c = false := by
    unfold markerOk at hm
    simp only [Bool.and_eq_true, Bool.not_eq_eq_eq_not, Bool.not_true] at hm
    exact hm.1.1.1.1.1.1
  obtain ⟨t, ht, hkind, harg, hpos, hpe, hpre⟩ := peekAtChar_marker (pre := []) hps hd hm
  have hpk : peekImpl (mkPS (stdF keys m md true)) env.s pos = .tok t := (peek0 hd hsp).trans ht
  refine Ev.of_const (fun rec => ?_)
  show parseContent env.tol (rawMarker env c fl true (stdF keys m md true) pos) = _
  unfold rawMarker
  rw [htol, peekTok_false, hpk]
  simp only [Bool.not_true, Bool.and_false, Bool.false_eq_true, if_false]
  have hcond : ((t.kind == TokKind.char || t.kind == TokKind.specials) && t.arg == [c]) = true := by
    rw [harg]
    rcases hkind with h | h
    · rw [h]; simp; exact Or.inl rfl
    · rw [h]; simp; exact Or.inr rfl
  rw [hcond]
  simp only [if_true]
  rw [hpos, hpe]
  cases fl <;> rfl

theorem expression_of_expr {K : PSFields} {pos : Nat} {r : Ret}
    (h : Ev env (.expr true [] K pos) r) : Ev env (.pc (.expression true) K pos) (parseContent env.tol (.ret r)) := by
  obtain ⟨n, h⟩ := h
  refine Ev.of_step ⟨n, fun k hk => ?_⟩
  show parseContent env.tol (.ret (run env k (.expr true [] K pos))) = _
  rw [h k hk]

theorem expr_runs (htol : env.tol = false) (hn : NormOk m md) {pos p : Nat} {rest : Str} {g : Node}
    (hd : env.s.drop pos = '{' :: rest)
    (hg : Ev env (.pc (.group (.auto ['{']) false false) (stdF keys m md true) pos) (.ok (.node g) p)) :
    Ev env (.pc (.expression true) (stdF keys m md true) pos) (.ok (.node g) p) := by
  have hps := psStd_std keys m md false none hn
  have hpk : peekImpl (mkPS (stdF keys m md false)) env.s pos = _ := (peek0 hd (by decide)).trans (peekAtChar_open hps hd)
  obtain ⟨n, hg⟩ := hg
  have h1 : Ev env (.expr true [] (stdF keys m md true) pos) (.ok (.node g) p) := by
    refine Ev.of_step ⟨n, fun k hk => ?_⟩
    show exprStep env (run env k) true [] (stdF keys m md true) pos = _
    unfold exprStep
    simp only
    rw [ef_eq hn none, htol, peekTok_false, hpk]
    simp only
    unfold exprTok
    simp only [List.isEmpty_nil, Bool.not_true, Bool.false_eq_true, if_false]
    have e1 : (TokKind.braceOpen == TokKind.macro) = false := rfl
    have e2 : (TokKind.braceOpen == TokKind.specials) = false := rfl
    rw [e1, e2]
    simp only [Bool.false_eq_true, if_false]
    unfold exprOnTok
    simp only
    rw [hg k hk]
    rfl
  exact expression_of_expr h1

theorem expr_char_runs (htol : env.tol = false) (hn : NormOk m md) {pos : Nat} {c : Char} {rest : Str}
    (hd : env.s.drop pos = c :: rest) (hsp : isPySpace c = false)
    (htok : peekAtChar (mkPS (stdF keys m md false)) env.s pos c [] =
      .tok { kind := .char, arg := [c], pos := pos, posEnd := pos + 1, pre := [] }) :
    Ev env (.pc (.expression true) (stdF keys m md true) pos)
      (.ok (.node (Node.chars pos (pos + 1) (psInfo (stdF keys m md true)) [c])) (pos + 1)) := by
  have hpk : peekImpl (mkPS (stdF keys m md false)) env.s pos = _ := (peek0 hd hsp).trans htok
  have h1 : Ev env (.expr true [] (stdF keys m md true) pos)
      (.ok (.node (Node.chars pos (pos + 1) (psInfo (stdF keys m md true)) [c])) (pos + 1)) := by
    refine Ev.of_const (fun rec => ?_)
    show exprStep env rec true [] (stdF keys m md true) pos = _
    unfold exprStep
    simp only
    rw [ef_eq hn none, htol, peekTok_false, hpk]
    simp only
    unfold exprTok
    simp only [List.isEmpty_nil, Bool.not_true, Bool.false_eq_true, if_false]
    have e1 : (TokKind.char == TokKind.macro) = false := rfl
    have e2 : (TokKind.char == TokKind.specials) = false := rfl
    rw [e1, e2]
    simp only [Bool.false_eq_true, if_false]
    unfold exprOnTok
    rfl
  exact expression_of_expr h1

/-- result of `argsLoop` for every sufficiently large amount of fuel -/
def ArgsEv (env : Env) (K : PSFields) (sig : List ArgSpec) (acc : List Arg) (pos : Nat) (r : Ret) : Prop :=
  ∃ N, ∀ k, N ≤ k → argsLoop env (run env k) K sig acc pos = r

theorem argsEv_nil (K : PSFields) (acc : List Arg) (pos : Nat) : ArgsEv env K [] acc pos (.ok (.args none none acc) pos) :=
  ⟨0, fun _ _ => rfl⟩

theorem argsEv_cons (htol : env.tol = false) {K : PSFields} {a : ArgSpec} {rest : List ArgSpec} {acc : List Arg} {pos p : Nat}
    {res : Res} {R : Ret} (hpk : ∀ w ep t r, peekImpl (mkPS K) env.s pos ≠ .err w ep t r)
    (harg : Ev env (.pc (argParser a.kind) (applyDelta K a.delta) pos) (.ok res p))
    (hrest : ArgsEv env K rest (acc ++ [resToArg res]) p R) : ArgsEv env K (a :: rest) acc pos R := by
  obtain ⟨n1, h1⟩ := harg
  obtain ⟨n2, h2⟩ := hrest
  refine ⟨max n1 n2, fun k hk => ?_⟩
  rw [argsLoop]
  rw [htol, peekTok_false]
  split
  · rename_i heq
    exact absurd heq (hpk _ _ _ _)
  · rw [h1 k (by omega)]
    exact h2 k (by omega)

theorem applyDelta_std {keys : List Str} (m : Bool) (md : Option Str) (d : Delta) :
    ∃ md', applyDelta (stdF keys m md true) d = stdF keys (deltaMath m d) md' true ∧ (NormOk m md → NormOk (deltaMath m d) md') := by
  cases d with
  | none => exact ⟨md, rfl, fun h => h⟩
  | enterMath => exact ⟨none, rfl, fun _ _ => rfl⟩
  | leaveMath => exact ⟨none, rfl, fun _ _ => rfl⟩

/-- one slot read and the others behind it: the text in front of the loop is read without a tokenizer error
    (`absentFollowOk`), the parser of the slot's kind `k`, in the slot's state `K'`, returns `res` up to `p`, the loop
    reads the other slots from there (their arguments `al`, with `Q al`) -/
theorem args_cons {P Q : List Arg → Prop} (htol : env.tol = false) (hn : NormOk m md) {sp : ArgSpec} {sig : List ArgSpec}
    {acc : List Arg} {pos p : Nat} {res : Res} {F rest : Str} {k : ArgKind} {K' : PSFields} (hd : env.s.drop pos = F)
    (hfol : absentFollowOk F = true) (hk : sp.kind = k) (hK : applyDelta (stdF keys m md true) sp.delta = K')
    (harg : Ev env (.pc (argParser k) K' pos) (.ok res p)) (hp : pos ≤ p)
    (hrest : ∃ al pA, ArgsEv env (stdF keys m md true) sig (acc ++ [resToArg res]) p
      (.ok (.args none none (acc ++ [resToArg res] ++ al)) pA) ∧ p ≤ pA ∧ env.s.drop pA = rest ∧ Q al)
    (hPQ : ∀ al, Q al → P (resToArg res :: al)) :
    ∃ al pA, ArgsEv env (stdF keys m md true) (sp :: sig) acc pos (.ok (.args none none (acc ++ al)) pA) ∧ pos ≤ pA ∧
      env.s.drop pA = rest ∧ P al := by
  obtain ⟨al, pA, hAE, hpA, hdA, hQ⟩ := hrest
  refine ⟨resToArg res :: al, pA, ?_, Nat.le_trans hp hpA, hdA, hPQ al hQ⟩
  have e : acc ++ resToArg res :: al = acc ++ [resToArg res] ++ al := by simp
  rw [e]
  subst hk hK
  exact argsEv_cons htol (peek_follow_noerr (psStd_std keys m md true none hn) hd hfol) harg hAE

/-- an optional slot (`o`, `s`, `t<c>`, `d<c1c2>`) left out in front of `F`, which does not show the slot's opener -/
theorem slot_absent (htol : env.tol = false) (hn : NormOk m md) {sp : ArgSpec} {pos : Nat} {F : Str} (hd : env.s.drop pos = F)
    (hkind : (match sp.kind with | .o _ => true | .s => true | .t _ => true | .d o _ => isXDelim o | _ => false) = true)
    (habs : absentOk sp.kind F = true) (hfol : absentFollowOk F = true) :
    Ev env (.pc (argParser sp.kind) (applyDelta (stdF keys m md true) sp.delta) pos) (.ok .none pos) := by
  obtain ⟨md', hK', hn'⟩ := applyDelta_std (keys := keys) m md sp.delta
  rw [hK']
  cases hkk : sp.kind with
  | o ap =>
    rw [hkk] at habs
    refine xgroup_absent_runs htol (hn' hn) (o := '[') (c := ']') (by decide) ap hd hfol ?_
    cases ap <;> simpa [absentOk, slotOpener] using habs
  | s =>
    rw [hkk] at habs
    exact marker_absent_runs htol (hn' hn) '*' false hd hfol (by simpa [absentOk, slotOpener] using habs)
  | t c =>
    rw [hkk] at habs
    exact marker_absent_runs htol (hn' hn) c true hd hfol (by simpa [absentOk, slotOpener] using habs)
  | d o c =>
    rw [hkk] at habs hkind
    exact xgroup_absent_runs htol (hn' hn) (o := o) (c := c) hkind true hd hfol (by simpa [absentOk, slotOpener] using habs)
  | m => rw [hkk] at hkind; cases hkind
  | m0 => rw [hkk] at hkind; cases hkind
  | r _ _ => rw [hkk] at hkind; cases hkind
  | v => rw [hkk] at hkind; cases hkind
  | vd _ _ => rw [hkk] at hkind; cases hkind

theorem arguments_runs {K : PSFields} {sig : List ArgSpec} {pos p : Nat} {al : List Arg}
    (h : ArgsEv env K sig [] pos (.ok (.args none none al) p)) :
    Ev env (.pc (.arguments (.std sig)) K pos) (.ok (.args none none al) p) := by
  obtain ⟨n, h⟩ := h
  refine Ev.of_step ⟨n, fun k hk => ?_⟩
  show parseContent env.tol (.ret (argsLoop env (run env k) K sig [] pos)) = _
  rw [h k hk]
  rfl

theorem macroCall_runs {K : PSFields} {t : Token} {a : ArgsP} {pos p : Nat} {x y : Option Nat} {al : List Arg}
    (h : Ev env (.pc (.arguments a) K pos) (.ok (.args x y al) p)) :
    Ev env (.pc (.macroCall t a) K pos) (.ok (.node (Node.mac t.pos p (psInfo K) t.arg t.post (some al))) p) := by
  obtain ⟨n, h⟩ := h
  refine Ev.of_step ⟨n, fun k hk => ?_⟩
  show parseContent env.tol (rawCall (run env k) _ a K pos) = _
  unfold rawCall
  rw [h k hk]
  rfl

theorem legacyVerb_runs (K : PSFields) {pos : Nat} {d : Char} {text rest : Str}
    (hd : env.s.drop pos = d :: (text ++ d :: rest)) (hsp : isPySpace d = false) (hnc : text.contains d = false) :
    Ev env (.pc (.arguments .legacyVerb) K pos)
      (.ok (.args (some (pos + 1)) (some (pos + 1 + text.length + 1))
        [.node (Node.chars (pos + 1) (pos + 1 + text.length) (psInfo K) text)]) (pos + 1 + text.length + 1)) := by
  refine Ev.of_const (fun rec => ?_)
  show parseContent env.tol (rawLegacyVerb env K pos) = _
  unfold rawLegacyVerb
  have hsr : spaceRun env.s pos = [] := spaceRun_of_drop (w := []) hd rfl (by simp [headIs, hsp])
  simp only [hsr, List.length_nil, Nat.add_zero]
  rw [getElem?_of_drop hd]
  simp only
  have hd1 : env.s.drop (pos + 1) = text ++ d :: rest := drop_succ_of_drop hd
  have hfind : findCharFrom env.s d (pos + 1) = some (pos + 1 + text.length) := by
    unfold findCharFrom
    rw [hd1, findIdx_char d text _ hnc]
  rw [hfind]
  simp only
  have hsl : slice env.s (pos + 1) (pos + 1 + text.length) = text := by
    unfold slice
    rw [hd1]
    have : pos + 1 + text.length - (pos + 1) = text.length := by omega
    rw [this, List.take_left']
    rfl
  rw [hsl]
  rfl

theorem specialsCall_runs {K : PSFields} {t : Token} {a : ArgsP} {pos p : Nat} {al : List Arg}
    (h : Ev env (.pc (.arguments a) K pos) (.ok (.args none none al) p)) :
    Ev env (.pc (.specialsCall t a) K pos) (.ok (.node (Node.specials t.pos p (psInfo K) t.arg (some al))) p) := by
  obtain ⟨n, h⟩ := h
  refine Ev.of_step ⟨n, fun k hk => ?_⟩
  show parseContent env.tol (rawCall (run env k) _ a K pos) = _
  unfold rawCall
  rw [h k hk]
  rfl

theorem envBody_runs {K : PSFields} {name : Str} {pos p : Nat} {a b : Option Nat} {ns : List Node}
    (h : Ev env (.pc (.general (.endEnv name) true .same) K pos) (.ok (.list a b ns) p)) :
    Ev env (.pc (.envBody name) K pos) (.ok (.list a b ns) p) := by
  obtain ⟨n, h⟩ := h
  refine Ev.of_step ⟨n, fun k hk => ?_⟩
  show parseContent env.tol (rawEnvBody (run env k) name K pos) = _
  unfold rawEnvBody
  rw [h k hk]
  rfl

theorem envCall_runs {K : PSFields} {t : Token} {a : ArgsP} {bm : Bool} {pos pA p : Nat} {x y : Option Nat} {al : List Arg}
    {a' b' : Option Nat} {ns : List Node}
    (hargs : Ev env (.pc (.arguments a) K pos) (.ok (.args x y al) pA))
    (hbody : Ev env (.pc (.envBody t.arg) (if bm then applyDelta K .enterMath else K) pA) (.ok (.list a' b' ns) p)) :
    Ev env (.pc (.envCall t a bm) K pos) (.ok (.node (Node.env t.pos p (psInfo K) t.arg (some al) (some ns))) p) := by
  obtain ⟨n1, h1⟩ := hargs
  obtain ⟨n2, h2⟩ := hbody
  refine Ev.of_step ⟨max n1 n2, fun k hk => ?_⟩
  show parseContent env.tol (rawEnvCall (run env k) t a bm K pos) = _
  unfold rawEnvCall
  rw [h1 k (by omega)]
  simp only [bindOk]
  rw [h2 k (by omega)]
  rfl

theorem beginStr_append (name Y : Str) : beginStr name ++ Y = '\\' :: (envWordStr true ++ '{' :: (name ++ '}' :: Y)) := by
  show ("\\begin{".toList ++ name ++ ['}']) ++ Y = _
  rw [List.append_assoc, List.append_assoc]
  rfl

theorem endStr_append (name Y : Str) : endStr name ++ Y = '\\' :: (envWordStr false ++ '{' :: (name ++ '}' :: Y)) := by
  show ("\\end{".toList ++ name ++ ['}']) ++ Y = _
  rw [List.append_assoc, List.append_assoc]
  rfl

theorem beginStr_length (name : Str) : (beginStr name).length = 1 + envWordLen true + 1 + name.length + 1 := by
  show ("\\begin{".toList ++ name ++ ['}']).length = _
  simp only [List.length_append, List.length_cons, List.length_nil]
  show 7 + name.length + 1 = 1 + 5 + 1 + name.length + 1
  omega

theorem endStr_length (name : Str) : (endStr name).length = 1 + envWordLen false + 1 + name.length + 1 := by
  show ("\\end{".toList ++ name ++ ['}']).length = _
  simp only [List.length_append, List.length_cons, List.length_nil]
  show 5 + name.length + 1 = 1 + 3 + 1 + name.length + 1
  omega

section dispatch
variable {L K : PSFields} {stop : StopTok} {child : ChildPS} {tk : Token} {nd : Node} {p : Nat}

theorem dispatch_macro {a : ArgsP} (hkind : tk.kind = .macro) (hspec : env.ctx.macroSpec tk.arg = some a)
    (hch : child.get L tk = K) (hcall : Ev env (.pc (.macroCall tk a) K tk.posEnd) (.ok (.node nd) p)) :
    ∀ st0 : LoopSt, st0.pos = tk.posEnd → ∃ N, ∀ k, N ≤ k →
      loopDispatch env (run env k) L stop child st0 tk =
        run env k (.loop L stop child { st0 with pos := p, acc := st0.acc ++ [nd] }) := by
  intro st0 hst0
  obtain ⟨N, hN⟩ := hcall
  refine ⟨N, fun k hk => ?_⟩
  unfold loopDispatch
  rw [hkind]
  simp only
  rw [hspec]
  simp only
  rw [hch, hst0, hN k hk]
  rfl

theorem dispatch_specials {a : ArgsP} (hkind : tk.kind = .specials) (hspec : lookupFirst tk.arg env.ctx.specials = some a)
    (hch : child.get L tk = K) (hcall : Ev env (.pc (.specialsCall tk a) K tk.posEnd) (.ok (.node nd) p)) :
    ∀ st0 : LoopSt, st0.pos = tk.posEnd → ∃ N, ∀ k, N ≤ k →
      loopDispatch env (run env k) L stop child st0 tk =
        run env k (.loop L stop child { st0 with pos := p, acc := st0.acc ++ [nd] }) := by
  intro st0 hst0
  obtain ⟨N, hN⟩ := hcall
  refine ⟨N, fun k hk => ?_⟩
  unfold loopDispatch
  rw [hkind]
  simp only
  rw [hspec]
  simp only
  rw [hch, hst0, hN k hk]
  rfl

theorem dispatch_env {ab : ArgsP × Bool} (hkind : tk.kind = .beginEnv) (hspec : env.ctx.envSpec tk.arg = some ab)
    (hch : child.get L tk = K) (hcall : Ev env (.pc (.envCall tk ab.1 ab.2) K tk.posEnd) (.ok (.node nd) p)) :
    ∀ st0 : LoopSt, st0.pos = tk.posEnd → ∃ N, ∀ k, N ≤ k →
      loopDispatch env (run env k) L stop child st0 tk =
        run env k (.loop L stop child { st0 with pos := p, acc := st0.acc ++ [nd] }) := by
  intro st0 hst0
  obtain ⟨N, hN⟩ := hcall
  refine ⟨N, fun k hk => ?_⟩
  unfold loopDispatch
  rw [hkind]
  simp only
  rw [hspec]
  simp only
  rw [hch, hst0, hN k hk]
  rfl

theorem dispatch_group (hkind : tk.kind = .braceOpen) (hch : child.get L tk = K)
    (hcall : Ev env (.pc (.group (.auto tk.arg) false false) K tk.pos) (.ok (.node nd) p)) :
    ∀ st0 : LoopSt, st0.pos = tk.posEnd → ∃ N, ∀ k, N ≤ k →
      loopDispatch env (run env k) L stop child st0 tk =
        run env k (.loop L stop child { st0 with pos := p, acc := st0.acc ++ [nd] }) := by
  intro st0 _
  obtain ⟨N, hN⟩ := hcall
  refine ⟨N, fun k hk => ?_⟩
  unfold loopDispatch
  rw [hkind]
  simp only
  rw [hch, hN k hk]
  rfl

theorem dispatch_math (hkind : tk.kind = .mathInline ∨ tk.kind = .mathDisplay) (hch : child.get L tk = K)
    (hopen : (mkPS L).t.mathByOpen.any (fun d => d.1 == tk.arg) = true)
    (hcall : Ev env (.pc (.math tk.arg) K tk.pos) (.ok (.node nd) p)) :
    ∀ st0 : LoopSt, st0.pos = tk.posEnd → ∃ N, ∀ k, N ≤ k →
      loopDispatch env (run env k) L stop child st0 tk =
        run env k (.loop L stop child { st0 with pos := p, acc := st0.acc ++ [nd] }) := by
  intro st0 _
  obtain ⟨N, hN⟩ := hcall
  refine ⟨N, fun k hk => ?_⟩
  unfold loopDispatch
  rcases hkind with hkind | hkind
  · rw [hkind]
    simp only
    rw [hopen]
    simp only [if_true]
    rw [hch, hN k hk]
    rfl
  · rw [hkind]
    simp only
    rw [hopen]
    simp only [if_true]
    rw [hch, hN k hk]
    rfl

theorem dispatch_comment (hkind : tk.kind = .comment) :
    ∀ st0 : LoopSt, st0.pos = tk.posEnd → ∃ N, ∀ k, N ≤ k →
      loopDispatch env (run env k) L stop child st0 tk =
        run env k (.loop L stop child { st0 with pos := tk.posEnd, acc := st0.acc ++ [Node.comment tk.pos tk.posEnd (psInfo L) tk.arg tk.post] }) := by
  intro st0 hst0
  refine ⟨0, fun k _ => ?_⟩
  unfold loopDispatch
  rw [hkind]
  simp only
  rw [← hst0]

end dispatch

theorem mathFields_std (k : FKind) :
    mathFields (stdF keys false none true) k.opener = stdF keys true (some k.opener) true := rfl

theorem stdExpect_opener (k : FKind) : stdExpect true (some k.opener) = some (k.closer, k.display) := by
  cases k <;> rfl

theorem normOk_true (md : Option Str) : NormOk true md := fun h => by cases h

/-- `LatexMathParser` on `opener body closer` -/
theorem math_runs (htol : env.tol = false) (k : FKind) {pos p : Nat} {rest : Str} {a b : Option Nat} {ns : List Node}
    (hd : env.s.drop pos = k.opener ++ rest) (hdollar : k = .dollar → headIs (· == '$') rest = false)
    (hb : Ev env (.pc (.general (.mathClose k.display k.closer) true .same) (stdF keys true (some k.opener) true)
      (pos + k.opener.length)) (.ok (.list a b ns) p)) :
    Ev env (.pc (.math k.opener) (stdF keys false none true) pos)
      (.ok (.node (Node.math pos p (psInfo (stdF keys false none true)) k.display k.opener k.closer (some ns))) p) := by
  have hps := psStd_std keys false none true none (fun _ => rfl)
  obtain ⟨c, r0, hc⟩ : ∃ c r0, k.opener = c :: r0 := by cases k <;> exact ⟨_, _, rfl⟩
  have hcs : isPySpace c = false := by cases k <;> (cases hc; decide)
  have hd' : env.s.drop pos = c :: (r0 ++ rest) := by rw [hd, hc]; rfl
  have hpk : peekImpl (mkPS (stdF keys false none true)) env.s pos = .tok (mathTok pos [] k.opener k.display) :=
    (peek0 hd' hcs).trans (peekAtChar_mathOpen hps k hd hdollar (by rw [hc]; rfl))
  obtain ⟨n, hb⟩ := hb
  refine Ev.of_step ⟨n, fun j hj => ?_⟩
  show parseContent env.tol (rawMath env (run env j) k.opener (stdF keys false none true) pos) = _
  unfold rawMath
  rw [htol, peekTok_false, hpk]
  simp only
  unfold rawMathTok
  have hex : (mkPS (mathFields (stdF keys false none true) (mathTok pos [] k.opener k.display).arg)).t.expectClose
      = some (k.closer, k.display) := by
    show (mkPS (mathFields (stdF keys false none true) k.opener)).t.expectClose = _
    rw [mathFields_std, (psStd_std keys true (some k.opener) true none (normOk_true _)).expect, stdExpect_opener]
  have hkd : ((mathTok pos [] k.opener k.display).kind == TokKind.mathDisplay) = k.display := by cases k <;> rfl
  have hcond : ((mathTok pos [] k.opener k.display).pre.isEmpty &&
      ((mathTok pos [] k.opener k.display).kind == TokKind.mathInline || (mathTok pos [] k.opener k.display).kind == TokKind.mathDisplay) &&
      (mathTok pos [] k.opener k.display).arg == k.opener) = true := by
    cases k <;> rfl
  rw [hcond, hex]
  simp only [if_true]
  rw [hkd]
  have e1 : (mathTok pos [] k.opener k.display).arg = k.opener := rfl
  have e2 : (mathTok pos [] k.opener k.display).posEnd = pos + k.opener.length := rfl
  have e3 : (mathTok pos [] k.opener k.display).pos = pos := rfl
  rw [e1, e2, e3, mathFields_std, hb j hj]
  rfl

end parsers

theorem child_group (o : Str) (f : PSFields) (t : Token) : (ChildPS.group o f f).get f t = f := by
  unfold ChildPS.get
  simp

theorem child_br (o : Char) (g K : PSFields) (t : Token) (ho : o ≠ '{') (h : t.kind = .braceOpen → t.arg = ['{']) :
    (ChildPS.group [o] g K).get g t = K := by
  show (if (t.kind == TokKind.braceOpen && t.arg == [o]) = true then g else K) = K
  have : (t.kind == TokKind.braceOpen && t.arg == [o]) = false := by
    cases hk : (t.kind == TokKind.braceOpen) with
    | false => rfl
    | true =>
      have hk' : t.kind = .braceOpen := by
        revert hk; cases t.kind <;> intro hk <;> first | rfl | cases hk
      rw [h hk']
      simp [Ne.symm ho]
  rw [this]
  rfl

theorem stop_brace_math (c : Str) (t : Token) (h : t.kind = .mathInline ∨ t.kind = .mathDisplay) :
    (StopTok.braceClose c).test t = false := by
  rcases h with h | h <;> (simp only [StopTok.test, h]; rfl)

theorem stop_endEnv_math (n : Str) (t : Token) (h : t.kind = .mathInline ∨ t.kind = .mathDisplay) :
    (StopTok.endEnv n).test t = false := by
  rcases h with h | h <;> (simp only [StopTok.test, h]; rfl)

theorem followOk_of_head {c : Char} {r : Str} (hc : isPySpace c = false) (hc2 : c ≠ '\\') : absentFollowOk (c :: r) = true := by
  unfold absentFollowOk
  simp only [List.takeWhile_cons, List.dropWhile_cons, hc, Bool.false_eq_true, if_false]
  have : escSafe (c :: r) = true := by
    unfold escSafe
    split
    · rename_i h; cases h; exact absurd rfl hc2
    · rfl
  rw [this]
  rfl

theorem envBodyF_eq {keys : List Str} {m : Bool} {md : Option Str} (bm : Bool) :
    (if bm then applyDelta (stdF keys m md true) .enterMath else stdF keys m md true) =
      stdF keys (m || bm) (if bm then none else md) true := by
  cases bm with
  | true => cases m <;> rfl
  | false => cases m <;> rfl

theorem normOk_envBody {m : Bool} {md : Option Str} (hn : NormOk m md) (bm : Bool) : NormOk (m || bm) (if bm then none else md) := by
  cases bm with
  | true => intro _; rfl
  | false =>
    intro h
    have : m = false := by cases m <;> first | rfl | cases h
    simpa using hn this

theorem core_head_not_dollar (ctx : Ctx) (after : Str) : ∀ (b : List Item), coreItems ctx true after b = true →
    ∀ rest, isWs (unparseItems b) = false → headIs (· == '$') (unparseItems b ++ rest) = false
  | [], _, _, h => by simp [unparseItems, isWs] at h
  | .T t :: tl, hc, rest, _ => by
    simp only [coreItems, Bool.and_eq_true, Bool.not_eq_eq_eq_not, Bool.not_true] at hc
    cases t with
    | nil => simp at hc
    | cons c t =>
      have := hc.1.2
      simp only [List.all_cons, Bool.and_eq_true] at this
      have := (textChar_ne this.1).1
      simp [unparseItems, headIs, this]
  | .W w :: tl, hc, rest, _ => by
    simp only [coreItems, Bool.and_eq_true, Bool.not_eq_eq_eq_not, Bool.not_true] at hc
    cases w with
    | nil => simp at hc
    | cons c w =>
      have h1 := hc.1.1.1.2
      simp only [isWs, List.all_cons, Bool.and_eq_true] at h1
      have h2 := h1.1
      have : c ≠ '$' := by intro e; subst e; revert h2; decide
      simp [unparseItems, headIs, this]
  | .G b :: tl, _, rest, _ => by simp [unparseItems, headIs]
  | .C text tail :: tl, _, rest, _ => by simp [unparseItems, headIs]
  | .M name post args :: tl, _, rest, _ => by simp [unparseItems, headIs]
  | .F k b :: tl, hc, rest, _ => by simp [coreItems] at hc
  | .P _ :: _, hc, _, _ => by simp [coreItems] at hc
  | .E _ _ _ :: _, _, rest, _ => by
    simp only [unparseItems, List.append_assoc, beginStr_append, headIs]
    rfl
  | .S name args :: tl, hc, rest, _ => by
    simp only [coreItems, Bool.and_eq_true] at hc
    cases name with
    | nil => simp [headIs] at hc
    | cons c name' =>
      have := (specialsHead_ne (c := c) (by simpa [headIs] using hc.1.1.1.2)).2.2.2.2.2.1
      simp [unparseItems, headIs, this]
  | .V _ _ :: _, _, rest, _ => by
    simp only [unparseItems]
    rfl
  | .VE _ _ _ _ :: _, hc, _, _ => by simp [coreItems] at hc

theorem argKind_t_of_beq (k : ArgKind) (c : Char) (h : (k == ArgKind.t c) = true) : k = .t c := by
  cases k with
  | t c' =>
    have : c' = c := by
      by_cases e : c' = c
      · exact e
      · exfalso
        have : (ArgKind.t c' == ArgKind.t c) = decide (c' = c) := rfl
        rw [this] at h
        simp [e] at h
    rw [this]
  | _ => cases h
theorem argKind_r_of_beq (k : ArgKind) (o c : Char) (h : (k == ArgKind.r o c) = true) : k = .r o c := by
  cases k with
  | r o' c' =>
    have : (ArgKind.r o' c' == ArgKind.r o c) = (decide (o' = o) && decide (c' = c)) := rfl
    rw [this] at h
    simp at h
    rw [h.1, h.2]
  | _ => cases h
theorem argKind_d_of_beq (k : ArgKind) (o c : Char) (h : (k == ArgKind.d o c) = true) : k = .d o c := by
  cases k with
  | d o' c' =>
    have : (ArgKind.d o' c' == ArgKind.d o c) = (decide (o' = o) && decide (c' = c)) := rfl
    rw [this] at h
    simp at h
    rw [h.1, h.2]
  | _ => cases h

theorem argKind_s_of_beq (k : ArgKind) (h : (k == ArgKind.s) = true) : k = .s := by
  cases k <;> first | rfl | cases h

theorem argKind_m_of_beq (k : ArgKind) (h : (k == ArgKind.m) = true) : k = .m := by
  cases k <;> first | rfl | cases h

theorem argKind_o_of_match {k : ArgKind} (h : (match k with | .o _ => true | _ => false) = true) : ∃ ap, k = .o ap := by
  cases k <;> first | exact ⟨_, rfl⟩ | cases h

theorem cons_of_head? {c : Char} {l : Str} (h : l.head? = some c) : ∃ r, l = c :: r := by
  cases l with
  | nil => cases h
  | cons d r =>
    simp only [List.head?_cons, Option.some.injEq] at h
    exact ⟨r, by rw [h]⟩

theorem parStart_of {x r : Str} (hw : isWs x = true) (hn : countNl x ≥ 2) (hh : x.head? = some '\n')
    (hr : headIs isPySpace r = false) : parStart (x ++ r) = true := by
  unfold parStart
  rw [takeWhile_ws hw hr]
  cases x with
  | nil => cases hh
  | cons c x =>
    simp only [List.cons_append, List.head?_cons] at hh ⊢
    simp [hh, hn]

theorem std_of_match {o : Option ArgsP} {f : List ArgSpec → Bool}
    (h : (match o with | some (.std sig) => f sig | _ => false) = true) : ∃ sig, o = some (.std sig) ∧ f sig = true := by
  cases o with
  | none => cases h
  | some a =>
    cases a with
    | std sig => exact ⟨sig, rfl, h⟩
    | legacyVerb => cases h
    | legacyVerbEnv _ _ => cases h
    | unknown => cases h

theorem coreItems_tail {ctx : Ctx} {m : Bool} {after : Str} {it : Item} {tl : List Item}
    (h : coreItems ctx m after (it :: tl) = true) : coreItems ctx m after tl = true := by
  cases it with
  | C text tail =>
    unfold coreItems at h
    simp only [Bool.and_eq_true] at h
    exact h.2
  | VE _ _ _ _ => simp [coreItems] at h
  | _ =>
    simp only [coreItems, Bool.and_eq_true] at h
    exact h.2

theorem coreArgs_tail {ctx : Ctx} {m : Bool} {rest : Str} {sp : ArgSpec} {sig : List ArgSpec} {a : ArgVal} {tl : List ArgVal}
    (h : coreArgs ctx m rest (sp :: sig) (a :: tl) = true) : coreArgs ctx m rest sig tl = true := by
  cases a with
  | verb _ _ _ => simp [coreArgs] at h
  | _ =>
    simp only [coreArgs, Bool.and_eq_true] at h
    exact h.2

theorem coreItems_M {ctx : Ctx} {m : Bool} {after name post : Str} {args : List ArgVal} {tl : List Item}
    (h : coreItems ctx m after (.M name post args :: tl) = true) :
    ∃ sig, ctx.macroSpec name = some (.std sig) ∧ coreArgs ctx m (unparseItems tl ++ after) sig args = true := by
  simp only [coreItems, Bool.and_eq_true] at h
  exact std_of_match (f := fun sig => coreArgs ctx m (unparseItems tl ++ after) sig args) h.1.2

theorem coreItems_E {ctx : Ctx} {m : Bool} {after name : Str} {args : List ArgVal} {body tl : List Item}
    (h : coreItems ctx m after (.E name args body :: tl) = true) :
    ∃ sig bm, ctx.envSpec name = some (.std sig, bm) ∧
      coreArgs ctx m (unparseItems body ++ (endStr name ++ (unparseItems tl ++ after))) sig args = true ∧
      coreItems ctx (m || bm) (endStr name ++ (unparseItems tl ++ after)) body = true := by
  simp only [coreItems, Bool.and_eq_true] at h
  have h2 := h.1.2
  cases hes : ctx.envSpec name with
  | none => rw [hes] at h2; cases h2
  | some ab =>
    rw [hes] at h2
    obtain ⟨a, bm⟩ := ab
    cases a with
    | std sig =>
      simp only [Bool.and_eq_true] at h2
      exact ⟨sig, bm, rfl, h2⟩
    | legacyVerb => cases h2
    | legacyVerbEnv _ _ => cases h2
    | unknown => cases h2

/-- the token of a macro name written, with its post-space, in front of `X`, under the condition `coreItems` puts on a
    call: a control word (not `begin` / `end`) whose post-space is followed by something that is not whitespace — or,
    without post-space, by a paragraph break —, or a control symbol -/
theorem macro_tok {keys : List Str} {m : Bool} {md : Option Str} {ee : Bool} {br : Xp} (hn : NormOk m md) {s : Str} {p : Nat}
    {name post X pre : Str}
    (hhdr : (if isControlWord name then
        name != "begin".toList && name != "end".toList && isWs post && decide (countNl post < 2) &&
        !headIs isAsciiAlpha (post ++ X) && (!headIs isPySpace X || (post.isEmpty && parStart X))
      else post.isEmpty && isControlSymbol name) = true)
    (hd : s.drop p = '\\' :: (name ++ (post ++ X))) :
    ∃ c0 name', name = c0 :: name' ∧
      peekAtChar (mkPS (stdF keys m md ee br)) s p '\\' pre =
        .tok { kind := TokKind.macro, arg := name, pos := p, posEnd := p + 1 + name.length + post.length, pre := pre,
               post := post } := by
  have hps := psStd_std keys m md ee br hn
  cases hcw : isControlWord name with
  | true =>
    rw [hcw] at hhdr
    simp only [if_true, Bool.and_eq_true, Bool.not_eq_eq_eq_not, Bool.not_true, decide_eq_true_eq,
      bne_iff_ne, ne_eq, Bool.or_eq_true] at hhdr
    obtain ⟨⟨⟨⟨⟨hnb, hnend⟩, hwsp⟩, hnlp⟩, hnext⟩, hhead⟩ := hhdr
    simp only [isControlWord, Bool.and_eq_true, Bool.not_eq_eq_eq_not, Bool.not_true] at hcw
    obtain ⟨hne, hall⟩ := hcw
    cases name with
    | nil => simp at hne
    | cons c0 name' =>
      refine ⟨c0, name', rfl, ?_⟩
      rcases hhead with hh | ⟨hpe, hpar⟩
      · exact peekAtChar_macro hps (stdExpect_cases m md) hd hall hnext hwsp hnlp hh hnb hnend
      · have hp0 : post = [] := List.isEmpty_iff.mp hpe
        subst hp0
        exact peekAtChar_macro_par hps (stdExpect_cases m md) hd hall hpar hnb hnend
  | false =>
    rw [hcw] at hhdr
    simp only [Bool.false_eq_true, if_false, Bool.and_eq_true] at hhdr
    obtain ⟨hpe, hsym⟩ := hhdr
    have hp0 : post = [] := List.isEmpty_iff.mp hpe
    subst hp0
    cases name with
    | nil => cases hsym
    | cons c0 name' =>
      cases name' with
      | cons _ _ => cases hsym
      | nil =>
        simp only [isControlSymbol, Bool.and_eq_true, Bool.not_eq_eq_eq_not, Bool.not_true, bne_iff_ne, ne_eq] at hsym
        obtain ⟨⟨⟨⟨⟨ha, _⟩, n1⟩, n2⟩, n3⟩, n4⟩ := hsym
        exact ⟨c0, [], rfl, peekAtChar_macro1 hps (stdExpect_cases m md) (by simpa using hd) ha n1 n2 n3 n4⟩

theorem delimsOk_start (ctx : Ctx) : DelimsOk (startFields ctx) := by
  show ∀ pr ∈ ([(['$'], ['$']), (['\\', '('], ['\\', ')'])] : Pairs) ++ [(['$', '$'], ['$', '$']), (['\\', '['], ['\\', ']'])],
    pr.1 ≠ [] ∧ pr.2 ≠ []
  decide

/-- what the top-level task returns for every sufficiently large amount of fuel is what `parseStrict` returns (the
    fuel `parseTop` runs with is enough, `C06_no_fuel`) -/
theorem Ev.parseStrict {ctx : Ctx} {s : Str} {r : Ret}
    (h : Ev { tol := false, ctx := ctx, s := s } (topTask (startFields ctx)) r) : parseStrict ctx s = r := by
  obtain ⟨N, hN⟩ := h
  show run { tol := false, ctx := ctx, s := s } (fuelFor s) (topTask (startFields ctx)) = r
  by_cases hle : N ≤ fuelFor s
  · exact hN _ hle
  · have hnf := C06_no_fuel { tol := false, ctx := ctx, s := s } (startFields ctx) (delimsOk_start ctx)
    have := run_mono { tol := false, ctx := ctx, s := s } (fuelFor s) N (topTask (startFields ctx)) hnf (by omega)
    rw [← this]
    exact hN N (Nat.le_refl _)

end C02
end Pylx
