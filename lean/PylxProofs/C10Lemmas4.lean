/-
  C10 — where math-mode tokens come from (for `C10_math`), and the relation on all nodes of a tree.
-/
import PylxProofs.C10Lemmas3
import PylxProofs.C05Tok
import PylxProofs.C17
namespace Pylx
namespace C10

/-! ### math tokens come from the math tables -/

theorem mathTok_kindX (p : Nat) (pre : Str) (d : Str) (disp : Bool) :
    ((mathTok p pre d disp).kind == TokKind.mathDisplay) = disp := by
  cases disp <;> rfl

/-- a math-mode token carries a delimiter of the tables together with its kind -/
def TableSrc (ps : PState) (t : Token) : Prop :=
  (t.arg, t.kind == .mathDisplay) ∈ ps.t.mathAll ∨ ps.t.expectClose = some (t.arg, t.kind == .mathDisplay)

theorem readMath_m (ps : PState) (s : Str) (p : Nat) (pre : Str) (t : Token)
    (ht : readMath ps s p pre = some t) : TableSrc ps t := by
  obtain ⟨d, disp, rfl, _, ⟨_, hec⟩ | ⟨_, hf⟩⟩ := readMath_eq_some.mp ht
  · right; rw [mathTok_kindX]; exact hec
  · left; rw [mathTok_kindX]; exact List.mem_of_find?_eq_some hf

theorem peekTok_table (tol : Bool) (ps : PState) (s : Str) (pos : Nat) (t : Token)
    (h : peekTok tol ps s pos = .tok t) (hk : t.kind = .mathInline ∨ t.kind = .mathDisplay) : TableSrc ps t := by
  obtain ⟨p, pre, hr⟩ := peekTok_readMath h hk
  exact readMath_m ps s p pre t hr

/-- in math mode a token that spells the expected closing delimiter has the kind of the open formula -/
def CloseSrc (ps : PState) (t : Token) : Prop :=
  ps.f.inMath = true → ∀ cd, ps.t.expectClose = some cd → t.arg = cd.1 → (t.kind == .mathDisplay) = cd.2

theorem readMath_close (ps : PState) (s : Str) (p : Nat) (pre : Str) (t : Token)
    (ht : readMath ps s p pre = some t) : CloseSrc ps t := by
  intro him cd hcd harg
  obtain ⟨d, disp, rfl, hsw, ⟨_, hec⟩ | ⟨hno, _⟩⟩ := readMath_eq_some.mp ht
  · rw [hcd] at hec; cases hec; exact mathTok_kindX _ _ _ _
  · have harg : d = cd.1 := harg
    rw [harg, hno him cd hcd] at hsw
    cases hsw

theorem peekTok_close (tol : Bool) (ps : PState) (s : Str) (pos : Nat) (t : Token)
    (h : peekTok tol ps s pos = .tok t) (hk : t.kind = .mathInline ∨ t.kind = .mathDisplay) : CloseSrc ps t := by
  obtain ⟨p, pre, hr⟩ := peekTok_readMath h hk
  exact readMath_close ps s p pre t hr

/-! ### the delimiter tables -/

/-- no string is both an inline and a display math delimiter -/
def DelimsDisjoint (f : PSFields) : Prop :=
  ∀ x, x ∈ flattenPairs f.inlineDelims → x ∈ flattenPairs f.displayDelims → False

/-- what `C10_math` says of a math node's delimiters: the opening delimiter is configured, with this closing
    delimiter and this kind -/
def MathCfg (f : PSFields) (dopen dclose : Str) (display : Bool) : Prop :=
  lookupLast dopen (mathTables f).2.2 = some (dclose, display)

theorem mem_flatten_fst (l : Pairs) (pr : Str × Str) (h : pr ∈ l) : pr.1 ∈ flattenPairs l := by
  unfold flattenPairs
  exact List.mem_flatMap.2 ⟨pr, h, by simp⟩

theorem mem_flatten_snd (l : Pairs) (pr : Str × Str) (h : pr ∈ l) : pr.2 ∈ flattenPairs l := by
  unfold flattenPairs
  exact List.mem_flatMap.2 ⟨pr, h, by simp⟩

/-- the list a delimiter with kind `disp` belongs to -/
def kindList (f : PSFields) (disp : Bool) : List Str :=
  if disp then flattenPairs f.displayDelims else flattenPairs f.inlineDelims

theorem byOpen_mem (f : PSFields) (d c : Str) (disp : Bool) (h : (d, (c, disp)) ∈ (mathTables f).2.2) :
    d ∈ kindList f disp ∧ c ∈ kindList f disp := by
  simp only [mathTables, List.mem_append, List.mem_map] at h
  rcases h with ⟨pr, hpr, heq⟩ | ⟨pr, hpr, heq⟩
  · cases heq
    exact ⟨mem_flatten_fst _ _ hpr, mem_flatten_snd _ _ hpr⟩
  · cases heq
    exact ⟨mem_flatten_fst _ _ hpr, mem_flatten_snd _ _ hpr⟩

theorem mathAll_mem (f : PSFields) (d : Str) (disp : Bool) (h : (d, disp) ∈ (mathTables f).2.1) :
    d ∈ kindList f disp := by
  simp only [mathTables] at h
  have h2 := mem_sortDesc _ _ h
  simp only [List.mem_append, List.mem_map] at h2
  rcases h2 with ⟨x, hx, heq⟩ | ⟨x, hx, heq⟩
  · cases heq; exact mem_dedup _ _ hx
  · cases heq; exact mem_dedup _ _ hx

theorem kindList_disjoint (f : PSFields) (hd : DelimsDisjoint f) (x : Str) (a b : Bool)
    (ha : x ∈ kindList f a) (hb : x ∈ kindList f b) : a = b := by
  cases a <;> cases b
  · rfl
  · exact absurd (hd x ha hb) id
  · exact absurd (hd x hb ha) id
  · rfl

theorem mathTables_SD {f0 f : PSFields} (h : SD f0 f) : mathTables f = mathTables f0 :=
  mathTables_congr f f0 h.1 h.2

theorem kindList_SD {f0 f : PSFields} (h : SD f0 f) (b : Bool) : kindList f b = kindList f0 b := by
  unfold kindList; rw [h.1, h.2]

theorem mkPS_mathAll (f : PSFields) : (mkPS f).t.mathAll = (mathTables f).2.1 := by
  simp only [mkPS, PState.fresh, computeTables]
  rw [mathTables_congr f.normalize f (normalize_inline f) (normalize_display f)]

theorem mkPS_expectClose (f : PSFields) :
    (mkPS f).t.expectClose = expectCloseOf f.normalize (mathTables f).2.2 := by
  simp only [mkPS, PState.fresh, computeTables]
  rw [mathTables_congr f.normalize f (normalize_inline f) (normalize_display f)]

theorem expectClose_mathFieldsX (f : PSFields) (d : Str) :
    (mkPS (mathFields f d)).t.expectClose = lookupLast d (mathTables f).2.2 := by
  rw [mkPS_expectClose]
  have h : mathTables (mathFields f d) = mathTables f :=
    mathTables_congr _ _ (by unfold mathFields; rw [normalize_inline]) (by unfold mathFields; rw [normalize_display])
  rw [h]
  simp [expectCloseOf, mathFields, PSFields.normalize]

/-- the hypothesis of the contract for `P := MathCfg f0`, from disjointness of the delimiter lists -/
theorem HP_mathCfg (f0 : PSFields) (hd : DelimsDisjoint f0) (tol : Bool) (s : Str) :
    ∀ f pos t cd, SD f0 f → peekTok tol (mkPS f) s pos = .tok t →
      (t.kind = .mathInline ∨ t.kind = .mathDisplay) →
      (mkPS (mathFields f t.arg)).t.expectClose = some cd →
      (tol = false → StopFact tol s (mathFields f t.arg) (.mathClose (t.kind == .mathDisplay) cd.1)) →
      MathCfg f0 t.arg cd.1 (t.kind == .mathDisplay) := by
  intro f pos t cd hs ht hk hcd _
  rw [expectClose_mathFieldsX, mathTables_SD hs] at hcd
  have hmem := lookupLast_mem _ _ _ hcd
  have h1 := (byOpen_mem f0 t.arg cd.1 cd.2 hmem).1
  -- the token's kind names the list its delimiter belongs to
  have h2 : t.arg ∈ kindList f0 (t.kind == .mathDisplay) := by
    rcases peekTok_table tol (mkPS f) s pos t ht hk with hm | hm
    · rw [mkPS_mathAll] at hm
      rw [← kindList_SD hs]
      exact mathAll_mem f _ _ hm
    · rw [mkPS_expectClose] at hm
      -- the expected closing delimiter: second component of a pair of the `byOpen` table
      obtain ⟨o, ho⟩ := expectCloseOf_mem hm
      rw [← kindList_SD hs]
      exact (byOpen_mem f o _ _ ho).2
  have := kindList_disjoint f0 hd t.arg _ _ h1 h2
  unfold MathCfg
  rw [hcd, ← this]

/-- the hypothesis of the contract for `P := MathCfg f0` in strict mode, without any condition on the lists:
    the formula was closed by a token that spells the looked-up closing delimiter and has the opening token's
    kind; such a token has the looked-up kind -/
theorem HP_mathCfg_strict (f0 : PSFields) (s : Str) :
    ∀ f pos t cd, SD f0 f → peekTok false (mkPS f) s pos = .tok t →
      (t.kind = .mathInline ∨ t.kind = .mathDisplay) →
      (mkPS (mathFields f t.arg)).t.expectClose = some cd →
      (false = false → StopFact false s (mathFields f t.arg) (.mathClose (t.kind == .mathDisplay) cd.1)) →
      MathCfg f0 t.arg cd.1 (t.kind == .mathDisplay) := by
  intro f pos t cd hs _ _ hcd hst
  obtain ⟨t', htest, hsrc⟩ := hst rfl
  have hcd' := hcd
  rw [expectClose_mathFieldsX, mathTables_SD hs] at hcd
  unfold MathCfg
  rw [hcd]
  -- the stop token: kind and spelling
  have hk' : (t'.kind == (if (t.kind == TokKind.mathDisplay) = true then TokKind.mathDisplay else TokKind.mathInline)) = true
      ∧ (t'.arg == cd.1) = true := by
    simpa only [StopTok.test, Bool.and_eq_true] using htest
  have harg : t'.arg = cd.1 := by simpa using hk'.2
  have hkind := kind_beq _ _ hk'.1
  have hmath : t'.kind = .mathInline ∨ t'.kind = .mathDisplay := by
    rw [hkind]; split
    · exact Or.inr rfl
    · exact Or.inl rfl
  rcases hsrc with hc | ⟨pos', hp'⟩
  · rw [hc] at hmath; rcases hmath with h | h <;> cases h
  · have hclose := peekTok_close false _ s pos' t' hp' hmath
      (by show (mathFields f t.arg).normalize.inMath = true; simp [mathFields, PSFields.normalize]) cd hcd' harg
    -- the stop token's kind is the opening token's kind
    have : (t'.kind == TokKind.mathDisplay) = (t.kind == TokKind.mathDisplay) := by
      rw [hkind]
      cases (t.kind == TokKind.mathDisplay) <;> rfl
    rw [← this, hclose]

/-! ### every math node of a consistent tree satisfies `P` -/

section
variable {P : Str → Str → Bool → Prop} {ctx : Ctx}

def IsMathP (P : Str → Str → Bool → Prop) : Node → Prop
  | .math _ _ _ d o c _ => P o c d
  | _ => True

mutual
theorem node_math : ∀ (n : Node) (cur : PSInfo), NodeM P ctx cur n → ∀ m ∈ n.subnodes, IsMathP P m
  | .chars .., _, _ => by
    intro m hm
    simp only [Node.subnodes, List.mem_singleton] at hm; subst hm; trivial
  | .comment .., _, _ => by
    intro m hm
    simp only [Node.subnodes, List.mem_singleton] at hm; subst hm; trivial
  | .group _ _ _ _ _ b, cur, h => List.forall_mem_cons.mpr ⟨trivial, body_math b cur h.2⟩
  | .mac _ _ _ name _ a, cur, h => List.forall_mem_cons.mpr ⟨trivial, optArgs_math a cur _ h.2⟩
  | .env _ _ _ name a b, cur, h =>
    List.forall_mem_cons.mpr ⟨trivial, List.forall_mem_append.mpr ⟨optArgs_math a cur _ h.2.1, body_math b _ h.2.2⟩⟩
  | .specials _ _ _ _ a, cur, h => List.forall_mem_cons.mpr ⟨trivial, optArgs_math a cur _ h.2⟩
  | .math _ _ _ d o c b, cur, h => List.forall_mem_cons.mpr ⟨h.2.1, body_math b _ h.2.2⟩
theorem body_math : ∀ (b : Option (List Node)) (cur : PSInfo), BodyM P ctx cur b → ∀ m ∈ subnodesBody b, IsMathP P m
  | none, _, _ => by intro m hm; simp [subnodesBody] at hm
  | some ns, cur, h => list_math ns cur h
theorem list_math : ∀ (ns : List Node) (cur : PSInfo), ListM P ctx cur ns → ∀ m ∈ subnodesList ns, IsMathP P m
  | [], _, _ => by intro m hm; simp [subnodesList] at hm
  | n :: ns, cur, h => List.forall_mem_append.mpr ⟨node_math n cur h.1, list_math ns cur h.2⟩
theorem optArgs_math : ∀ (a : Option (List Arg)) (cur : PSInfo) (spec : Option ArgsP), OptArgsM P ctx cur spec a →
    ∀ m ∈ subnodesArgs a, IsMathP P m
  | none, _, _, _ => by intro m hm; simp [subnodesArgs] at hm
  | some l, cur, spec, h => by
    intro m hm
    simp only [subnodesArgs] at hm
    unfold OptArgsM at h
    split at h
    · rcases h with h | h
      · exact argList_math l cur _ h.2 m hm
      · subst h; simp [subnodesArgList] at hm
    · exact argList_math l cur _ h m hm
theorem argList_math : ∀ (l : List Arg) (cur : PSInfo) (ds : List Delta), ArgListM P ctx cur ds l →
    ∀ m ∈ subnodesArgList l, IsMathP P m
  | [], _, _, _ => by intro m hm; simp [subnodesArgList] at hm
  | a :: l, cur, ds, h => List.forall_mem_append.mpr ⟨arg_math a _ h.1, argList_math l cur _ h.2⟩
theorem arg_math : ∀ (a : Arg) (cur : PSInfo), ArgM P ctx cur a → ∀ m ∈ subnodesArg a, IsMathP P m
  | .absent, _, _ => by intro m hm; simp [subnodesArg] at hm
  | .node n, cur, h => node_math n cur h
  | .list _ _ ns, cur, h => list_math ns cur h
end

end

end C10
end Pylx
