/-
  C13, lexical part — the predicate `Inert` (whole text) and `ChunkSafe` (one chunk of encoder
  output) with their composition lemmas.
-/
import Pylx.EncBuiltin
import PylxProofs.C04
namespace Pylx.C13
open Pylx Pylx.EncB

/-! ### The lexical predicate -/

/-- state of the lexical scan: `esc` = the previous character was an unescaped backslash,
    `depth` = number of open unescaped `{`, `math` = an odd number of unescaped `$` so far -/
structure LexSt where
  esc : Bool
  depth : Nat
  math : Bool
deriving DecidableEq, Repr

/-- one character; `none` = an unescaped `}` without partner or an unescaped `%` -/
def lexStep (st : LexSt) (c : Char) : Option LexSt :=
  if st.esc then some { st with esc := false }
  else if c == '\\' then some { st with esc := true }
  else if c == '{' then some { st with depth := st.depth + 1 }
  else if c == '}' then (if st.depth = 0 then none else some { st with depth := st.depth - 1 })
  else if c == '%' then none
  else if c == '$' then some { st with math := !st.math }
  else some st

def lexScan : LexSt → Str → Option LexSt
  | st, [] => some st
  | st, c :: cs =>
    match lexStep st c with
    | some st' => lexScan st' cs
    | none => none

def st0 : LexSt := ⟨false, 0, false⟩

/-- the scan of the whole text succeeds and ends where it started: every `{` `}` that is not
    part of a `\{` `\}` escape is balanced and the depth never goes negative, no `%` occurs outside
    a `\%` escape (no comment can start), the unescaped `$` pair up, and the text does not end in
    the middle of a backslash escape -/
def lexOk (t : Str) : Bool := decide (lexScan st0 t = some st0)

/-- no backslash is directly followed by `begin` or `end` (no environment token can start) -/
def envFree : Str → Bool
  | [] => true
  | c :: r => !(c == '\\' && ("begin".toList.isPrefixOf r || "end".toList.isPrefixOf r)) && envFree r

/-- **the lexical predicate of C13.**  It speaks about the text only: it is insensitive to the
    *names* of control words (so to the fusion of a control word with following letters under
    protection scheme `none`). -/
def Inert (t : Str) : Prop := lexOk t = true ∧ envFree t = true

instance (t : Str) : Decidable (Inert t) := by unfold Inert; infer_instance

/-- what follows the last backslash is not an initial segment of `begin` / `end`: appending text
    cannot complete an environment word -/
def tailOk (t : Str) : Bool :=
  match afterLast '\\' t with
  | none => true
  | some w => !(w.isPrefixOf "begin".toList) && !(w.isPrefixOf "end".toList)

/-- a chunk (one `+=` of the encoder) that is inert whatever precedes and follows it -/
def chunkSafe (c : Str) : Bool := lexOk c && envFree c && tailOk c

def ChunkSafe (c : Str) : Prop := chunkSafe c = true

/-- characters that the scan passes over without a state change -/
def plainChar (c : Char) : Bool := c != '\\' && c != '{' && c != '}' && c != '%' && c != '$'

/-! ### Composition lemmas -/

theorem lexScan_append (st : LexSt) (a b : Str) :
    lexScan st (a ++ b) = (lexScan st a).bind (fun st' => lexScan st' b) := by
  induction a generalizing st with
  | nil => simp [lexScan]
  | cons c cs ih =>
    simp only [List.cons_append, lexScan]
    cases lexStep st c with
    | none => simp
    | some st' => simp [ih]

theorem lexOk_iff {t : Str} : lexOk t = true ↔ lexScan st0 t = some st0 := by
  simp [lexOk]

theorem lexOk_append {a b : Str} (ha : lexOk a = true) (hb : lexOk b = true) : lexOk (a ++ b) = true := by
  rw [lexOk_iff] at *
  rw [lexScan_append, ha]
  simpa using hb

theorem lexStep_plain {st : LexSt} {c : Char} (he : st.esc = false) (hp : plainChar c = true) :
    lexStep st c = some st := by
  simp only [plainChar, Bool.and_eq_true, bne_iff_ne, ne_eq] at hp
  obtain ⟨⟨⟨⟨h1, h2⟩, h3⟩, h4⟩, h5⟩ := hp
  simp [lexStep, he, h1, h2, h3, h4, h5]

theorem lexScan_plain {st : LexSt} {l : Str} (he : st.esc = false) (hp : ∀ c ∈ l, plainChar c = true) :
    lexScan st l = some st := by
  induction l with
  | nil => rfl
  | cons c cs ih =>
    simp only [lexScan, lexStep_plain he (hp c (by simp))]
    exact ih (fun d hd => hp d (by simp [hd]))

theorem mem_of_afterLast {c : Char} {r t : Str} (h : afterLast c r = some t) : c ∈ r := by
  induction r generalizing t with
  | nil => simp [afterLast] at h
  | cons x xs ih =>
    simp only [afterLast] at h
    cases hx : afterLast c xs with
    | some t' => exact List.mem_cons_of_mem _ (ih hx)
    | none =>
      rw [hx] at h
      simp only at h
      split at h
      · rename_i hxc; simp at hxc; simp [hxc]
      · cases h

theorem afterLast_none_of_not_mem {c : Char} {r : Str} (h : c ∉ r) : afterLast c r = none := by
  cases hx : afterLast c r with
  | none => rfl
  | some t => exact absurd (mem_of_afterLast hx) h

theorem tailOk_of_cons {c : Char} {r : Str} (h : tailOk (c :: r) = true) : tailOk r = true := by
  unfold tailOk at *
  simp only [afterLast] at h
  cases hx : afterLast '\\' r with
  | none => rfl
  | some t => rw [hx] at h; exact h

theorem isPrefixOf_append_cases {w r b : Str} (h : w.isPrefixOf (r ++ b) = true) :
    w.isPrefixOf r = true ∨ r.isPrefixOf w = true := by
  rw [List.isPrefixOf_iff_prefix] at h
  have h2 : r <+: r ++ b := List.prefix_append r b
  rcases List.prefix_or_prefix_of_prefix h h2 with h3 | h3
  · left; exact List.isPrefixOf_iff_prefix.mpr h3
  · right; exact List.isPrefixOf_iff_prefix.mpr h3

theorem word_not_completed {w r b : Str} (hw : '\\' ∉ w) (h1 : w.isPrefixOf r = false)
    (h2 : afterLast '\\' r = none → r.isPrefixOf w = false) : w.isPrefixOf (r ++ b) = false := by
  cases h : w.isPrefixOf (r ++ b) with
  | false => rfl
  | true =>
    rcases isPrefixOf_append_cases h with h3 | h3
    · rw [h1] at h3; cases h3
    · cases hx : afterLast '\\' r with
      | none => rw [h2 hx] at h3; cases h3
      | some t =>
        have hm := mem_of_afterLast hx
        have hp : r <+: w := List.isPrefixOf_iff_prefix.mp h3
        exact absurd (hp.subset hm) hw

theorem envFree_append {a b : Str} (ha : envFree a = true) (ht : tailOk a = true) (hb : envFree b = true) :
    envFree (a ++ b) = true := by
  induction a with
  | nil => simpa using hb
  | cons c r ih =>
    have htr := tailOk_of_cons ht
    simp only [envFree, Bool.and_eq_true] at ha
    obtain ⟨hhead, hrest⟩ := ha
    simp only [List.cons_append, envFree, Bool.and_eq_true]
    refine ⟨?_, ih hrest htr⟩
    by_cases hc : c = '\\'
    · subst hc
      simp only [beq_self_eq_true, Bool.true_and, Bool.not_eq_true', Bool.or_eq_false_iff] at hhead ⊢
      have hnone : afterLast '\\' r = none →
          r.isPrefixOf "begin".toList = false ∧ r.isPrefixOf "end".toList = false := by
        intro hx
        unfold tailOk at ht
        simp only [afterLast, hx] at ht
        simpa using ht
      exact ⟨word_not_completed (by decide) hhead.1 (fun hx => (hnone hx).1),
             word_not_completed (by decide) hhead.2 (fun hx => (hnone hx).2)⟩
    · simp [hc]

theorem inert_flatten (cs : List Str) (h : ∀ c ∈ cs, chunkSafe c = true) : Inert cs.flatten := by
  induction cs with
  | nil => exact ⟨by decide, by decide⟩
  | cons c cs ih =>
    have hc := h c (by simp)
    simp only [chunkSafe, Bool.and_eq_true] at hc
    obtain ⟨⟨h1, h2⟩, h3⟩ := hc
    obtain ⟨i1, i2⟩ := ih (fun d hd => h d (by simp [hd]))
    exact ⟨by simpa using lexOk_append h1 i1, by simpa using envFree_append h2 h3 i2⟩

theorem chunkSafe_plain {c : Char} (hp : plainChar c = true) : chunkSafe [c] = true := by
  have hl : lexOk [c] = true := lexOk_iff.mpr (lexScan_plain rfl (by simpa using hp))
  have hne : c ≠ '\\' := by
    simp only [plainChar, Bool.and_eq_true, bne_iff_ne, ne_eq] at hp
    exact hp.1.1.1.1
  have he : envFree [c] = true := by simp [envFree]
  have ht : tailOk [c] = true := by simp [tailOk, afterLast, hne]
  simp [chunkSafe, hl, he, ht]

end Pylx.C13
