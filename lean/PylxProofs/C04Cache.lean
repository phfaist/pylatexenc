/-
  C04 (front door) — the module-level shorthand with its process-wide cache answers, after every
  history of earlier calls, what a fresh encoder built with the same four options answers.
-/
import Pylx.EncCache
namespace Pylx.EncCache

/-- every stored encoder is the one its key describes -/
def Inv (c : Cache) : Prop := ∀ k e, c.lookup k = some e → e = mkEnc k

theorem inv_nil : Inv [] := by intro k e h; simp at h

theorem call_out (c : Cache) (h : Inv c) (k : Key) (s : Str) :
    (call c k s).2 = encodeChunks (mkEnc k) s := by
  unfold call
  cases hl : c.lookup k with
  | none => rfl
  | some e => simp [h k e hl]

theorem call_inv (c : Cache) (h : Inv c) (k : Key) (s : Str) : Inv (call c k s).1 := by
  unfold call
  cases hl : c.lookup k with
  | some e => simpa using h
  | none =>
    intro k' e' h'
    rw [List.lookup_cons] at h'
    split at h'
    · rename_i hk
      cases h'
      rw [eq_of_beq hk]
    · exact h k' e' h'

theorem runHist_eq (c : Cache) (h : Inv c) (hist : List (Key × Str)) :
    runHist c hist = hist.map (fun ks => encodeChunks (mkEnc ks.1) ks.2) := by
  induction hist generalizing c with
  | nil => rfl
  | cons ks hist ih =>
    obtain ⟨k, s⟩ := ks
    simp only [runHist, List.map_cons]
    rw [call_out c h k s, ih _ (call_inv c h k s)]

/-- **C04_cached**: for every history of calls of the shorthand in one process (any option values,
    any strings, any order), each call returns what `UnicodeToLatexEncoder(<the same four options>)
    .unicode_to_latex(s)` returns. -/
theorem C04_cached (hist : List (Key × Str)) :
    runHist [] hist = hist.map (fun ks => encodeChunks (mkEnc ks.1) ks.2) :=
  runHist_eq [] inv_nil hist

/-- the last call of any history, stated alone -/
theorem C04_cached_last (hist : List (Key × Str)) (k : Key) (s : Str) :
    (runHist [] (hist ++ [(k, s)])).getLast? = some (encodeChunks (mkEnc k) s) := by
  rw [C04_cached]; simp

/-- every component of the key is needed: with a key that forgets the policy, a call with policy
    `fail` after a call with policy `keep` answers with the first encoder (kernel-evaluated) -/
theorem C04_cached_key_needs_policy :
    let k1 : Key := { nao := false, prot := .braces, pol := .keep, warn := false }
    let k2 : Key := { k1 with pol := .fail }
    let s : Str := [Char.ofNat 0x4e7e]
    (callNoPol (callNoPol [] k1 s).1 k2 s).2 ≠ encodeChunks (mkEnc k2) s := by
  decide +kernel

/-- non-vacuity: a history with a repeated key, a changed policy and a raising call -/
example :
    let k1 : Key := { nao := false, prot := .braces, pol := .keep, warn := false }
    let k2 : Key := { k1 with pol := .fail }
    let s : Str := [Char.ofNat 0x4e7e]
    runHist [] [(k1, s), (k2, s), (k1, "é".toList)]
      = [.ok [s], .raise (.valueError (Char.ofNat 0x4e7e)), .ok ["\\'e".toList]] := by
  decide +kernel

end Pylx.EncCache
