/-
  C06 — "valid content preceding an error is never lost": the node list the strict parser had collected at
  the top level when it raised is continued by the node list the tolerant parser returns.

  The two collectors run alike until the strict one meets an error and ends with what its state holds; whatever
  the tolerant one does from that state on, a collector's final node list continues its state (`Extends`).
-/
import PylxProofs.C06Sim
namespace Pylx

/-- `ns'` continues `ns`: all nodes of `ns` are there, in order and first, except that a final run of
    characters may have grown (same start, same parsing state, text extended) -/
inductive Continues : List Node → List Node → Prop where
  | pre (ns rest : List Node) : Continues ns (ns ++ rest)
  | grow (init : List Node) (p e e' : Nat) (ps : PSInfo) (c more : Str) (rest : List Node) :
      Continues (init ++ [Node.chars p e ps c]) (init ++ Node.chars p e' ps (c ++ more) :: rest)

theorem Continues.refl (ns : List Node) : Continues ns ns := by
  have := Continues.pre ns []
  rwa [List.append_nil] at this

def PendOk (st : LoopSt) : Prop := st.pend ≠ [] → st.pendPos ≠ none

/-- the final node list `ns` of a collector continues what the state `st` holds -/
def Extends (f : PSFields) (st : LoopSt) (ns : List Node) : Prop :=
  (st.pend = [] ∧ ∃ rest, ns = st.acc ++ rest) ∨
  (st.pend ≠ [] ∧ ∃ e' more rest,
    ns = st.acc ++ Node.chars (st.pendPos.getD 0) e' (psInfo f) (st.pend ++ more) :: rest)

variable {f : PSFields} {stop : StopTok} {child : ChildPS} {st : LoopSt} {t : Token} {ns : List Node}

theorem extends_flush (f : PSFields) (st : LoopSt) : Extends f st (st.flush f).acc := by
  by_cases h : st.pend = []
  · rw [LoopSt.flush_nil h]
    exact Or.inl ⟨h, [], (List.append_nil _).symm⟩
  · rw [LoopSt.flush_cons h]
    exact Or.inr ⟨h, st.pendPos.getD 0 + st.pend.length, [], [], by simp⟩

theorem continues_of_extends (h : Extends f st ns) :
    Continues (st.flush f).acc ns := by
  rcases h with ⟨h1, rest, rfl⟩ | ⟨h1, e', more, rest, rfl⟩
  · rw [LoopSt.flush_nil h1]
    exact Continues.pre _ _
  · rw [LoopSt.flush_cons h1]
    exact Continues.grow _ _ _ _ _ _ _ _

theorem extends_of_push {st' : LoopSt} (c : Str)
    (ha : st'.acc = st.acc) (hp : st'.pend = st.pend ++ c) (hpp : st.pend ≠ [] → st'.pendPos = st.pendPos)
    (h : Extends f st' ns) : Extends f st ns := by
  by_cases hpe : st.pend = []
  · left
    refine ⟨hpe, ?_⟩
    rcases h with ⟨_, rest, rfl⟩ | ⟨_, e', more, rest, rfl⟩
    · exact ⟨rest, by rw [ha]⟩
    · exact ⟨_, by rw [ha]⟩
  · right
    refine ⟨hpe, ?_⟩
    rcases h with ⟨h1, _⟩ | ⟨_, e', more, rest, rfl⟩
    · rw [hp] at h1
      exact absurd (List.append_eq_nil_iff.mp h1).1 hpe
    · exact ⟨e', c ++ more, rest, by rw [ha, hp, hpp hpe, List.append_assoc]⟩

theorem extends_of_acc {st' : LoopSt} (extra : List Node)
    (ha : st'.acc = st.acc ++ extra) (hpe : st.pend = []) (h : Extends f st' ns) : Extends f st ns := by
  left
  refine ⟨hpe, ?_⟩
  rcases h with ⟨_, rest, rfl⟩ | ⟨_, e', more, rest, rfl⟩
  · exact ⟨extra ++ rest, by rw [ha, List.append_assoc]⟩
  · exact ⟨_, by rw [ha, List.append_assoc]⟩

theorem extends_of_flush (h : Extends f (st.flush f) ns) :
    Extends f st ns := by
  by_cases hpe : st.pend = []
  · rwa [LoopSt.flush_nil hpe] at h
  · rw [LoopSt.flush_cons hpe] at h
    rcases h with ⟨_, rest, rfl⟩ | ⟨h1, _⟩
    · exact Or.inr ⟨hpe, st.pendPos.getD 0 + st.pend.length, [], rest, by simp⟩
    · exact absurd rfl h1

theorem push_pendPos (st : LoopSt) (c : Str) (q : Nat) : (st.push c q).pendPos ≠ none := by
  unfold LoopSt.push
  cases st.pendPos <;> simp

theorem push_pendPos_eq (st : LoopSt) (c : Str) (q : Nat) (h : PendOk st) (hne : st.pend ≠ []) :
    (st.push c q).pendPos = st.pendPos := by
  unfold LoopSt.push
  have := h hne
  cases hp : st.pendPos with
  | none => exact absurd hp this
  | some p => rfl

theorem flushBefore_flushed (f : PSFields) (st : LoopSt) (t : Token) : (st.flushBefore f t).pend = [] := by
  by_cases h : st.pend = []
  · by_cases hp : t.pre = []
    · rwa [LoopSt.flushBefore_nil h hp]
    · rwa [LoopSt.flushBefore_pre h hp]
  · rw [LoopSt.flushBefore_pend h]
    exact LoopSt.flush_pend

theorem extends_of_flushBefore (h : Extends f (st.flushBefore f t) ns) : Extends f st ns := by
  by_cases hpe : st.pend = []
  · by_cases hp : t.pre = []
    · rwa [LoopSt.flushBefore_nil hpe hp] at h
    · rw [LoopSt.flushBefore_pre hpe hp] at h
      exact extends_of_acc [_] rfl hpe h
  · rw [LoopSt.flushBefore_pend hpe] at h
    exact extends_of_push (st' := { st with pend := st.pend ++ t.pre }) t.pre rfl rfl (fun _ => rfl) (extends_of_flush h)

def LoopExtC (f : PSFields) (st : LoopSt) (r : Ret) : Prop := ∀ e, r = .loopEnd e → Extends f st e.nodes

def ExtC : Task → Ret → Prop
  | .loop f _ _ st, r => PendOk st → LoopExtC f st r
  | _, _ => True

theorem loopFinish_ext (f : PSFields) (st : LoopSt) (a : Option Token) (b : Option PErr) :
    LoopExtC f st (loopFinish f st a b) := by
  intro e he
  rw [loopFinish_eq] at he
  cases he
  exact extends_flush f st

section ext
variable {env : Env} {rec : Task → Ret} (hext : ∀ t, ExtC t (rec t))
include hext

theorem afterChild_ext {noneOk : Bool} {r : Ret}
    (hpe : st.pend = []) : LoopExtC f st (afterChild rec f stop child st noneOk r) := by
  apply afterChild_elim
  · intro n p _ e he
    exact extends_of_acc [n] rfl hpe
      (hext (.loop f stop child { st with pos := p, acc := st.acc ++ [n] }) (fun h => absurd hpe h) e he)
  · intro p _ _ e he
    exact extends_of_acc [] (List.append_nil _).symm hpe
      (hext (.loop f stop child { st with pos := p }) (fun h => absurd hpe h) e he)
  · intro _ _; exact loopFinish_ext f st none _
  · intro _ e he; cases he
  · intro _ _ e he; cases he

theorem loopDispatch_ext (hpe : st.pend = []) : LoopExtC f st (loopDispatch env rec f stop child st t) := by
  apply loopDispatch_elim
  · intro _ _ _; exact loopFinish_ext f st none _
  · intro _ e he
    exact extends_of_acc [_] rfl hpe
      (hext (.loop f stop child { st with acc := st.acc ++ [Node.comment t.pos t.posEnd (psInfo f) t.arg t.post] })
        (fun h => absurd hpe h) e he)
  · intro _; exact hext (.loop f stop child st) (fun h => absurd hpe h)
  · intro _ _ _ _; exact afterChild_ext hext hpe
  · intro _ _ e he; cases he

theorem loopStep_ext (hst : PendOk st) :
    LoopExtC f st (loopStep env rec f stop child st) := by
  apply loopStep_elim
  · intro _; exact loopFinish_ext f st none none
  · intro _ _ _ _ _ _; exact loopFinish_ext f st none _
  · intro t _ _ e he
    have := loopFinish_ext f { (st.push t.pre (t.pos - t.pre.length)) with pos := t.pos } _ _ e he
    exact extends_of_push (st' := { (st.push t.pre (t.pos - t.pre.length)) with pos := t.pos }) t.pre rfl rfl
      (push_pendPos_eq st t.pre (t.pos - t.pre.length) hst) this
  · intro t _ _ _ e he
    have := hext (.loop f stop child { (st.push (t.pre ++ t.arg) (t.pos - t.pre.length)) with pos := t.posEnd })
      (fun _ => push_pendPos st (t.pre ++ t.arg) (t.pos - t.pre.length)) e he
    exact extends_of_push (st' := { (st.push (t.pre ++ t.arg) (t.pos - t.pre.length)) with pos := t.posEnd })
      (t.pre ++ t.arg) rfl rfl (push_pendPos_eq st (t.pre ++ t.arg) (t.pos - t.pre.length) hst) this
  · intro t _ _ _ e he
    exact extends_of_flushBefore (t := t)
      (loopDispatch_ext hext (st := { (st.flushBefore f t) with pos := t.posEnd }) (flushBefore_flushed f st t) e he)

end ext

theorem run_ext (env : Env) : ∀ (n : Nat) (t : Task), ExtC t (run env n t) := by
  refine run_inv (fun t => ?_) (fun rec ih t => ?_)
  · cases t with
    | loop f stop child st => intro _ e he; cases he
    | _ => trivial
  · cases t with
    | loop f stop child st => exact loopStep_ext ih
    | _ => trivial

def LP (a b : Ret) : Prop := ∀ eS eT, a = .loopEnd eS → b = .loopEnd eT → Continues eS.nodes eT.nodes

theorem LP.refl (a : Ret) : LP a a := by
  intro eS eT h1 h2
  rw [h1] at h2
  cases h2
  exact Continues.refl _

theorem LP.of_not {a b : Ret} (h : ∀ e, a ≠ .loopEnd e) : LP a b := fun eS _ h1 _ => absurd h1 (h eS)

/-- the strict collector ends with what its state holds; the tolerant one goes on from that state -/
theorem lp_of_ext {a : Option Token} {b : Option PErr} {r : Ret}
    (h : LoopExtC f st r) : LP (loopFinish f st a b) r := by
  intro eS eT h1 h2
  rw [loopFinish_eq] at h1
  cases h1
  exact continues_of_extends (h eT h2)

section lp
variable {ctx : Ctx} {s : Str} {recS recT : Task → Ret}
  (hsim : ∀ t, Follows False (recS t) (recT t))
  (hext : ∀ t, ExtC t (recT t))
  (hlp : ∀ f stop child st, PendOk st → LP (recS (.loop f stop child st)) (recT (.loop f stop child st)))
include hsim hext hlp

omit hsim in
theorem afterChild_lp {noneOk : Bool} {r1 r2 : Ret}
    (h : Follows False r1 r2) (hpe : st.pend = []) :
    LP (afterChild recS f stop child st noneOk r1) (afterChild recT f stop child st noneOk r2) := by
  cases r1 with
  | ok res q =>
    rw [h trivial]
    cases res with
    | node n => exact hlp f stop child _ (fun hh => absurd hpe hh)
    | none =>
      unfold afterChild
      cases noneOk
      · exact LP.of_not (fun e hh => nomatch hh)
      · exact hlp f stop child _ (fun hh => absurd hpe hh)
    | list a b c => exact LP.of_not (fun e hh => nomatch hh)
    | args a b c => exact LP.of_not (fun e hh => nomatch hh)
  | perr e => exact lp_of_ext (afterChild_ext hext hpe)
  | loopEnd e => exact LP.of_not (fun e hh => nomatch hh)
  | crash k => exact LP.of_not (fun e hh => nomatch hh)
  | fuel => exact LP.of_not (fun e hh => nomatch hh)

theorem loopDispatch_lp (hpe : st.pend = []) :
    LP (loopDispatch ⟨false, ctx, s⟩ recS f stop child st t) (loopDispatch ⟨true, ctx, s⟩ recT f stop child st t) := by
  have hst : PendOk st := fun hh => absurd hpe hh
  have ch : ∀ b tk, LP (afterChild recS f stop child st b (recS tk)) (afterChild recT f stop child st b (recT tk)) :=
    fun b tk => afterChild_lp hext hlp (hsim tk) hpe
  unfold loopDispatch
  simp only [Bool.false_eq_true, if_true, if_false]
  cases t.kind <;> dsimp only
  case braceClose | endEnv | char => exact LP.refl _
  case comment => exact hlp f stop child _ hst
  case braceOpen => exact ch _ _
  case «macro» =>
    cases ctx.macroSpec t.arg <;> dsimp only
    · exact lp_of_ext (hext (.loop f stop child st) hst)
    · exact ch _ _
  case beginEnv =>
    cases ctx.envSpec t.arg <;> dsimp only
    · exact lp_of_ext (hext (.loop f stop child st) hst)
    · exact ch _ _
  case specials =>
    cases lookupFirst t.arg ctx.specials <;> dsimp only
    · exact LP.refl _
    · exact ch _ _
  case mathInline | mathDisplay =>
    split
    · exact ch _ _
    · exact LP.refl _

theorem loopStep_lp (hst : PendOk st) :
    LP (loopStep ⟨false, ctx, s⟩ recS f stop child st) (loopStep ⟨true, ctx, s⟩ recT f stop child st) := by
  have hT : LoopExtC f st (loopStep ⟨true, ctx, s⟩ recT f stop child st) := loopStep_ext hext hst
  revert hT
  unfold loopStep
  rcases loopRead_modes (same := False) (Or.inr ⟨id, rfl⟩) f st with h | ⟨_, e, h⟩
  · rw [h]
    cases loopRead ⟨false, ctx, s⟩ f st with
    | inr r => exact fun _ => LP.refl _
    | inl t =>
      intro _
      dsimp only
      split
      · exact LP.refl _
      · split
        · exact hlp f stop child _ (fun _ => push_pendPos st (t.pre ++ t.arg) (t.pos - t.pre.length))
        · exact loopDispatch_lp hsim hext hlp (flushBefore_flushed f st t)
  · intro hT
    rw [h]
    exact lp_of_ext hT

end lp

theorem run_lp {ctx : Ctx} {s : Str} : ∀ (n : Nat) f stop child st, PendOk st →
    LP (run ⟨false, ctx, s⟩ n (.loop f stop child st)) (run ⟨true, ctx, s⟩ n (.loop f stop child st))
  | 0, _, _, _, _, _ => LP.of_not (fun _ hh => nomatch hh)
  | n + 1, _, _, _, _, hst =>
    loopStep_lp (run_follows (Or.inr ⟨id, rfl⟩) 0 n) (run_ext _ n) (run_lp n) hst

theorem listOf_eq (ns : List Node) (a b : Option Nat) : ∃ p q, listOf ns a b = .list p q ns := ⟨_, _, rfl⟩

section general
variable {rec : Task → Ret} {stop : StopTok} {require : Bool} {child : ChildPS} {f : PSFields} {pos : Nat}

/-- the recovery nodes of an error of the general parser are what its collector ended with -/
theorem rawGeneral_perr {e : PErr} (h : parseContent false (rawGeneral rec stop require child f pos) = .perr e) :
    ∃ le, rec (.loop f stop child { pos := pos }) = .loopEnd le ∧ e.recNodes = listOf le.nodes (some pos) (some pos) := by
  refine rawGeneral_elim (motive := fun x => parseContent false x = .perr e → ∃ le,
    rec (.loop f stop child { pos := pos }) = .loopEnd le ∧ e.recNodes = listOf le.nodes (some pos) (some pos))
    ?_ ?_ ?_ ?_ ?_ ?_ h
  · intro le _ hr _ h; cases h; exact ⟨le, hr, rfl⟩
  · intro le hr _ _ _ _ h; cases h; exact ⟨le, hr, rfl⟩
  · intro _ _ _ _ _ h; cases h
  · intro _ _ _ _ _ h; cases h
  · intro _ h; cases h
  · intro _ _ _ h; cases h

/-- and so is every result it has in tolerant mode -/
theorem rawGeneral_tol_ok {r : Res} {q : Nat} (h : parseContent true (rawGeneral rec stop require child f pos) = .ok r q) :
    ∃ le, rec (.loop f stop child { pos := pos }) = .loopEnd le ∧ r = listOf le.nodes (some pos) (some pos) := by
  refine rawGeneral_elim (motive := fun x => parseContent true x = .ok r q → ∃ le,
    rec (.loop f stop child { pos := pos }) = .loopEnd le ∧ r = listOf le.nodes (some pos) (some pos))
    ?_ ?_ ?_ ?_ ?_ ?_ h
  · intro le _ hr _ h; cases h; exact ⟨le, hr, rfl⟩
  · intro le hr _ _ _ _ h; cases h; exact ⟨le, hr, rfl⟩
  · intro le _ hr _ _ h; cases h; exact ⟨le, hr, rfl⟩
  · intro le hr _ _ _ h; cases h; exact ⟨le, hr, rfl⟩
  · intro _ h; cases h
  · intro _ _ _ h; cases h

end general

/-- **C06 (prefix).** If the strict parse raises, the error carries the nodes collected at the top level before
    the error (`recNodes`, what `LatexWalkerParseError.recovery_nodes` holds); whenever the tolerant parse of the same input with
    the same fuel returns, it returns a node list that continues them: the same nodes first, in order, where
    only a final run of characters may have been extended. -/
theorem C06_prefix (ctx : Ctx) (s : Str) (f : PSFields) (n : Nat) (e : PErr)
    (h : run { tol := false, ctx := ctx, s := s } n (topTask f) = .perr e) :
    ∃ p q ns, e.recNodes = .list p q ns ∧
      ∀ r pos, run { tol := true, ctx := ctx, s := s } n (topTask f) = .ok r pos →
        ∃ p' q' ns', r = .list p' q' ns' ∧ Continues ns ns' := by
  cases n with
  | zero => cases h
  | succ n =>
    obtain ⟨leS, hlS, hrn⟩ := rawGeneral_perr h
    obtain ⟨p, q, hl⟩ := listOf_eq leS.nodes (some 0) (some 0)
    refine ⟨p, q, leS.nodes, hrn.trans hl, ?_⟩
    intro r pos hT
    obtain ⟨leT, hlT, hr⟩ := rawGeneral_tol_ok hT
    obtain ⟨p', q', hl'⟩ := listOf_eq leT.nodes (some 0) (some 0)
    exact ⟨p', q', leT.nodes, hr.trans hl', run_lp n f .none .same { pos := 0 } (fun hh => absurd rfl hh) leS leT hlS hlT⟩

private def exCtxP : Ctx := { macros := [("a".toList, .std [⟨.m, .none⟩])] }
private def Ret.isPerr : Ret → Bool
  | .perr _ => true
  | _ => false
private def Ret.isOkP : Ret → Bool
  | .ok _ _ => true
  | _ => false

/-- the hypothesis of `C06_prefix` holds for `x{y}ab\begin z` (token error after "ab"; the tolerant parser extends the
    final characters node to `ab\begin z`) and for `x{y}\a{q\zz} w` (unknown macro inside an argument; the tolerant parser
    appends the recovered macro node and more), and in both cases the tolerant parse returns -/
example : ∃ e, run { tol := false, ctx := exCtxP, s := "x{y}ab\\begin z".toList } 30 (topTask {}) = .perr e := by
  have h : (run { tol := false, ctx := exCtxP, s := "x{y}ab\\begin z".toList } 30 (topTask {})).isPerr = true := by decide +kernel
  cases hr : run { tol := false, ctx := exCtxP, s := "x{y}ab\\begin z".toList } 30 (topTask {}) with
  | perr e => exact ⟨e, rfl⟩
  | ok a b => rw [hr] at h; cases h
  | loopEnd a => rw [hr] at h; cases h
  | crash k => rw [hr] at h; cases h
  | fuel => rw [hr] at h; cases h

example : (run { tol := false, ctx := exCtxP, s := "x{y}\\a{q\\zz} w".toList } 30 (topTask {})).isPerr = true
    ∧ (run { tol := true, ctx := exCtxP, s := "x{y}\\a{q\\zz} w".toList } 30 (topTask {})).isOkP = true
    ∧ (run { tol := true, ctx := exCtxP, s := "x{y}ab\\begin z".toList } 30 (topTask {})).isOkP = true := by decide +kernel

#print axioms C06_prefix

end Pylx
