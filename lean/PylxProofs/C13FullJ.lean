/-
  C13, parse link for all strings — kernel evaluation over a part of the `unicode-xml` table (the 13 code points of
  finding F19 left out): every replacement text is the source of a document of the grammar of `C13FullDefs` that is well
  formed under each of the four brace protection schemes (`rawOk`; the classifier's output is checked, not trusted).
-/
import PylxProofs.C13FullDefs
namespace Pylx.C13.Full
open Pylx Pylx.EncB

theorem xml_docs_5 : (Gen.uni2latexXmlChunks.drop 50).all (fun ch => ch.all (entryOkX f19)) = true := by
  decide +kernel

end Pylx.C13.Full
