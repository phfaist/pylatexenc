/-
  C02Tok3 — a generic classification of what the tokenizer returns in front of text it reads without an error
  (used for the slots of absent optional arguments, where the following text is not known).
-/
import PylxProofs.C02Tok2
namespace Pylx
namespace C02
open Doc

/-- a token read at `q` (first character `c`) behind the whitespace `w` -/
structure TokAt (w : Str) (q : Nat) (c : Char) (t : Token) : Prop where
  pre : t.pre = w
  pos : t.pos = q
  brace : t.kind = .braceOpen → t.arg = [c]
  single : (t.kind = .char ∨ t.kind = .specials) → ∀ x, t.arg = [x] → x = c

theorem TokAt.of_kind {w : Str} {q : Nat} {c : Char} {t : Token} (h1 : t.pre = w) (h2 : t.pos = q)
    (hk : t.kind = .comment ∨ t.kind = .macro ∨ t.kind = .braceClose) : TokAt w q c t := by
  refine ⟨h1, h2, fun h => ?_, fun h => ?_⟩
  · rcases hk with hk | hk | hk <;> (rw [hk] at h; cases h)
  · rcases hk with hk | hk | hk <;> rcases h with h | h <;> (rw [hk] at h; cases h)

section cls
variable {keys : List Str} {ee m : Bool} {br : Xp} {ex : Option (Str × Bool)} {ps : PState} {s : Str} {q : Nat}

theorem envWordAt_isEnvWord (hps : PSStd keys ee m ex br ps) {r : Str} (hd1 : s.drop (q + 1) = r) {b : Bool}
    (h : envWordAt ps s q = some b) : isEnvWord r = true := by
  obtain ⟨_, hsw, hnf⟩ := envWordAt_some h
  rw [startsWithAt_of_drop hd1] at hsw
  have hdn : s.drop (q + 1 + envWordLen b) = r.drop (envWordLen b) := by rw [← hd1, List.drop_drop]
  have hh : headIs isAsciiAlpha (r.drop (envWordLen b)) = false := hdn ▸ headIs_of_notFollowed hps.alpha hnf
  unfold isEnvWord
  cases b with
  | true =>
    have h1 : ("begin".toList).isPrefixOf r = true := hsw
    have h2 : headIs isAsciiAlpha (r.drop 5) = false := hh
    rw [h1, h2]; rfl
  | false =>
    have h1 : ("end".toList).isPrefixOf r = true := hsw
    have h2 : headIs isAsciiAlpha (r.drop 3) = false := hh
    rw [h1, h2]; simp

theorem mathTok_class (w : Str) (q : Nat) (c : Char) (d : Str) (b : Bool) : TokAt w q c (mathTok q w d b) := by
  refine ⟨rfl, rfl, fun h => ?_, fun h => ?_⟩
  · cases b <;> cases h
  · cases b <;> rcases h with h | h <;> cases h

/-- the token read at a non-space character from which the text can be read without a token error -/
theorem peekAtChar_class (hps : PSStd keys ee m ex br ps) {c : Char} {r w : Str} (hd : s.drop q = c :: r)
    (hsafe : escSafe (c :: r) = true) : ∃ t, peekAtChar ps s q c w = .tok t ∧ TokAt w q c t := by
  have hd1 : s.drop (q + 1) = r := drop_succ_of_drop hd
  -- behind a backslash neither `\begin` / `\end` nor the end of the input follows
  have henv : ∀ b, c = ps.f.escapeChar → envWordAt ps s q ≠ some b := by
    intro b hc hb
    rw [hps.esc] at hc; subst hc
    simp only [escSafe, Bool.and_eq_true, Bool.not_eq_eq_eq_not, Bool.not_true] at hsafe
    rw [envWordAt_isEnvWord hps hd1 hb] at hsafe
    cases hsafe.2
  apply peekAtChar_leaves (P := fun res => ∃ t, res = .tok t ∧ TokAt w q c t)
  case math =>
    intro t _ ht
    obtain ⟨d, b, rfl⟩ := readMath_spec ht
    exact ⟨_, rfl, mathTok_class w q c d b⟩
  case envErr => exact fun b hc hb => absurd hb (henv b hc)
  case env => exact fun b _ _ hc hb _ => absurd hb (henv b hc)
  case escEnd =>
    intro hc hnone
    rw [hps.esc] at hc; subst hc
    cases r with
    | nil => simp [escSafe] at hsafe
    | cons c1 r1 => rw [getElem?_of_drop hd1] at hnone; cases hnone
  case open_ => exact fun _ => ⟨_, rfl, rfl, rfl, fun _ => rfl, fun h => by rcases h with h | h <;> cases h⟩
  case spec =>
    intro k hk
    refine ⟨_, rfl, rfl, rfl, nofun, fun _ x hx => ?_⟩
    have := (testSpecials_some hk).2.2
    rw [startsWithAt_of_drop hd, show k = [x] from hx] at this
    simpa [List.isPrefixOf] using this
  case bad => intro h; rw [hps.fb] at h; cases h
  case chr =>
    refine fun _ => ⟨_, rfl, rfl, rfl, nofun, fun _ x hx => ?_⟩
    exact (List.cons.inj hx).1.symm
  all_goals intros; exact ⟨_, rfl, TokAt.of_kind rfl rfl (by simp)⟩

theorem takeWhile_append_dropWhile (P : Char → Bool) (l : Str) : l.takeWhile P ++ l.dropWhile P = l :=
  List.takeWhile_append_dropWhile

/-- **what follows an absent optional argument**: the end of the input, or a token behind the leading whitespace -/
theorem peek_follow (hps : PSStd keys ee m ex br ps) {p : Nat} {F : Str} (hd : s.drop p = F) (hok : absentFollowOk F = true) :
    (F.dropWhile isPySpace = [] ∧ peekImpl ps s p = .eos (F.takeWhile isPySpace)) ∨
    (∃ c r t, F.dropWhile isPySpace = c :: r ∧ peekImpl ps s p = .tok t ∧
      TokAt (F.takeWhile isPySpace) (p + (F.takeWhile isPySpace).length) c t) := by
  unfold absentFollowOk at hok
  simp only [Bool.and_eq_true, decide_eq_true_eq] at hok
  have hsplit := takeWhile_append_dropWhile isPySpace F
  have hw := all_takeWhile isPySpace F
  have hh := headIs_dropWhile isPySpace F
  generalize F.takeWhile isPySpace = w at *
  generalize hR : F.dropWhile isPySpace = R at *
  cases R with
  | nil =>
    refine Or.inl ⟨rfl, ?_⟩
    rw [List.append_nil] at hsplit
    exact peekImpl_ws_eos (by rw [hd, hsplit]) hw hok.1
  | cons c r =>
    refine Or.inr ⟨c, r, ?_⟩
    have hc : isPySpace c = false := by simpa [headIs] using hh
    have hd' : s.drop p = w ++ c :: r := by rw [hd, hsplit]
    rw [peekImpl_ws hd' hw hok.1 hc]
    obtain ⟨t, h1, h2⟩ := peekAtChar_class (w := w) hps (drop_add_of_drop hd') hok.2
    exact ⟨t, rfl, h1, h2⟩

/-- in particular no token error -/
theorem peek_follow_noerr (hps : PSStd keys ee m ex br ps) {p : Nat} {F : Str} (hd : s.drop p = F) (hok : absentFollowOk F = true)
    (w : TokErr) (ep : Nat) (t : Token) (r : Nat) : peekImpl ps s p ≠ .err w ep t r := by
  rcases peek_follow hps hd hok with ⟨_, h⟩ | ⟨_, _, _, _, h, _⟩ <;> (rw [h]; intro e; cases e)

end cls

end C02
end Pylx
