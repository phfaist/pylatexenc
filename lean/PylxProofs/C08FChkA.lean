/-
  C08, all strings — the per-chunk facts for one quarter of the alphabet, by kernel evaluation: for every character and
  each of its protected chunks the classified document unparses to the chunk, is well formed, specials-safe and solid,
  and the position-free renderer turns its exact tree into the character (both policies, fresh converter state before
  and after); for the wrapped form `{r}` of a chunk `r` only that the classifier answers with the document of `r` in a group.  One declaration per six chunks of the alphabet (thirty characters) keeps each evaluation well inside
  the default heartbeat limit.
-/
import PylxProofs.C08FDefs
namespace Pylx.C08.Full
open Pylx Pylx.C08

theorem k0 : ((Gen.c08AlphaChunks.drop 0).take 6).all ChunksOk = true := by decide +kernel
theorem k1 : ((Gen.c08AlphaChunks.drop 6).take 6).all ChunksOk = true := by decide +kernel
theorem k2 : ((Gen.c08AlphaChunks.drop 12).take 6).all ChunksOk = true := by decide +kernel
theorem k3 : ((Gen.c08AlphaChunks.drop 18).take 6).all ChunksOk = true := by decide +kernel
theorem k4 : ((Gen.c08AlphaChunks.drop 24).take 6).all ChunksOk = true := by decide +kernel
theorem k5 : ((Gen.c08AlphaChunks.drop 30).take 6).all ChunksOk = true := by decide +kernel
theorem k6 : ((Gen.c08AlphaChunks.drop 36).take 6).all ChunksOk = true := by decide +kernel
theorem k7 : ((Gen.c08AlphaChunks.drop 42).take 6).all ChunksOk = true := by decide +kernel
theorem k8 : ((Gen.c08AlphaChunks.drop 48).take 6).all ChunksOk = true := by decide +kernel
theorem k9 : ((Gen.c08AlphaChunks.drop 54).take 6).all ChunksOk = true := by decide +kernel
theorem k10 : ((Gen.c08AlphaChunks.drop 60).take 6).all ChunksOk = true := by decide +kernel

end Pylx.C08.Full
