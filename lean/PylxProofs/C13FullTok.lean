/-
  C13, parse link for all strings — vocabulary and token-level lemmas.

  * `cleanS` / `cleanL`: a position-free structure (`Doc.Shape`) holds no comment and no environment; transfer to the
    nodes of a parse result (`clean_nodes`).
  * `RW`: the collector, from a given state, gets in front of (whitespace and) `after`, having produced clean shapes.
  * tokenizer lemmas that `PylxProofs/C02Tok*.lean` does not have: a whitespace run with a paragraph break in general
    position, a plain character that may or may not start a specials string, a macro token read by the expression parser.
-/
import PylxProofs.C13FullDefs
namespace Pylx.C13.Full
open Pylx Pylx.C02

/-! ### clean shapes -/

mutual
def cleanS : Doc.Shape → Bool
  | .chars _ => true
  | .comment _ => false
  | .group _ _ b => cleanOL b
  | .mac _ a => cleanOA a
  | .env _ _ _ => false
  | .specials _ a => cleanAL a
  | .math _ _ _ b => cleanOL b
def cleanOL : Option (List Doc.Shape) → Bool
  | none => true
  | some l => cleanL l
def cleanL : List Doc.Shape → Bool
  | [] => true
  | x :: l => cleanS x && cleanL l
def cleanOA : Option (List Doc.ArgShape) → Bool
  | none => true
  | some l => cleanAL l
def cleanAL : List Doc.ArgShape → Bool
  | [] => true
  | a :: l => cleanA a && cleanAL l
def cleanA : Doc.ArgShape → Bool
  | .absent => true
  | .one s => cleanS s
  | .list l => cleanL l
end

theorem cleanL_append (a b : List Doc.Shape) : cleanL (a ++ b) = (cleanL a && cleanL b) := by
  induction a with
  | nil => simp [cleanL]
  | cons x a ih => simp only [List.cons_append, cleanL, ih, Bool.and_assoc]

theorem cleanAL_append (a b : List Doc.ArgShape) : cleanAL (a ++ b) = (cleanAL a && cleanAL b) := by
  induction a with
  | nil => simp [cleanAL]
  | cons x a ih => simp only [List.cons_append, cleanAL, ih, Bool.and_assoc]

theorem cleanL_consSh (x : Doc.Shape) (M : List Doc.Shape) : cleanL (consSh x M) = (cleanS x && cleanL M) := by
  cases x with
  | chars a =>
    cases M with
    | nil => rfl
    | cons y r =>
      cases y <;> simp [consSh, cleanL, cleanS]
  | _ => simp [consSh, cleanL]

theorem cleanL_mergeChars (l : List Doc.Shape) : cleanL (Doc.mergeChars l) = cleanL l := by
  induction l with
  | nil => rfl
  | cons x tl ih => rw [mergeChars_cons, cleanL_consSh, ih]; rfl

theorem cleanS_of_blank {x : Doc.Shape} (h : x.isBlank = true) : cleanS x = true := by
  cases x <;> first | rfl | (simp [Doc.Shape.isBlank] at h)

theorem cleanL_filter (l : List Doc.Shape) : cleanL (l.filter (fun x => !x.isBlank)) = cleanL l := by
  induction l with
  | nil => rfl
  | cons x tl ih =>
    rw [List.filter_cons]
    cases hb : x.isBlank with
    | true =>
      simp only [Bool.not_true, Bool.false_eq_true, if_false, cleanL, ih, cleanS_of_blank hb, Bool.true_and]
    | false =>
      simp only [Bool.not_false, if_true, cleanL, ih]

theorem cleanL_normList (l : List Doc.Shape) : cleanL (Doc.normList l) = cleanL l := by
  unfold Doc.normList
  rw [cleanL_filter, cleanL_mergeChars]

theorem cleanL_pendSh (w : Str) : cleanL (pendSh w) = true := by
  unfold pendSh
  split <;> rfl

theorem cleanL_of_merge_eq {a b : List Doc.Shape} (h : Doc.mergeChars a = Doc.mergeChars b) (hb : cleanL b = true) :
    cleanL a = true := by
  rw [← cleanL_mergeChars, h, cleanL_mergeChars]; exact hb

/-! ### from shapes to nodes -/

def NoCE (x : Node) : Prop := isComment x = false ∧ isEnv x = false

mutual
theorem clean_node : ∀ n : Node, cleanS (Doc.shapeOf n) = true → ∀ x ∈ n.subnodes, NoCE x
  | .chars p e ps c, _ => by
    intro x hx
    simp only [Node.subnodes, List.mem_singleton] at hx
    subst hx; exact ⟨rfl, rfl⟩
  | .comment p e ps c post, h => by simp [Doc.shapeOf, cleanS] at h
  | .group p e ps o c b, h =>
    List.forall_mem_cons.mpr ⟨⟨rfl, rfl⟩, clean_body b (by simpa [Doc.shapeOf, cleanS] using h)⟩
  | .mac p e ps n post a, h =>
    List.forall_mem_cons.mpr ⟨⟨rfl, rfl⟩, clean_args a (by simpa [Doc.shapeOf, cleanS] using h)⟩
  | .env p e ps n a b, h => by simp [Doc.shapeOf, cleanS] at h
  | .specials p e ps c a, h => by
    refine List.forall_mem_cons.mpr ⟨⟨rfl, rfl⟩, clean_args a ?_⟩
    cases a with
    | none => rfl
    | some l => simpa [Doc.shapeOf, Doc.shapeOfArgs, cleanS, cleanOA] using h
  | .math p e ps d o c b, h =>
    List.forall_mem_cons.mpr ⟨⟨rfl, rfl⟩, clean_body b (by simpa [Doc.shapeOf, cleanS] using h)⟩
theorem clean_body : ∀ b : Option (List Node), cleanOL (Doc.shapeOfBody b) = true → ∀ x ∈ subnodesBody b, NoCE x
  | none, _ => by intro x hx; simp [subnodesBody] at hx
  | some ns, h => by
    refine clean_nodes ns ?_
    simp only [Doc.shapeOfBody, cleanOL] at h
    rw [cleanL_normList] at h
    exact h
theorem clean_nodes : ∀ ns : List Node, cleanL (Doc.shapeOfNodes ns) = true → ∀ x ∈ subnodesList ns, NoCE x
  | [], _ => by intro x hx; simp [subnodesList] at hx
  | n :: ns, h => by
    simp only [Doc.shapeOfNodes, cleanL, Bool.and_eq_true] at h
    exact List.forall_mem_append.mpr ⟨clean_node n h.1, clean_nodes ns h.2⟩
theorem clean_args : ∀ a : Option (List Arg), cleanOA (Doc.shapeOfArgs a) = true → ∀ x ∈ subnodesArgs a, NoCE x
  | none, _ => by intro x hx; simp [subnodesArgs] at hx
  | some l, h => clean_argList l (by simpa [Doc.shapeOfArgs, cleanOA] using h)
theorem clean_argList : ∀ l : List Arg, cleanAL (Doc.shapeOfArgList l) = true → ∀ x ∈ subnodesArgList l, NoCE x
  | [], _ => by intro x hx; simp [subnodesArgList] at hx
  | a :: l, h => by
    simp only [Doc.shapeOfArgList, cleanAL, Bool.and_eq_true] at h
    exact List.forall_mem_append.mpr ⟨clean_arg a h.1, clean_argList l h.2⟩
theorem clean_arg : ∀ a : Arg, cleanA (Doc.shapeOfArg a) = true → ∀ x ∈ subnodesArg a, NoCE x
  | .absent, _ => by intro x hx; simp [subnodesArg] at hx
  | .node n, h => clean_node n (by simpa [Doc.shapeOfArg, cleanA] using h)
  | .list p e ns, h => clean_nodes ns (by simpa [Doc.shapeOfArg, cleanA] using h)
end

/-! ### the collector gets in front of `after` -/

section rw
variable {env : Env}

/-- from `st` the collector reaches a state in front of some whitespace (fewer than two newlines) followed by `after`;
    the shapes produced on the way hold no comment and no environment -/
def RW (env : Env) (F : PSFields) (stop : StopTok) (child : ChildPS) (st : LoopSt) (after : Str) : Prop :=
  ∃ tr n w', Reaches env F stop child st tr n ∧ env.s.drop (st.pos + n) = w' ++ after ∧ Doc.isWs w' = true ∧
    countNl w' < 2 ∧ cleanL tr = true

theorem RW.step {F : PSFields} {stop : StopTok} {child : ChildPS} {st : LoopSt} {after : Str} {tr1 : List Doc.Shape}
    {n1 : Nat} (h1 : Reaches env F stop child st tr1 n1) (hc : cleanL tr1 = true)
    (h2 : ∀ st1 : LoopSt, st1.pos = st.pos + n1 → RW env F stop child st1 after) : RW env F stop child st after := by
  obtain ⟨st1, hp1, hs1, hk1⟩ := h1
  obtain ⟨tr2, n2, w', ⟨st2, hp2, hs2, hk2⟩, hd2, hw2, hn2, hc2⟩ := h2 st1 hp1
  refine ⟨tr1 ++ tr2, n1 + n2, w', ⟨st2, by omega, ?_, fun R h => hk1 R (hk2 R h)⟩, ?_, hw2, hn2, ?_⟩
  · rw [hs2, ← List.append_assoc]
    exact mergeChars_append_left hs1 tr2
  · rw [← hd2, hp1, Nat.add_assoc]
  · rw [cleanL_append, hc, hc2]; rfl

theorem RW.nil {F : PSFields} {stop : StopTok} {child : ChildPS} {st : LoopSt} {w after : Str}
    (hd : env.s.drop st.pos = w ++ after) (hw : Doc.isWs w = true) (hn : countNl w < 2) :
    RW env F stop child st after :=
  ⟨[], 0, w, Reaches.refl env F stop child st, hd, hw, hn, rfl⟩

end rw

/-! ### whitespace -/

theorem countNl_cons (c : Char) (l : Str) : countNl (c :: l) = (if c = '\n' then 1 else 0) + countNl l := by
  unfold countNl
  rw [List.count_cons]
  by_cases h : c = '\n'
  · subst h; simp; omega
  · have : (c == '\n') = false := by simp [h]
    simp [h, this]

theorem countNl_drop_lastNlEnd (l : Str) : countNl (l.drop (lastNlEnd l)) = 0 := by
  induction l with
  | nil => rfl
  | cons c l ih =>
    rw [lastNlEnd]
    by_cases h : lastNlEnd l > 0
    · rw [if_pos h, List.drop_succ_cons]; exact ih
    · rw [if_neg h]
      have h0 : lastNlEnd l = 0 := by omega
      rw [h0, List.drop_zero] at ih
      by_cases hc : (c == '\n') = true
      · rw [if_pos hc]; simpa using ih
      · rw [if_neg hc, List.drop_zero, countNl_cons]
        have : c ≠ '\n' := by simpa using hc
        simp [this, ih]

theorem lastNlEnd_pos {l : Str} (h : countNl l ≥ 1) : lastNlEnd l ≥ 1 := by
  have := Pylx.lastNlEnd_pos l (List.count_pos_iff.mp h)
  omega

theorem isWs_drop {w : Str} (h : Doc.isWs w = true) (k : Nat) : Doc.isWs (w.drop k) = true := by
  unfold Doc.isWs at *
  rw [List.all_eq_true] at *
  intro x hx
  exact h x (List.mem_of_mem_drop hx)

theorem isWs_append {a b : Str} (ha : Doc.isWs a = true) (hb : Doc.isWs b = true) : Doc.isWs (a ++ b) = true := by
  unfold Doc.isWs at *
  rw [List.all_append, ha, hb]; rfl

/-- a whitespace run with at least two newlines, in general position: the paragraph token covers the run from its first
    to its last newline -/
theorem peekImpl_parGen {ps : PState} {s : Str} {p : Nat} {w R : Str} (hd : s.drop p = w ++ R) (hw : Doc.isWs w = true)
    (hR : Doc.headIs isPySpace R = false) (hn : countNl w ≥ 2) (hdn : ps.f.enDblNl = true) (hpar : parSpecials ps = true) :
    peekImpl ps s p = .tok { kind := .specials, arg := ['\n', '\n'], pos := p + firstNl w, posEnd := p + lastNlEnd w,
                             pre := w.take (firstNl w) } := by
  rw [peekImpl_eq_par (spaceRun_of_drop hd hw hR) hdn hn, peekPar_eq, hpar]
  rfl

/-! ### a plain character -/

theorem testSpecials_mem {keys : List Str} {s : Str} {p : Nat} {k : Str} (h : testSpecials keys s p = some k) : k ∈ keys :=
  (testSpecials_some h).1

theorem plainCh_ne {br : Xp} {c : Char} (h : plainCh br c = true) :
    c ≠ '\\' ∧ c ≠ '{' ∧ c ≠ '}' ∧ c ≠ '$' ∧ c ≠ '%' ∧ (∀ o c', br = some (o, c') → c ≠ o ∧ c ≠ c') := by
  unfold plainCh at h
  simp only [Bool.and_eq_true, bne_iff_ne, ne_eq] at h
  obtain ⟨⟨⟨⟨⟨h1, h2⟩, h3⟩, h4⟩, h5⟩, h6⟩ := h
  refine ⟨h1, h2, h3, h4, h5, ?_⟩
  intro o c' e
  subst e
  simpa using h6

section tokens
variable {keys : List Str} {ee m : Bool} {br : Xp} {ex : Option (Str × Bool)} {ps : PState} {s : Str} {p : Nat}

/-- a plain character starts a specials string of the context -/
theorem peekAtChar_plainSpecials (hps : PSStd keys ee m ex br ps) {c : Char} {rest pre k : Str} (hd : s.drop p = c :: rest)
    (hc : plainCh br c = true) (hts : testSpecials keys (c :: rest) 0 = some k) :
    peekAtChar ps s p c pre = .tok { kind := .specials, arg := k, pos := p, posEnd := p + k.length, pre := pre } := by
  obtain ⟨h2, h4, h5, h1, h3, h6⟩ := plainCh_ne hc
  rw [peekAtChar_toSpecials hps hd h1 h2 h3 h4 h5 h6,
    peekSpecialsOrChar_some (by rw [hps.hc, hps.es]; rfl) (by rw [hps.sp, testSpecials_drop, hd, hts])]

/-- a plain character that starts no specials string is a `char` token -/
theorem peekAtChar_plainChar (hps : PSStd keys ee m ex br ps) {c : Char} {rest pre : Str} (hd : s.drop p = c :: rest)
    (hc : plainCh br c = true) (hts : testSpecials keys (c :: rest) 0 = none) :
    peekAtChar ps s p c pre = .tok { kind := .char, arg := [c], pos := p, posEnd := p + 1, pre := pre } := by
  obtain ⟨h2, h4, h5, h1, h3, h6⟩ := plainCh_ne hc
  exact peekAtChar_plain hps hd h1 h2 h3 h4 h5 h6 (by rw [testSpecials_drop, hd, hts])

end tokens

end Pylx.C13.Full
