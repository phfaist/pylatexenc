/-
  C08, classes — numeric class codes and the kernel-evaluated fact that every alphabet character has a class
  representative (four slices of the alphabet, each walked in step with the `defaults` table).
-/
import PylxProofs.C08Defs
namespace Pylx.C08
open Pylx Pylx.EncB

/-- numeric code of a class (a closed `Nat` term evaluates to a literal, which lets the kernel compute the classes of
    the representatives once instead of once per alphabet character) -/
def shapeCode : C13.Shape → Nat
  | .empty => 0 | .plain => 1 | .escape => 2 | .word => 3 | .macroEmpty => 4 | .ensuremath => 5 | .accentBraced => 6
  | .accentBare => 7 | .macroGroups => 8 | .macroSeq => 9 | .group => 10 | .bareAccent => 11 | .other => 12

def clsCode : Cls → Nat
  | .shape none => 0
  | .shape (some s) => 1 + shapeCode s
  | .letter => 20 | .digit => 21 | .space => 22 | .newline => 23 | .punct => 24

theorem shapeCode_inj {a b : C13.Shape} (h : shapeCode a = shapeCode b) : a = b := by
  cases a <;> cases b <;> first | rfl | (simp [shapeCode] at h)

theorem shapeCode_lt (a : C13.Shape) : shapeCode a < 13 := by cases a <;> simp [shapeCode]

theorem clsCode_inj {a b : Cls} (h : clsCode a = clsCode b) : a = b := by
  cases a with
  | shape sa =>
    cases b with
    | shape sb =>
      cases sa <;> cases sb <;> simp only [clsCode] at h
      · rfl
      · omega
      · omega
      · rename_i x y
        have : x = y := shapeCode_inj (by omega)
        rw [this]
    | _ => cases sa <;> simp only [clsCode] at h <;> first | omega | (rename_i s; have := shapeCode_lt s; omega)
  | _ =>
    cases b with
    | shape sb => cases sb <;> simp only [clsCode] at h <;> first | omega | (rename_i s; have := shapeCode_lt s; omega)
    | _ => first | rfl | (simp [clsCode] at h)

def forceNat {β : Type} (n : Nat) (k : Nat → β) : β :=
  match n with
  | 0 => k 0
  | m + 1 => k (m + 1)

theorem forceNat_eq {β : Type} (n : Nat) (k : Nat → β) : forceNat n k = k n := by
  cases n <;> rfl

def forceCodes {β : Type} : List Nat → (List Nat → β) → β
  | [], k => k []
  | n :: ns, k => forceNat n fun n' => forceCodes ns fun l => k (n' :: l)

theorem forceCodes_eq {β : Type} (l : List Nat) (k : List Nat → β) : forceCodes l k = k l := by
  induction l generalizing k with
  | nil => rfl
  | cons n ns ih => simp [forceCodes, forceNat_eq, ih]

/-- `classOf`, given the result of the table lookup -/
def classWith (k : Nat) : Option Str → Cls
  | some r => .shape ((C13.itemsOf r).map C13.shapeOf)
  | none => asciiCls (Char.ofNat k)

theorem classOf_eq (k : Nat) : classOf k = classWith k ((tableOf .defaults).lookup k) := by
  unfold classOf classWith
  cases (tableOf .defaults).lookup k <;> rfl

/-- the class codes of the representatives -/
def repCodes : List Nat := Gen.c08Reps.map (fun r => clsCode (classOf r))

/-- every character of the slice `[lo, lo + n)` of the alphabet has a representative with the same class code (the
    alphabet and the table are walked in step; the codes of the representatives are computed once) -/
def coverSlice (lo n : Nat) : Bool :=
  forceCodes repCodes fun codes =>
    walkKeys (fun k o => codes.contains (clsCode (classWith k (o.map S)))) 4000
      ((Gen.c08Alphabet.drop lo).take n) Gen.uni2latex

theorem alphabet_ascending : ascending Gen.c08Alphabet = true := by decide +kernel

theorem coverSlice_spec {lo n : Nat} (h : coverSlice lo n = true) :
    ∀ k ∈ (Gen.c08Alphabet.drop lo).take n, repCodes.contains (clsCode (classOf k)) = true := by
  unfold coverSlice at h
  rw [forceCodes_eq] at h
  intro k hk
  have := walkKeys_spec _ _ _ _
    (((ascending_spec alphabet_ascending).sublist (List.drop_sublist lo _)).sublist (List.take_sublist n _))
    (ascending_spec (C13.table_ascending .defaults)) h k hk
  rw [classOf_eq]
  show repCodes.contains (clsCode (classWith k (((rawTable .defaults).map (fun e => (e.1, S e.2))).lookup k))) = true
  rw [lookup_map_snd]
  exact this

theorem cover_0 : coverSlice 0 330 = true := by decide +kernel
theorem cover_1 : coverSlice 330 330 = true := by decide +kernel
theorem cover_2 : coverSlice 660 330 = true := by decide +kernel
theorem cover_3 : coverSlice 990 330 = true := by decide +kernel

theorem cover_all : ∀ k ∈ Gen.c08Alphabet, repCodes.contains (clsCode (classOf k)) = true := by
  intro k hk
  have hlen : Gen.c08Alphabet.length ≤ 990 + 330 := by decide +kernel
  rw [← List.take_append_drop 330 Gen.c08Alphabet, List.mem_append] at hk
  rcases hk with hk | hk
  · exact coverSlice_spec cover_0 k (by simpa using hk)
  rw [← List.take_append_drop 330 (Gen.c08Alphabet.drop 330), List.mem_append, List.drop_drop] at hk
  rcases hk with hk | hk
  · exact coverSlice_spec cover_1 k hk
  rw [← List.take_append_drop 330 (Gen.c08Alphabet.drop 660), List.mem_append, List.drop_drop] at hk
  rcases hk with hk | hk
  · exact coverSlice_spec cover_2 k hk
  · refine coverSlice_spec cover_3 k ?_
    rwa [List.take_of_length_le (by rw [List.length_drop]; omega)]

end Pylx.C08
