/-
  What the tokenizer model computes, said once: `peek_token` in terms of `impl_peek_token`, the leaf readers
  characterised, and one case lemma per dispatch function of `peekImpl` in which every leaf comes with the
  conditions under which it is reached.  A property of all answers of the tokenizer is proved by going through
  the case lemmas once; a proof that evaluates the tokenizer on a given shape of input uses the guarded equations.
-/
import PylxProofs.BasicLemmas
namespace Pylx

section peekTok
variable {tol : Bool} {ps : PState} {s : Str} {p : Nat} {t : Token}

theorem peekTok_tok_iff : peekTok tol ps s p = .tok t ↔
    peekImpl ps s p = .tok t ∨ (tol = true ∧ ∃ w ep r, peekImpl ps s p = .err w ep t r) := by
  unfold peekTok
  cases peekImpl ps s p with
  | tok t' => simp
  | eos f => simp
  | err w ep t' r => cases tol <;> simp

theorem peekTok_eos_iff {f : Str} : peekTok tol ps s p = .eos f ↔ peekImpl ps s p = .eos f := by
  unfold peekTok
  cases peekImpl ps s p with
  | tok t' => simp
  | eos f => simp
  | err w ep t' r => cases tol <;> simp

theorem peekTok_err_iff {w : TokErr} {ep r : Nat} : peekTok tol ps s p = .err w ep t r ↔
    tol = false ∧ peekImpl ps s p = .err w ep t r := by
  unfold peekTok
  cases peekImpl ps s p with
  | tok t' => simp
  | eos f => simp
  | err w ep t' r => cases tol <;> simp

theorem peekTok_false (ps : PState) (s : Str) (p : Nat) : peekTok false ps s p = peekImpl ps s p := by
  unfold peekTok
  cases peekImpl ps s p <;> rfl

end peekTok

theorem takeWhile_next {α : Type} (p : α → Bool) :
    ∀ (l : List α) (c : α), l[(l.takeWhile p).length]? = some c → p c = false
  | [], c, h => by simp at h
  | a :: l, c, h => by
    rw [List.takeWhile_cons] at h
    cases hp : p a with
    | true =>
      rw [hp] at h
      simp only [if_true, List.length_cons, List.getElem?_cons_succ] at h
      exact takeWhile_next p l c h
    | false =>
      rw [hp] at h
      simp at h
      rw [← h]; exact hp

theorem spaceRun_next {s : Str} {pos : Nat} {c : Char} (h : s[pos + (spaceRun s pos).length]? = some c) :
    isPySpace c = false := by
  rw [← List.getElem?_drop] at h
  exact takeWhile_next isPySpace _ c h

theorem spaceRun_nil {s : Str} {pos : Nat} {c : Char} (h : s[pos]? = some c) (hc : isPySpace c = false) :
    spaceRun s pos = [] := by
  have hlt := getElem?_lt _ _ _ h
  unfold spaceRun
  rw [List.drop_eq_getElem_cons hlt, List.takeWhile_cons]
  rw [List.getElem?_eq_getElem hlt] at h
  cases h
  rw [hc]; rfl

theorem postSpaceAt_prefix (s : Str) (e : Nat) : postSpaceAt s e <+: s.drop e := by
  unfold postSpaceAt
  dsimp only
  split
  · exact (List.take_prefix _ _).trans (spaceRun_prefix s e)
  · exact spaceRun_prefix s e

section leaves
variable {ps : PState} {s : Str} {p : Nat} {pre : Str}

theorem testSpecials_fold (s : Str) (p : Nat) (keys : List Str) :
    ∀ (all : List Str) (init : Option Str), (∀ k ∈ keys, k ∈ all) →
      (∀ b, init = some b → b ∈ all ∧ b ≠ [] ∧ startsWithAt s b p = true) →
      ∀ b, keys.foldl (specialsStep s p) init = some b → b ∈ all ∧ b ≠ [] ∧ startsWithAt s b p = true := by
  induction keys with
  | nil => intro all init _ hinit b hb; exact hinit b hb
  | cons x xs ih =>
    intro all init hall hinit b hb
    rw [List.foldl_cons] at hb
    refine ih all _ (fun k hk => hall k (List.mem_cons_of_mem _ hk)) ?_ b hb
    intro b' hb'
    unfold specialsStep at hb'
    split at hb'
    · rename_i hcond
      cases hb'
      simp only [Bool.and_eq_true, decide_eq_true_eq] at hcond
      refine ⟨hall _ List.mem_cons_self, ?_, hcond.2⟩
      intro hx
      rw [hx] at hcond
      simp at hcond
    · exact hinit b' hb'

theorem testSpecials_some {keys : List Str} {k : Str} (h : testSpecials keys s p = some k) :
    k ∈ keys ∧ k ≠ [] ∧ startsWithAt s k p = true :=
  testSpecials_fold s p keys keys none (fun _ hk => hk) (by intro b hb; cases hb) k h

theorem readMathGeneral_eq_some {t : Token} : readMathGeneral ps s p pre = some t ↔
    ∃ d disp, ps.t.mathAll.find? (fun x => startsWithAt s x.1 p) = some (d, disp) ∧ t = mathTok p pre d disp := by
  unfold readMathGeneral
  cases ps.t.mathAll.find? (fun x => startsWithAt s x.1 p) with
  | none => simp
  | some x =>
    simp only [Option.map_some, Option.some.injEq]
    exact ⟨fun h => ⟨x.1, x.2, rfl, h.symm⟩, fun ⟨d, disp, hx, ht⟩ => by cases hx; exact ht.symm⟩

/-- `impl_maybe_read_math_mode_delimiter`: in math mode the expected closing delimiter is tried first, then the
    first delimiter of the table (longest first) that is present at `p` -/
theorem readMath_eq_some {t : Token} : readMath ps s p pre = some t ↔
    ∃ d disp, t = mathTok p pre d disp ∧ startsWithAt s d p = true ∧
      ((ps.f.inMath = true ∧ ps.t.expectClose = some (d, disp)) ∨
       ((ps.f.inMath = true → ∀ cd, ps.t.expectClose = some cd → startsWithAt s cd.1 p = false) ∧
        ps.t.mathAll.find? (fun x => startsWithAt s x.1 p) = some (d, disp))) := by
  have general : ∀ (hno : ps.f.inMath = true → ∀ cd, ps.t.expectClose = some cd → startsWithAt s cd.1 p = false),
      readMathGeneral ps s p pre = some t ↔ ∃ d disp, t = mathTok p pre d disp ∧ startsWithAt s d p = true ∧
      ((ps.f.inMath = true ∧ ps.t.expectClose = some (d, disp)) ∨
       ((ps.f.inMath = true → ∀ cd, ps.t.expectClose = some cd → startsWithAt s cd.1 p = false) ∧
        ps.t.mathAll.find? (fun x => startsWithAt s x.1 p) = some (d, disp))) := by
    intro hno
    rw [readMathGeneral_eq_some]
    constructor
    · rintro ⟨d, disp, hf, ht⟩
      exact ⟨d, disp, ht, by simpa using List.find?_some hf, Or.inr ⟨hno, hf⟩⟩
    · rintro ⟨d, disp, ht, hsw, ⟨him, hec⟩ | ⟨_, hf⟩⟩
      · rw [hno him _ hec] at hsw; cases hsw
      · exact ⟨d, disp, hf, ht⟩
  unfold readMath
  split
  · rename_i him
    split
    · rename_i cd hcd
      split
      · rename_i hsw
        constructor
        · intro h; cases h
          exact ⟨cd.1, cd.2, rfl, hsw, Or.inl ⟨him, hcd⟩⟩
        · rintro ⟨d, disp, ht, _, ⟨_, hec⟩ | ⟨hno, _⟩⟩
          · rw [hcd] at hec; cases hec; rw [ht]
          · rw [hno him cd hcd] at hsw; cases hsw
      · rename_i hsw
        exact general (fun _ cd' h' => by rw [hcd] at h'; cases h'; simpa using hsw)
    · rename_i hnone
      exact general (fun _ cd' h' => by rw [hnone] at h'; cases h')
  · rename_i him
    exact general (fun h => absurd h him)

theorem readMath_eq_none : readMath ps s p pre = none ↔
    (ps.f.inMath = true → ∀ cd, ps.t.expectClose = some cd → startsWithAt s cd.1 p = false) ∧
    ∀ x ∈ ps.t.mathAll, startsWithAt s x.1 p = false := by
  rw [← Option.not_isSome_iff_eq_none, Option.isSome_iff_exists]
  simp only [readMath_eq_some]
  constructor
  · intro h
    have hno : ps.f.inMath = true → ∀ cd, ps.t.expectClose = some cd → startsWithAt s cd.1 p = false := by
      intro him cd hcd
      cases hsw : startsWithAt s cd.1 p with
      | false => rfl
      | true => exact absurd ⟨_, cd.1, cd.2, rfl, hsw, Or.inl ⟨him, hcd⟩⟩ h
    refine ⟨hno, fun x hx => ?_⟩
    cases hf : ps.t.mathAll.find? (fun x => startsWithAt s x.1 p) with
    | none => simpa using List.find?_eq_none.mp hf x hx
    | some y => exact absurd ⟨_, y.1, y.2, rfl, by simpa using List.find?_some hf, Or.inr ⟨hno, hf⟩⟩ h
  · rintro ⟨hno, hall⟩ ⟨t, d, disp, _, hsw, ⟨him, hec⟩ | ⟨_, hf⟩⟩
    · rw [hno him _ hec] at hsw; cases hsw
    · rw [hall _ (List.mem_of_find?_eq_some hf)] at hsw; cases hsw

theorem envWordStr_length (b : Bool) : (envWordStr b).length = envWordLen b := by cases b <;> rfl

theorem envWordAt_some {b : Bool} (h : envWordAt ps s p = some b) :
    ps.f.enEnvs = true ∧ startsWithAt s (envWordStr b) (p + 1) = true ∧
      notFollowedByAlpha ps s (p + 1 + envWordLen b) = true := by
  unfold envWordAt at h
  split at h
  · rename_i b' hw
    split at h
    · rename_i hn
      cases h
      unfold envWord at hw
      split at hw
      · rename_i he
        split at hw
        · rename_i h1; cases hw; exact ⟨he, h1, hn⟩
        · split at hw
          · rename_i h2; cases hw; exact ⟨he, h2, hn⟩
          · cases hw
      · cases hw
    · cases h
  · cases h

theorem envWordAt_eq_none_of (h : ∀ b, startsWithAt s (envWordStr b) (p + 1) = true →
    notFollowedByAlpha ps s (p + 1 + envWordLen b) = false) : envWordAt ps s p = none := by
  cases hb : envWordAt ps s p with
  | none => rfl
  | some b =>
    obtain ⟨_, h1, h2⟩ := envWordAt_some hb
    rw [h b h1] at h2
    cases h2

theorem envWordAt_of {b : Bool} (he : ps.f.enEnvs = true) (hsw : startsWithAt s (envWordStr b) (p + 1) = true)
    (hnf : notFollowedByAlpha ps s (p + 1 + envWordLen b) = true) : envWordAt ps s p = some b := by
  unfold envWordAt envWord
  rw [if_pos he]
  cases b with
  | true =>
    rw [if_pos (show startsWithAt s "begin".toList (p + 1) = true from hsw)]
    dsimp only
    rw [if_pos hnf]
  | false =>
    have hsw' : List.isPrefixOf ['e', 'n', 'd'] (s.drop (p + 1)) = true := hsw
    have hb : startsWithAt s "begin".toList (p + 1) = false := by
      unfold startsWithAt
      cases hl : s.drop (p + 1) with
      | nil => rfl
      | cons a l =>
        rw [hl] at hsw'
        simp only [List.isPrefixOf, Bool.and_eq_true, beq_iff_eq] at hsw'
        obtain ⟨rfl, _⟩ := hsw'
        rfl
    rw [hb]
    simp only [Bool.false_eq_true, if_false]
    rw [if_pos (show startsWithAt s "end".toList (p + 1) = true from hsw)]
    dsimp only
    rw [if_pos hnf]

theorem envWordAt_le {b : Bool} (h : envWordAt ps s p = some b) : p + 1 + envWordLen b ≤ s.length := by
  have := startsWithAt_le (envWordAt_some h).2.1 (by cases b <;> simp [envWordStr])
  rwa [envWordStr_length] at this

theorem envWordLen_pos (b : Bool) : 0 < envWordLen b := by cases b <;> simp [envWordLen]

end leaves

/-! ### the dispatch tree

`peekImpl → peekPar | eos | peekAtChar → readMath | peekEscape → readEnvironment | readMacro | peekComment →
readComment | peekGroups → brace_open | brace_close | peekSpecialsOrChar → specials | charToken`. -/

def TokAll (Q : Token → Prop) (r : PeekRes) : Prop := ∀ t, r = .tok t → Q t

section dispatch
variable {ps : PState} {s : Str} {p0 p : Nat} {c : Char} {pre : Str} {P : PeekRes → Prop}

theorem peekSpecialsOrChar_cases
    (spec : ∀ k, (ps.f.hasCtx && ps.f.enSpecials) = true → testSpecials ps.f.specials s p = some k →
      P (.tok { kind := .specials, arg := k, pos := p, posEnd := p + k.length, pre := pre }))
    (bad : ((ps.f.hasCtx && ps.f.enSpecials) = true → testSpecials ps.f.specials s p = none) →
      ps.f.forbidden.contains c = true →
      P (.err .forbiddenChar p { kind := .char, arg := [c], pos := p, posEnd := p + 1, pre := pre } (p + 1)))
    (chr : ((ps.f.hasCtx && ps.f.enSpecials) = true → testSpecials ps.f.specials s p = none) →
      ps.f.forbidden.contains c = false →
      P (.tok { kind := .char, arg := [c], pos := p, posEnd := p + 1, pre := pre })) :
    P (peekSpecialsOrChar ps s p c pre) := by
  unfold peekSpecialsOrChar charToken
  split
  · rename_i k hk
    split at hk
    · rename_i hen; exact spec k hen hk
    · cases hk
  · rename_i hn
    have hn' : (ps.f.hasCtx && ps.f.enSpecials) = true → testSpecials ps.f.specials s p = none :=
      fun h => by rw [if_pos h] at hn; exact hn
    dsimp only
    split
    · rename_i hf; exact bad hn' hf
    · rename_i hf; exact chr hn' (by simpa using hf)

theorem peekGroups_cases
    (open_ : ps.f.enGroups = true → ps.t.groupByOpen.any (fun d => d.1 == [c]) = true →
      P (.tok { kind := .braceOpen, arg := [c], pos := p, posEnd := p + 1, pre := pre }))
    (close : ps.f.enGroups = true → ps.t.groupByOpen.any (fun d => d.1 == [c]) = false →
      ps.t.groupClose.any (fun d => d == [c]) = true →
      P (.tok { kind := .braceClose, arg := [c], pos := p, posEnd := p + 1, pre := pre }))
    (rest : (ps.f.enGroups = true → ps.t.groupByOpen.any (fun d => d.1 == [c]) = false ∧
        ps.t.groupClose.any (fun d => d == [c]) = false) → P (peekSpecialsOrChar ps s p c pre)) :
    P (peekGroups ps s p c pre) := by
  unfold peekGroups
  split
  · rename_i hg
    split
    · rename_i ho; exact open_ hg ho
    · rename_i ho
      split
      · rename_i hc; exact close hg (Bool.eq_false_iff.mpr ho) hc
      · rename_i hc; exact rest (fun _ => ⟨Bool.eq_false_iff.mpr ho, Bool.eq_false_iff.mpr hc⟩)
  · rename_i hg
    exact rest (fun h => absurd h hg)

theorem peekComment_cases
    (eof : ps.f.enComments = true → startsWithAt s ps.f.commentStart p = true → ps.f.commentStart ≠ [] →
      findCharFrom s '\n' (p + ps.f.commentStart.length) = none →
      P (.tok { kind := .comment, arg := slice s (p + ps.f.commentStart.length) s.length, pos := p,
                posEnd := s.length, pre := pre }))
    (nl : ∀ n post, ps.f.enComments = true → startsWithAt s ps.f.commentStart p = true → ps.f.commentStart ≠ [] →
      findCharFrom s '\n' (p + ps.f.commentStart.length) = some n → post = postSpaceAt s n →
      P (.tok { kind := .comment, arg := slice s (p + ps.f.commentStart.length) n, pos := p,
                posEnd := n + post.length, pre := pre, post := post }))
    (rest : ¬ (ps.f.enComments && startsWithAt s ps.f.commentStart p && !ps.f.commentStart.isEmpty) = true →
      P (peekGroups ps s p c pre)) :
    P (peekComment ps s p c pre) := by
  unfold peekComment
  split
  · rename_i hc
    simp only [Bool.and_eq_true, Bool.not_eq_eq_eq_not, Bool.not_true, List.isEmpty_eq_false_iff] at hc
    unfold readComment
    dsimp only
    split
    · rename_i hf; exact eof hc.1.1 hc.1.2 hc.2 hf
    · rename_i n hf; exact nl n _ hc.1.1 hc.1.2 hc.2 hf rfl
  · rename_i hc; exact rest hc

theorem peekEscape_cases
    (envErr : ∀ b, c = ps.f.escapeChar → envWordAt ps s p = some b → readEnvName s (p + 1 + envWordLen b) = none →
      P (.err .badEnvName p { kind := .char, arg := ps.f.escapeChar :: envWordStr b, pos := p,
                              posEnd := p + (1 + envWordLen b), pre := pre } (p + (1 + envWordLen b))))
    (env : ∀ b name e, c = ps.f.escapeChar → envWordAt ps s p = some b →
      readEnvName s (p + 1 + envWordLen b) = some (name, e) →
      P (.tok { kind := if b then .beginEnv else .endEnv, arg := name, pos := p, posEnd := e, pre := pre }))
    (escEnd : c = ps.f.escapeChar → envWordAt ps s p = none → ps.f.enMacros = true → s[p+1]? = none →
      P (.err .escapeAtEnd (p+1) { kind := .char, arg := [], pos := p, posEnd := p + 1, pre := pre } s.length))
    (word : ∀ c1 rest post, c = ps.f.escapeChar → envWordAt ps s p = none → ps.f.enMacros = true →
      s[p+1]? = some c1 → ps.f.macroAlpha.contains c1 = true →
      rest = (s.drop (p+2)).takeWhile (fun x => ps.f.macroAlpha.contains x) →
      post = postSpaceAt s (p + 2 + rest.length) →
      P (.tok { kind := .macro, arg := c1 :: rest, pos := p, posEnd := p + 2 + rest.length + post.length,
                pre := pre, post := post }))
    (sym : ∀ c1, c = ps.f.escapeChar → envWordAt ps s p = none → ps.f.enMacros = true →
      s[p+1]? = some c1 → ps.f.macroAlpha.contains c1 = false →
      P (.tok { kind := .macro, arg := [c1], pos := p, posEnd := p + 2, pre := pre }))
    (rest : ((c == ps.f.escapeChar) = true → envWordAt ps s p = none ∧ ps.f.enMacros = false) →
      P (peekComment ps s p c pre)) :
    P (peekEscape ps s p c pre) := by
  unfold peekEscape
  split
  · rename_i hc
    have hc' : c = ps.f.escapeChar := by simpa using hc
    split
    · rename_i b hb
      unfold readEnvironment
      split
      · rename_i hn; exact envErr b hc' hb hn
      · rename_i name e hn; exact env b name e hc' hb hn
    · rename_i hb
      split
      · rename_i hm
        unfold readMacro
        split
        · rename_i h1; exact escEnd hc' hb hm h1
        · rename_i c1 h1
          split
          · rename_i ha; exact word c1 _ _ hc' hb hm h1 ha rfl rfl
          · rename_i ha; exact sym c1 hc' hb hm h1 (by simpa using ha)
      · rename_i hm; exact rest (fun _ => ⟨hb, by simpa using hm⟩)
  · rename_i hc; exact rest (fun h => absurd h hc)

theorem peekAtChar_cases
    (math : ∀ t, (ps.t.mathStart.contains c && ps.f.enMath) = true → readMath ps s p pre = some t → P (.tok t))
    (rest : ((ps.t.mathStart.contains c && ps.f.enMath) = true → readMath ps s p pre = none) →
      P (peekEscape ps s p c pre)) :
    P (peekAtChar ps s p c pre) := by
  unfold peekAtChar
  split
  · rename_i hm
    split
    · rename_i t ht; exact math t hm ht
    · rename_i ht; exact rest (fun _ => ht)
  · rename_i hm; exact rest (fun h => absurd h hm)

/-- a paragraph break is one token from the first newline of the whitespace to its last: the specials `\n\n` if
    the context declares them, else a `char` token -/
theorem peekPar_eq (ps : PState) (s : Str) (p0 : Nat) (pre : Str) :
    peekPar ps s p0 pre = .tok
      { kind := if parSpecials ps then .specials else .char,
        arg := if parSpecials ps then ['\n', '\n'] else slice s (p0 + firstNl pre) (p0 + lastNlEnd pre),
        pos := p0 + firstNl pre, posEnd := p0 + lastNlEnd pre, pre := pre.take (firstNl pre) } := by
  unfold peekPar
  split <;> rfl

theorem peekImpl_cases (hpre : pre = spaceRun s p0) (hp : p = p0 + pre.length)
    (par : ps.f.enDblNl = true → countNl pre ≥ 2 → P (peekPar ps s p0 pre))
    (eos : s[p]? = none → ¬ (ps.f.enDblNl = true ∧ countNl pre ≥ 2) → P (.eos pre))
    (at_ : ∀ c, s[p]? = some c → isPySpace c = false → ¬ (ps.f.enDblNl = true ∧ countNl pre ≥ 2) →
      P (peekAtChar ps s p c pre)) :
    P (peekImpl ps s p0) := by
  subst hpre hp
  unfold peekImpl
  dsimp only
  split
  · rename_i h
    simp only [Bool.and_eq_true, decide_eq_true_eq] at h
    exact par h.1 h.2
  · rename_i h
    simp only [Bool.and_eq_true, decide_eq_true_eq] at h
    split
    · rename_i hn; exact eos hn h
    · rename_i c hc; exact at_ c hc (spaceRun_next hc) h

/-- all thirteen answers of the reader at a character, each with the facts that hold where it is given
    (the conditions that rule the other answers out are in the case lemmas above) -/
theorem peekAtChar_leaves
    (math : ∀ t, (ps.t.mathStart.contains c && ps.f.enMath) = true → readMath ps s p pre = some t → P (.tok t))
    (envErr : ∀ b, c = ps.f.escapeChar → envWordAt ps s p = some b →
      P (.err .badEnvName p { kind := .char, arg := ps.f.escapeChar :: envWordStr b, pos := p,
                              posEnd := p + (1 + envWordLen b), pre := pre } (p + (1 + envWordLen b))))
    (env : ∀ b name e, c = ps.f.escapeChar → envWordAt ps s p = some b →
      readEnvName s (p + 1 + envWordLen b) = some (name, e) →
      P (.tok { kind := if b then .beginEnv else .endEnv, arg := name, pos := p, posEnd := e, pre := pre }))
    (escEnd : c = ps.f.escapeChar → s[p+1]? = none →
      P (.err .escapeAtEnd (p+1) { kind := .char, arg := [], pos := p, posEnd := p + 1, pre := pre } s.length))
    (word : ∀ c1 rest post, c = ps.f.escapeChar → s[p+1]? = some c1 →
      rest = (s.drop (p+2)).takeWhile (fun x => ps.f.macroAlpha.contains x) →
      post = postSpaceAt s (p + 2 + rest.length) →
      P (.tok { kind := .macro, arg := c1 :: rest, pos := p, posEnd := p + 2 + rest.length + post.length,
                pre := pre, post := post }))
    (sym : ∀ c1, c = ps.f.escapeChar → s[p+1]? = some c1 →
      P (.tok { kind := .macro, arg := [c1], pos := p, posEnd := p + 2, pre := pre }))
    (comEof : startsWithAt s ps.f.commentStart p = true → ps.f.commentStart ≠ [] →
      P (.tok { kind := .comment, arg := slice s (p + ps.f.commentStart.length) s.length, pos := p,
                posEnd := s.length, pre := pre }))
    (comNl : ∀ n post, startsWithAt s ps.f.commentStart p = true → ps.f.commentStart ≠ [] →
      findCharFrom s '\n' (p + ps.f.commentStart.length) = some n → post = postSpaceAt s n →
      P (.tok { kind := .comment, arg := slice s (p + ps.f.commentStart.length) n, pos := p,
                posEnd := n + post.length, pre := pre, post := post }))
    (open_ : ps.t.groupByOpen.any (fun d => d.1 == [c]) = true →
      P (.tok { kind := .braceOpen, arg := [c], pos := p, posEnd := p + 1, pre := pre }))
    (close : ps.t.groupClose.any (fun d => d == [c]) = true →
      P (.tok { kind := .braceClose, arg := [c], pos := p, posEnd := p + 1, pre := pre }))
    (spec : ∀ k, testSpecials ps.f.specials s p = some k →
      P (.tok { kind := .specials, arg := k, pos := p, posEnd := p + k.length, pre := pre }))
    (bad : ps.f.forbidden.contains c = true →
      P (.err .forbiddenChar p { kind := .char, arg := [c], pos := p, posEnd := p + 1, pre := pre } (p + 1)))
    (chr : ps.f.forbidden.contains c = false →
      P (.tok { kind := .char, arg := [c], pos := p, posEnd := p + 1, pre := pre })) :
    P (peekAtChar ps s p c pre) :=
  peekAtChar_cases math fun _ =>
  peekEscape_cases (fun b hc hb _ => envErr b hc hb) env (fun hc _ _ => escEnd hc)
    (fun c1 rest post hc _ _ h1 _ => word c1 rest post hc h1) (fun c1 hc _ _ h1 _ => sym c1 hc h1) fun _ =>
  peekComment_cases (fun _ hs hne _ => comEof hs hne) (fun n post _ => comNl n post) fun _ =>
  peekGroups_cases (fun _ => open_) (fun _ _ => close) fun _ =>
  peekSpecialsOrChar_cases (fun k _ => spec k) (fun _ => bad) (fun _ => chr)

theorem peekAtChar_eq_math {t : Token} (hm : (ps.t.mathStart.contains c && ps.f.enMath) = true)
    (ht : readMath ps s p pre = some t) : peekAtChar ps s p c pre = .tok t := by
  unfold peekAtChar
  rw [if_pos hm, ht]

theorem peekAtChar_eq_escape (h : (ps.t.mathStart.contains c && ps.f.enMath) = true → readMath ps s p pre = none) :
    peekAtChar ps s p c pre = peekEscape ps s p c pre := by
  unfold peekAtChar
  split
  · rename_i hm; rw [h hm]
  · rfl

theorem peekEscape_eq_env {b : Bool} (hc : c = ps.f.escapeChar) (hb : envWordAt ps s p = some b) :
    peekEscape ps s p c pre = readEnvironment ps s p b pre := by
  unfold peekEscape
  rw [if_pos (by simpa using hc), hb]

theorem peekEscape_eq_macro (hc : c = ps.f.escapeChar) (hb : envWordAt ps s p = none) (hm : ps.f.enMacros = true) :
    peekEscape ps s p c pre = readMacro ps s p pre := by
  unfold peekEscape
  rw [if_pos (by simpa using hc), hb]
  dsimp only
  rw [if_pos hm]

theorem peekEscape_eq_comment (h : (c == ps.f.escapeChar) = true → envWordAt ps s p = none ∧ ps.f.enMacros = false) :
    peekEscape ps s p c pre = peekComment ps s p c pre := by
  unfold peekEscape
  split
  · rename_i hc
    rw [(h hc).1]
    dsimp only
    rw [(h hc).2]
    rfl
  · rfl

theorem peekComment_eq_read (h1 : ps.f.enComments = true) (h2 : startsWithAt s ps.f.commentStart p = true)
    (h3 : ps.f.commentStart ≠ []) : peekComment ps s p c pre = readComment ps s p pre := by
  unfold peekComment
  rw [if_pos (by simp [h1, h2, h3])]

theorem peekComment_eq_groups
    (h : ¬ (ps.f.enComments && startsWithAt s ps.f.commentStart p && !ps.f.commentStart.isEmpty) = true) :
    peekComment ps s p c pre = peekGroups ps s p c pre := by
  unfold peekComment
  rw [if_neg h]

theorem peekGroups_open (hg : ps.f.enGroups = true) (ho : ps.t.groupByOpen.any (fun d => d.1 == [c]) = true) :
    peekGroups ps s p c pre = .tok { kind := .braceOpen, arg := [c], pos := p, posEnd := p + 1, pre := pre } := by
  unfold peekGroups
  rw [if_pos hg, if_pos ho]

theorem peekGroups_close (hg : ps.f.enGroups = true) (ho : ps.t.groupByOpen.any (fun d => d.1 == [c]) = false)
    (hc : ps.t.groupClose.any (fun d => d == [c]) = true) :
    peekGroups ps s p c pre = .tok { kind := .braceClose, arg := [c], pos := p, posEnd := p + 1, pre := pre } := by
  unfold peekGroups
  rw [if_pos hg, ho, if_pos hc]
  rfl

theorem peekGroups_eq_specialsOrChar (h : ps.f.enGroups = true → ps.t.groupByOpen.any (fun d => d.1 == [c]) = false ∧
    ps.t.groupClose.any (fun d => d == [c]) = false) :
    peekGroups ps s p c pre = peekSpecialsOrChar ps s p c pre := by
  unfold peekGroups
  split
  · rename_i hg
    rw [(h hg).1, (h hg).2]
    rfl
  · rfl

theorem peekSpecialsOrChar_some {k : Str} (hen : (ps.f.hasCtx && ps.f.enSpecials) = true)
    (hk : testSpecials ps.f.specials s p = some k) :
    peekSpecialsOrChar ps s p c pre = .tok { kind := .specials, arg := k, pos := p, posEnd := p + k.length, pre := pre } := by
  unfold peekSpecialsOrChar
  rw [if_pos hen, hk]

theorem peekSpecialsOrChar_char (hk : (ps.f.hasCtx && ps.f.enSpecials) = true → testSpecials ps.f.specials s p = none)
    (hf : ps.f.forbidden.contains c = false) :
    peekSpecialsOrChar ps s p c pre = .tok { kind := .char, arg := [c], pos := p, posEnd := p + 1, pre := pre } := by
  unfold peekSpecialsOrChar charToken
  split
  · rename_i k hk'
    split at hk'
    · rename_i hen; rw [hk hen] at hk'; cases hk'
    · cases hk'
  · rw [hf]; rfl

theorem readMacro_sym {c1 : Char} (h1 : s[p+1]? = some c1) (ha : ps.f.macroAlpha.contains c1 = false) :
    readMacro ps s p pre = .tok { kind := .macro, arg := [c1], pos := p, posEnd := p + 2, pre := pre } := by
  unfold readMacro
  rw [h1]
  dsimp only
  rw [ha]
  rfl

theorem readMacro_word {c1 : Char} {rest post : Str} (h1 : s[p+1]? = some c1) (ha : ps.f.macroAlpha.contains c1 = true)
    (hrest : (s.drop (p+2)).takeWhile (fun x => ps.f.macroAlpha.contains x) = rest)
    (hpost : postSpaceAt s (p + 2 + rest.length) = post) :
    readMacro ps s p pre = .tok { kind := .macro, arg := c1 :: rest, pos := p, posEnd := p + 2 + rest.length + post.length,
                                  pre := pre, post := post } := by
  unfold readMacro
  rw [h1]
  dsimp only
  rw [if_pos ha, hrest, hpost]

theorem readComment_nl {n : Nat} {post : Str} (hf : findCharFrom s '\n' (p + ps.f.commentStart.length) = some n)
    (hpost : postSpaceAt s n = post) :
    readComment ps s p pre = .tok { kind := .comment, arg := slice s (p + ps.f.commentStart.length) n, pos := p,
                                    posEnd := n + post.length, pre := pre, post := post } := by
  unfold readComment
  dsimp only
  rw [hf]
  dsimp only
  rw [hpost]

theorem peekImpl_eq_atChar (hpre : spaceRun s p0 = pre) (hnl : countNl pre < 2) (hc : s[p0 + pre.length]? = some c) :
    peekImpl ps s p0 = peekAtChar ps s (p0 + pre.length) c pre := by
  unfold peekImpl
  dsimp only
  rw [hpre, if_neg (by simp; omega), hc]

theorem peekImpl_eq_par (hpre : spaceRun s p0 = pre) (hdn : ps.f.enDblNl = true) (hn : countNl pre ≥ 2) :
    peekImpl ps s p0 = peekPar ps s p0 pre := by
  unfold peekImpl
  dsimp only
  rw [hpre, if_pos (by simp [hdn, hn])]

theorem peekAtChar_ne_eos (f : Str) : peekAtChar ps s p c pre ≠ .eos f := by
  apply peekAtChar_leaves (P := fun r => r ≠ .eos f)
  all_goals intros; intro h; cases h

theorem peekImpl_eos_iff {f : Str} : peekImpl ps s p0 = .eos f ↔
    f = spaceRun s p0 ∧ s[p0 + f.length]? = none ∧ ¬ (ps.f.enDblNl = true ∧ countNl f ≥ 2) := by
  constructor
  · refine peekImpl_cases (P := fun r => r = .eos f → _) rfl rfl ?_ ?_ ?_
    · intro _ _ h; rw [peekPar_eq] at h; cases h
    · intro hn hc h; cases h; exact ⟨rfl, hn, hc⟩
    · intro c _ _ _ h; exact absurd h (peekAtChar_ne_eos f)
  · rintro ⟨rfl, hn, hc⟩
    unfold peekImpl
    dsimp only
    rw [if_neg (by simpa using hc), hn]

theorem peekImpl_at_nonspace {ps : PState} {s : Str} {pos : Nat} {c : Char}
    (h : s[pos]? = some c) (hc : isPySpace c = false) : peekImpl ps s pos = peekAtChar ps s pos c [] :=
  peekImpl_eq_atChar (spaceRun_nil h hc) (by decide) h

end dispatch

end Pylx
