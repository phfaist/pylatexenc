/-
  C03SRound — the exact round trip on the core fragment (step 1 of the string-level statement of C03): the strict
  parse of the source of a `Doc.Core` document is, up to positions and parsing states, exactly `exactOf ctx d` — the
  characters of every chars node (whitespace-only ones included), post-spaces, comments, delimiters, argument lists
  with their absent slots, and the source slices of math and environment nodes.

  The idea: a prefix lemma over every collector state (`items_reachX` / `args_reachX`), by induction on the size of the
  derivation of `coreItems` / `coreArgs` (`core_items` / `core_args`), with one lemma per construct (`step_*X`,
  `*_nodeX`) whose recursive parts are hypotheses.  The collector decides what a whitespace run is only when it sees
  what follows it, so the lemmas carry whitespace "in hand" (`ReachesWX`); node lists are compared up to `mergeX`, and
  the invariant that the collector never produces two adjacent chars nodes (`Canon`, `PylxProofs/C03SX.lean`) makes
  the parsed list its own `mergeX` at the top level.  Results of tasks are stated for every sufficiently large amount of
  fuel (`Ev`).  The shape-level statements of C02 (`PylxProofs/C02.lean`) are projections of the ones here.
-/
import PylxProofs.C03SX
import PylxProofs.C01
namespace Pylx.L2T.C03S
open Pylx Pylx.Doc Pylx.C02

section constructs
variable {env : Pylx.Env} {keys : List Str}

/-- `ReachesX` with whitespace in hand: the collector stands in front of the whitespace `w` (not yet read) followed by
    text that spells the shapes `trA`; it gets to a state in front of some whitespace `w'` followed by `tail`, and what
    it has produced plus `w'` is what `w` plus `trA` stand for -/
def ReachesWX (env : Pylx.Env) (L : PSFields) (stop : StopTok) (child : ChildPS) (st : LoopSt) (w : Str) (trA : List XNode)
    (tail : Str) : Prop :=
  ∃ tr n w', ReachesX env L stop child st tr n ∧ env.s.drop (st.pos + n) = w' ++ tail ∧ isWs w' = true ∧ countNl w' < 2 ∧
    mergeX (tr ++ pendX w') = mergeX (pendX w ++ trA)

theorem ReachesWX.step_ex {L : PSFields} {stop : StopTok} {child : ChildPS} {st : LoopSt} {tr1 : List XNode} {n1 : Nat}
    {w : Str} {x : List XNode} {tail : Str} {Q : List XNode → Prop} (h1 : ReachesX env L stop child st tr1 n1)
    (hm : mergeX tr1 = mergeX (pendX w ++ x))
    (h2 : ∀ st1 : LoopSt, st1.pos = st.pos + n1 → ∃ trB, ReachesWX env L stop child st1 [] trB tail ∧ Q trB) :
    ∃ trB, ReachesWX env L stop child st w (x ++ trB) tail ∧ Q trB := by
  obtain ⟨st1, hp1, hs1, hc1, hk1⟩ := h1
  obtain ⟨trB, ⟨tr2, n2, w', ⟨st2, hp2, hs2, hc2, hk2⟩, hd2, hw2, hn2, hm2⟩, hQ⟩ := h2 st1 hp1
  refine ⟨trB, ⟨tr1 ++ tr2, n1 + n2, w', ⟨st2, by omega, ?_, fun h => hc2 (hc1 h), fun R h => hk1 R (hk2 R h)⟩, ?_, hw2, hn2, ?_⟩, hQ⟩
  · rw [hs2, ← List.append_assoc]
    exact mergeX_append_left hs1 tr2
  · rw [← hd2, hp1, Nat.add_assoc]
  · have e1 : mergeX (tr2 ++ pendX w') = mergeX trB := by rw [hm2]; rfl
    rw [List.append_assoc, mergeX_append_right tr1 e1, mergeX_append_left hm trB, List.append_assoc]

theorem ReachesWX.step {L : PSFields} {stop : StopTok} {child : ChildPS} {st : LoopSt} {tr1 : List XNode} {n1 : Nat}
    {w : Str} {x trB : List XNode} {tail : Str} (h1 : ReachesX env L stop child st tr1 n1)
    (hm : mergeX tr1 = mergeX (pendX w ++ x))
    (h2 : ∀ st1 : LoopSt, st1.pos = st.pos + n1 → ReachesWX env L stop child st1 [] trB tail) :
    ReachesWX env L stop child st w (x ++ trB) tail := by
  obtain ⟨_, h, rfl⟩ := ReachesWX.step_ex (Q := (· = trB)) h1 hm (fun st1 hp => ⟨trB, h2 st1 hp, rfl⟩)
  exact h

theorem ReachesWX.nil {L : PSFields} {stop : StopTok} {child : ChildPS} {st : LoopSt} {w tail : Str}
    (hd : env.s.drop st.pos = w ++ tail) (hw : isWs w = true) (hn : countNl w < 2) :
    ReachesWX env L stop child st w [] tail :=
  ⟨[], 0, w, ReachesX.refl env L stop child st, hd, hw, hn, by rw [List.nil_append, List.append_nil]⟩
theorem ReachesWX.cons {L : PSFields} {stop : StopTok} {child : ChildPS} {st : LoopSt} {w R tail : Str} {x : XNode}
    {T : List XNode} {n : Nat} (hr : ReachesX env L stop child st (pendX w ++ [x]) n) (hd : env.s.drop (st.pos + n) = R)
    (hrec : ∀ st1 : LoopSt, env.s.drop st1.pos = [] ++ R → ReachesWX env L stop child st1 [] T tail) :
    ReachesWX env L stop child st w (x :: T) tail :=
  ReachesWX.step (x := [x]) hr rfl (fun st1 hp1 => hrec st1 (by rw [hp1]; exact hd))

theorem ReachesWX.cons_at {L : PSFields} {stop : StopTok} {child : ChildPS} {st : LoopSt} {w R tail : Str} {x : XNode}
    {T : List XNode} {p : Nat} (hp : st.pos ≤ p) (hr : ReachesX env L stop child st (pendX w ++ [x]) (p - st.pos))
    (hd : env.s.drop p = R)
    (hrec : ∀ st1 : LoopSt, env.s.drop st1.pos = [] ++ R → ReachesWX env L stop child st1 [] T tail) :
    ReachesWX env L stop child st w (x :: T) tail :=
  ReachesWX.cons hr (by rw [Nat.add_sub_cancel' hp]; exact hd) hrec

section text
variable {m : Bool} {br : Xp} {md : Option Str} {stop : StopTok} {child : ChildPS}

theorem reach_charX (htol : env.tol = false) (hn : NormOk m md) (hx : XpOk br) (hk : keysCore keys = true) {st : LoopSt} {w : Str} {c : Char}
    {rest : Str} (hd : env.s.drop st.pos = w ++ c :: rest) (hw : isWs w = true) (hnl : countNl w < 2) (hc : isTextChar c = true) :
    ReachesX env (stdF keys m md true br) stop child st (pendX w ++ pendX [c]) (w.length + 1) := by
  have hps := psStd_std keys m md true br hn
  have hpk : peekImpl (mkPS (stdF keys m md true br)) env.s st.pos = _ :=
    (peekImpl_ws hd hw hnl (textChar_ne hc).2.2.2.2.2).trans (C02.peekAtChar_text hps hx hk (drop_add_of_drop hd) hc)
  have := reachX_charTok (stop := stop) (child := child) htol hpk rfl (by show st.pos ≤ st.pos + w.length + 1; omega)
  have e : st.pos + w.length + 1 - st.pos = w.length + 1 := by omega
  simp only [e] at this
  exact this

theorem reach_lettersX (htol : env.tol = false) (hn : NormOk m md) (hx : XpOk br) (hk : keysCore keys = true) :
    ∀ (t : Str) (st : LoopSt) (rest : Str), t.all isTextChar = true → env.s.drop st.pos = t ++ rest →
      ReachesX env (stdF keys m md true br) stop child st (pendX t) t.length
  | [], st, _, _, _ => ReachesX.refl env _ stop child st
  | c :: t, st, rest, hall, hd => by
    simp only [List.all_cons, Bool.and_eq_true] at hall
    have h1 := reach_charX (br := br) (stop := stop) (child := child) (w := []) htol hn hx hk (st := st) (by simpa using hd) rfl (by decide) hall.1
    have h2 := ReachesX.trans h1 (fun st1 hp => reach_lettersX htol hn hx hk t st1 rest hall.2 (by
      rw [hp]; exact drop_succ_of_drop (by simpa using hd)))
    have e : ([] : Str).length + 1 + t.length = (c :: t).length := by simp; omega
    rw [e] at h2
    refine ReachesX.congr ?_ h2
    cases t with
    | nil => rfl
    | cons d t => rfl

theorem reach_textX (htol : env.tol = false) (hn : NormOk m md) (hx : XpOk br) (hk : keysCore keys = true) {st : LoopSt} {w t rest : Str}
    (hd : env.s.drop st.pos = w ++ (t ++ rest)) (hw : isWs w = true) (hnl : countNl w < 2) (hne : t ≠ [])
    (hall : t.all isTextChar = true) :
    ReachesX env (stdF keys m md true br) stop child st (pendX w ++ [.chars t]) (w.length + t.length) := by
  cases t with
  | nil => exact absurd rfl hne
  | cons c t =>
    simp only [List.all_cons, Bool.and_eq_true] at hall
    have h1 := reach_charX (br := br) (stop := stop) (child := child) htol hn hx hk (st := st) (by simpa using hd) hw hnl hall.1
    have h2 := ReachesX.trans h1 (fun st1 hp => reach_lettersX (br := br) htol hn hx hk t st1 rest hall.2 (by
      rw [hp, ← Nat.add_assoc]
      exact drop_succ_of_drop (drop_add_of_drop (by simpa using hd))))
    have e : w.length + 1 + t.length = w.length + (c :: t).length := by simp; omega
    rw [e] at h2
    refine ReachesX.congr ?_ h2
    rw [List.append_assoc]
    apply mergeX_append_right
    cases t with
    | nil => rfl
    | cons d t => rfl

end text

section steps
variable {m : Bool} {md : Option Str}

theorem group_nodeX (htol : env.tol = false) (hn : NormOk m md) {q : Nat} {X Y : Str} {trb : List XNode}
    (hd : env.s.drop q = '{' :: X)
    (hbody : ReachesWX env (stdF keys m md true) (.braceClose ['}']) (.group ['{'] (stdF keys m md true) (stdF keys m md true))
      { pos := q + 1 } [] trb ('}' :: Y)) :
    ∃ p nd, q ≤ p ∧ env.s.drop p = Y ∧
      Ev env (.pc (.group (.auto ['{']) false false) (stdF keys m md true) q) (.ok (.node nd) p) ∧
      erase env.s nd = .group ['{'] ['}'] (some (mergeX trb)) := by
  obtain ⟨tr, n, w', hreach, hdrop, hw', hn', hm⟩ := hbody
  have hdrop' : env.s.drop (q + 1 + n) = w' ++ '}' :: Y := hdrop
  have hps := psStd_std keys m md true none hn
  have hpkc : peekImpl (mkPS (stdF keys m md true)) env.s (q + 1 + n) = _ :=
    (peekImpl_ws hdrop' hw' hn' (by decide)).trans (peekAtChar_close hps (drop_add_of_drop hdrop'))
  obtain ⟨a, b, ns, hgen, hsh⟩ := bodyX_runs htol hreach hpkc rfl rfl
  have hgrp := group_runs htol hn hd hgen
  refine ⟨_, _, ?_, drop_succ_of_drop (drop_add_of_drop hdrop'), hgrp, ?_⟩
  · show q ≤ q + 1 + n + w'.length + 1; omega
  · simp only [erase, eraseBody]
    rw [hsh]
    exact congrArg _ (congrArg _ hm)

theorem xgroup_nodeX (htol : env.tol = false) (hn : NormOk m md) {o c : Char} (hx : XpOk (some (o, c))) (opt ap : Bool) {q : Nat}
    {X Y : Str} {trb : List XNode} (hd : env.s.drop q = o :: X)
    (hbody : ReachesWX env (stdF keys m md true (some (o, c))) (.braceClose [c])
      (.group [o] (stdF keys m md true (some (o, c))) (stdF keys m md true)) { pos := q + 1 } [] trb (c :: Y)) :
    ∃ p nd, q ≤ p ∧ env.s.drop p = Y ∧
      Ev env (.pc (.group (.pair [o] [c]) opt ap) (stdF keys m md true) q) (.ok (.node nd) p) ∧
      erase env.s nd = .group [o] [c] (some (mergeX trb)) := by
  obtain ⟨tr, n, w', hreach, hdrop, hw', hn', hm⟩ := hbody
  have hdrop' : env.s.drop (q + 1 + n) = w' ++ c :: Y := hdrop
  have hps := psStd_std keys m md true (some (o, c)) hn
  have hpkc : peekImpl (mkPS (stdF keys m md true (some (o, c)))) env.s (q + 1 + n) = _ :=
    (peekImpl_ws hdrop' hw' hn' (xdelim_ne hx.2.1).2.2.2.2.2).trans (peekAtChar_xclose hps hx (drop_add_of_drop hdrop'))
  have hst : ∀ (a b : Nat), (StopTok.braceClose [c]).test { kind := TokKind.braceClose, arg := [c], pos := a, posEnd := b, pre := w' } = true := by
    intro a b
    simp [StopTok.test]
    rfl
  obtain ⟨a, b, ns, hgen, hsh⟩ := bodyX_runs htol hreach hpkc (hst _ _) rfl
  have hgrp := xgroup_runs htol hn hx opt ap hd hgen
  refine ⟨_, _, ?_, drop_succ_of_drop (drop_add_of_drop hdrop'), hgrp, ?_⟩
  · show q ≤ q + 1 + n + w'.length + 1; omega
  · simp only [erase, eraseBody]
    rw [hsh]
    exact congrArg _ (congrArg _ hm)

variable {br : Xp} {stop : StopTok} {child : ChildPS}

theorem step_groupX (htol : env.tol = false) (hn : NormOk m md)
    (hch : ∀ t : Token, (t.kind = .braceOpen → t.arg = ['{']) → child.get (stdF keys m md true br) t = stdF keys m md true)
    {st : LoopSt} {w X Y : Str} {trb : List XNode} (hd : env.s.drop st.pos = w ++ ('{' :: X)) (hw : isWs w = true)
    (hnl : countNl w < 2)
    (hbody : ReachesWX env (stdF keys m md true) (.braceClose ['}']) (.group ['{'] (stdF keys m md true) (stdF keys m md true))
      { pos := st.pos + w.length + 1 } [] trb ('}' :: Y)) :
    ∃ p, st.pos ≤ p ∧ env.s.drop p = Y ∧
      ReachesX env (stdF keys m md true br) stop child st (pendX w ++ [.group ['{'] ['}'] (some (mergeX trb))]) (p - st.pos) := by
  have hdq : env.s.drop (st.pos + w.length) = '{' :: X := drop_add_of_drop hd
  obtain ⟨p, nd, hqp, hdp, hgrp, hshape⟩ := group_nodeX htol hn hdq hbody
  have hps := psStd_std keys m md true br hn
  have hpk : peekImpl (mkPS (stdF keys m md true br)) env.s st.pos = _ :=
    (peekImpl_ws hd hw hnl (by decide)).trans (peekAtChar_open hps hdq)
  refine ⟨p, by omega, hdp, ?_⟩
  exact reachX_dispatch (stop := stop) (child := child) htol hpk (stop_test_char stop _ (Or.inr (Or.inl rfl))) rfl (by omega)
    (dispatch_group (K := stdF keys m md true) rfl (hch _ (fun _ => rfl)) hgrp) hshape rfl

theorem step_commentX (htol : env.tol = false) (hn : NormOk m md) {st : LoopSt} {w text post r : Str}
    (hd : env.s.drop st.pos = w ++ ('%' :: (text ++ '\n' :: (post ++ r)))) (hw : isWs w = true) (hnl : countNl w < 2)
    (htext : text.contains '\n' = false) (hws : isWs ('\n' :: post) = true) (hnl2 : countNl ('\n' :: post) < 2)
    (hr : headIs isPySpace r = false) :
    ∃ p, st.pos ≤ p ∧ env.s.drop p = r ∧
      ReachesX env (stdF keys m md true br) stop child st (pendX w ++ [.comment text ('\n' :: post)]) (p - st.pos) := by
  have hdq : env.s.drop (st.pos + w.length) = '%' :: (text ++ '\n' :: (post ++ r)) := drop_add_of_drop hd
  have hps := psStd_std keys m md true br hn
  have hpk : peekImpl (mkPS (stdF keys m md true br)) env.s st.pos = _ :=
    (peekImpl_ws hd hw hnl (by decide)).trans (peekAtChar_comment hps hdq htext hws hnl2 hr)
  refine ⟨st.pos + w.length + 1 + text.length + (1 + post.length), by omega, ?_, ?_⟩
  · have d1 := drop_succ_of_drop hdq
    have d2 := drop_add_of_drop d1
    have d3 := drop_succ_of_drop d2
    have d4 := drop_add_of_drop d3
    rw [← d4]; congr 1; omega
  · exact reachX_dispatch (stop := stop) (child := child) htol hpk
      (stop_test_char stop _ (Or.inr (Or.inr (Or.inr (Or.inl rfl))))) rfl
      (by show st.pos ≤ st.pos + w.length + 1 + text.length + (1 + post.length); omega) (dispatch_comment rfl) rfl rfl

/-- a comment in front of a paragraph break: the collector stops right behind the comment's text -/
theorem step_comment_parX (htol : env.tol = false) (hn : NormOk m md) {st : LoopSt} {w text R : Str}
    (hd : env.s.drop st.pos = w ++ ('%' :: (text ++ '\n' :: R))) (hw : isWs w = true) (hnl : countNl w < 2)
    (htext : text.contains '\n' = false) (hpar : parStart ('\n' :: R) = true) :
    env.s.drop (st.pos + (w.length + 1 + text.length)) = '\n' :: R ∧
      ReachesX env (stdF keys m md true br) stop child st (pendX w ++ [.comment text []]) (w.length + 1 + text.length) := by
  have hdq : env.s.drop (st.pos + w.length) = '%' :: (text ++ '\n' :: R) := drop_add_of_drop hd
  have hps := psStd_std keys m md true br hn
  have hpk : peekImpl (mkPS (stdF keys m md true br)) env.s st.pos = _ :=
    (peekImpl_ws hd hw hnl (by decide)).trans (peekAtChar_comment_par hps hdq htext hpar)
  refine ⟨?_, ?_⟩
  · have d1 := drop_succ_of_drop hdq
    have d2 := drop_add_of_drop d1
    rw [← d2]; congr 1; omega
  · have := reachX_dispatch (stop := stop) (child := child) htol hpk
      (stop_test_char stop _ (Or.inr (Or.inr (Or.inr (Or.inl rfl))))) rfl
      (by show st.pos ≤ st.pos + w.length + 1 + text.length; omega) (dispatch_comment rfl) rfl rfl
    have e : st.pos + w.length + 1 + text.length - st.pos = w.length + 1 + text.length := by omega
    rw [e] at this
    exact this

/-- a paragraph break is the specials node `\n\n` where the context declares that specials string (`parSpec`), and
    ordinary characters elsewhere -/
def parShapeX (ctx : Ctx) (x : Str) : XNode := if parSpec ctx then .specials ['\n', '\n'] (some []) else .chars x

theorem reach_parX (ctx : Ctx) (htol : env.tol = false) (hn : NormOk m md) (hctx : env.ctx = ctx) (hkeys : ctxKeys ctx = keys)
    (hpc : parCore ctx = true)
    (hch : ∀ t : Token, (t.kind = .braceOpen → t.arg = ['{']) → child.get (stdF keys m md true br) t = stdF keys m md true)
    {st : LoopSt} {x r : Str} (hd : env.s.drop st.pos = x ++ r) (hw : isWs x = true) (hnl : countNl x ≥ 2)
    (hh : x.head? = some '\n') (hl : x.getLast? = some '\n') (hr : headIs isPySpace r = false) :
    ReachesX env (stdF keys m md true br) stop child st [parShapeX ctx x] x.length := by
  have hps := psStd_std keys m md true br hn
  have hpk := peekImpl_par (ps := mkPS (stdF keys m md true br)) hd hw hnl hh hl hr hps.dn
  have hpsp : parSpecials (mkPS (stdF keys m md true br)) = parSpec ctx := by
    unfold parSpecials parSpec
    rw [hps.hc, hps.sp, ← hkeys]
    rfl
  rw [hpsp] at hpk
  unfold parShapeX
  cases hpsc : parSpec ctx with
  | true =>
    rw [hpsc] at hpk
    simp only [if_true] at hpk ⊢
    have hspec : lookupFirst ['\n', '\n'] env.ctx.specials = some (.std []) := by
      rw [hctx]
      unfold parCore at hpc
      rw [hpsc] at hpc
      obtain ⟨sig, h1, h2⟩ := std_of_match (f := List.isEmpty) hpc
      rw [h1, List.isEmpty_iff.mp h2]
    have hcall := specialsCall_runs (t := ({ kind := TokKind.specials, arg := ['\n', '\n'], pos := st.pos, posEnd := st.pos + x.length, pre := [] } : Token))
      (arguments_runs (argsEv_nil (env := env) (stdF keys m md true) [] (st.pos + x.length)))
    have := reachX_dispatch (stop := stop) (child := child) htol hpk
      (stop_test_char stop _ (Or.inr (Or.inr (Or.inr (Or.inr (Or.inl rfl)))))) rfl
      (by show st.pos ≤ st.pos + x.length; omega)
      (dispatch_specials (K := stdF keys m md true) rfl hspec (hch _ (fun h => by cases h)) hcall) rfl rfl
    have e : st.pos + x.length - st.pos = x.length := by omega
    rw [e] at this
    exact this
  | false =>
    rw [hpsc] at hpk
    simp only [Bool.false_eq_true, if_false] at hpk ⊢
    have := reachX_charTok (stop := stop) (child := child) htol hpk rfl (by show st.pos ≤ st.pos + x.length; omega)
    have e : st.pos + x.length - st.pos = x.length := by omega
    simp only [e] at this
    refine ReachesX.congr ?_ this
    have hx : x.isEmpty = false := by
      cases x with
      | nil => cases hh
      | cons c x => rfl
    show mergeX (pendX [] ++ pendX x) = _
    rw [pendX_ne hx]
    rfl

theorem step_macroX (htol : env.tol = false)
    (hch : ∀ t : Token, (t.kind = .braceOpen → t.arg = ['{']) → child.get (stdF keys m md true br) t = stdF keys m md true)
    {st : LoopSt} {w post X : Str} {c0 : Char} {name' : Str} {al : List Arg} {pA : Nat}
    (hd : env.s.drop st.pos = w ++ ('\\' :: ((c0 :: name') ++ X))) (hw : isWs w = true) (hnl : countNl w < 2)
    (htok : peekAtChar (mkPS (stdF keys m md true br)) env.s (st.pos + w.length) '\\' w =
      .tok { kind := TokKind.macro, arg := (c0 :: name'), pos := st.pos + w.length,
             posEnd := st.pos + w.length + 1 + (c0 :: name').length + post.length, pre := w, post := post })
    {a : ArgsP} {x y : Option Nat} (hspec : env.ctx.macroSpec (c0 :: name') = some a)
    (hargs : Ev env (.pc (.arguments a) (stdF keys m md true) (st.pos + w.length + 1 + (c0 :: name').length + post.length))
      (.ok (.args x y al) pA))
    (hpA : st.pos ≤ pA) :
    ReachesX env (stdF keys m md true br) stop child st (pendX w ++ [.mac (c0 :: name') post (some (eraseArgList env.s al))]) (pA - st.pos) := by
  have hpk : peekImpl (mkPS (stdF keys m md true br)) env.s st.pos = _ :=
    (peekImpl_ws hd hw hnl (by decide)).trans htok
  have hcall := macroCall_runs (t := ({ kind := TokKind.macro, arg := (c0 :: name'), pos := st.pos + w.length, posEnd := st.pos + w.length + 1 + (c0 :: name').length + post.length, pre := [], post := post } : Token)) hargs
  exact reachX_dispatch (stop := stop) (child := child) htol hpk
    (stop_test_char stop _ (Or.inr (Or.inr (Or.inl rfl)))) rfl hpA
    (dispatch_macro (K := stdF keys m md true) rfl hspec (hch _ (fun h => by cases h)) hcall) rfl rfl

theorem step_envX (htol : env.tol = false) (hn : NormOk m md)
    (hch : ∀ t : Token, (t.kind = .braceOpen → t.arg = ['{']) → child.get (stdF keys m md true br) t = stdF keys m md true)
    {st : LoopSt} {w name A B Y : Str} {sig : List ArgSpec} {bm : Bool} {al : List Arg} {pA : Nat} {trb : List XNode}
    (hd : env.s.drop st.pos = w ++ (beginStr name ++ A)) (hA : A = B ++ (endStr name ++ Y)) (hw : isWs w = true) (hnl : countNl w < 2)
    (hne : name ≠ []) (hall : name.all isEnvNameChar = true)
    (hspec : env.ctx.envSpec name = some (.std sig, bm))
    (hargs : ArgsEv env (stdF keys m md true) sig [] (st.pos + w.length + (beginStr name).length) (.ok (.args none none al) pA))
    (hpA : st.pos ≤ pA)
    (hbody : ReachesWX env (stdF keys (m || bm) (if bm then none else md) true) (.endEnv name) .same { pos := pA } [] trb
      (endStr name ++ Y)) :
    ∃ p, st.pos ≤ p ∧ env.s.drop p = Y ∧
      ReachesX env (stdF keys m md true br) stop child st
        (pendX w ++ [.env (beginStr name ++ (B ++ endStr name)) name (some (eraseArgList env.s al)) (some (mergeX trb))]) (p - st.pos) := by
  obtain ⟨tr, n, w', hreach, hdrop, hw', hn', hm⟩ := hbody
  have hdrop' : env.s.drop (pA + n) = w' ++ ('\\' :: (envWordStr false ++ '{' :: (name ++ '}' :: Y))) := by
    rw [← endStr_append]; exact hdrop
  have hnB := normOk_envBody (m := m) (md := md) hn bm
  have hpsB := psStd_std keys (m || bm) (if bm then none else md) true none hnB
  have hpkc : peekImpl (mkPS (stdF keys (m || bm) (if bm then none else md) true)) env.s (pA + n) =
      .tok { kind := TokKind.endEnv, arg := name, pos := pA + n + w'.length,
             posEnd := pA + n + w'.length + 1 + envWordLen false + 1 + name.length + 1, pre := w' } :=
    (peekImpl_ws hdrop' hw' hn' (by decide)).trans
      (peekAtChar_env hpsB (stdExpect_cases _ _) false (drop_add_of_drop hdrop') hne hall)
  have hst : ∀ (a b : Nat), (StopTok.endEnv name).test { kind := TokKind.endEnv, arg := name, pos := a, posEnd := b, pre := w' } = true := by
    intro a b
    simp [StopTok.test]
    rfl
  obtain ⟨a, b, ns, hgen, hsh⟩ := bodyX_runs htol hreach hpkc (hst _ _) rfl
  have hdq : env.s.drop (st.pos + w.length) = '\\' :: (envWordStr true ++ '{' :: (name ++ '}' :: A)) := by
    rw [← beginStr_append]; exact drop_add_of_drop hd
  have hps := psStd_std keys m md true br hn
  have hpk : peekImpl (mkPS (stdF keys m md true br)) env.s st.pos =
      .tok { kind := TokKind.beginEnv, arg := name, pos := st.pos + w.length,
             posEnd := st.pos + w.length + 1 + envWordLen true + 1 + name.length + 1, pre := w } :=
    (peekImpl_ws (c := '\\') (rest := envWordStr true ++ '{' :: (name ++ '}' :: A)) (by rw [hd, beginStr_append]) hw hnl (by decide)).trans
      (peekAtChar_env hps (stdExpect_cases m md) true hdq hne hall)
  have hposA : st.pos + w.length + 1 + envWordLen true + 1 + name.length + 1 = st.pos + w.length + (beginStr name).length := by
    rw [beginStr_length]; omega
  have hgen' : Ev env (.pc (.general (.endEnv name) true .same) (stdF keys (m || bm) (if bm then none else md) true) pA)
      (.ok (.list a b ns) (pA + n + w'.length + 1 + envWordLen false + 1 + name.length + 1)) := hgen
  have hbodyEv := envBody_runs hgen'
  rw [← envBodyF_eq (keys := keys) (m := m) (md := md) bm] at hbodyEv
  have hcall := envCall_runs (K := stdF keys m md true)
    (t := ({ kind := TokKind.beginEnv, arg := name, pos := st.pos + w.length,
             posEnd := st.pos + w.length + 1 + envWordLen true + 1 + name.length + 1, pre := [] } : Token))
    (a := .std sig) (bm := bm) (pos := st.pos + w.length + 1 + envWordLen true + 1 + name.length + 1)
    (by rw [hposA]; exact arguments_runs hargs) hbodyEv
  have hdY : env.s.drop (pA + n + w'.length + 1 + envWordLen false + 1 + name.length + 1) = Y := by
    have h1 := drop_add_of_drop hdrop'
    rw [← endStr_append] at h1
    have h2 := drop_add_of_drop h1
    rw [endStr_length] at h2
    rw [← h2]; congr 1; omega
  refine ⟨pA + n + w'.length + 1 + envWordLen false + 1 + name.length + 1, by omega, hdY, ?_⟩
  have hne2 : endStr name ++ Y ≠ [] := by rw [endStr_append]; exact List.cons_ne_nil _ _
  have hlen : st.pos + w.length + (beginStr name).length + B.length = pA + n + w'.length :=
    pos_of_drops (by rw [← hA]; exact drop_add_of_drop (drop_add_of_drop hd)) hdrop hne2
  have hsl : slice env.s (st.pos + w.length) (pA + n + w'.length + 1 + envWordLen false + 1 + name.length + 1) =
      beginStr name ++ (B ++ endStr name) := by
    have h0 : env.s.drop (st.pos + w.length) = (beginStr name ++ (B ++ endStr name)) ++ Y := by
      rw [drop_add_of_drop hd, hA]; simp only [List.append_assoc]
    have := slice_of_drop h0
    rw [← this]
    congr 1
    simp only [List.length_append, endStr_length]
    omega
  have e : erase env.s (Node.env (st.pos + w.length) (pA + n + w'.length + 1 + envWordLen false + 1 + name.length + 1)
      (psInfo (stdF keys m md true)) name (some al) (some ns))
      = .env (beginStr name ++ (B ++ endStr name)) name (some (eraseArgList env.s al)) (some (mergeX trb)) := by
    simp only [erase, eraseArgs, eraseBody]
    rw [hsh, hsl]
    exact congrArg _ (congrArg _ hm)
  exact reachX_dispatch (stop := stop) (child := child) htol hpk
    (stop_test_char stop _ (Or.inr (Or.inr (Or.inr (Or.inr (Or.inr rfl)))))) rfl (by omega)
    (dispatch_env (K := stdF keys m md true) (ab := (.std sig, bm)) rfl hspec (hch _ (fun h => by cases h)) hcall) e rfl

theorem step_specialsX (htol : env.tol = false) (hn : NormOk m md) (hx : XpOk br)
    (hch : ∀ t : Token, (t.kind = .braceOpen → t.arg = ['{']) → child.get (stdF keys m md true br) t = stdF keys m md true)
    {st : LoopSt} {w R : Str} {c : Char} {name' : Str}
    (hd : env.s.drop st.pos = w ++ ((c :: name') ++ R)) (hw : isWs w = true) (hnl : countNl w < 2)
    (hc : specialsHeadOk c = true) (hts : testSpecials keys ((c :: name') ++ R) 0 = some (c :: name'))
    (hspec : lookupFirst (c :: name') env.ctx.specials = some (.std [])) :
    ReachesX env (stdF keys m md true br) stop child st (pendX w ++ [.specials (c :: name') (some [])]) (w.length + (c :: name').length) := by
  have hdq : env.s.drop (st.pos + w.length) = (c :: name') ++ R := drop_add_of_drop hd
  have hps := psStd_std keys m md true br hn
  have hcs := specialsHead_ne hc
  have hpk : peekImpl (mkPS (stdF keys m md true br)) env.s st.pos = _ :=
    (peekImpl_ws (c := c) (rest := name' ++ R) (by rw [hd]; rfl) hw hnl hcs.1).trans (peekAtChar_specials hps hx hdq hc hts)
  have hcall := specialsCall_runs (t := ({ kind := TokKind.specials, arg := (c :: name'), pos := st.pos + w.length, posEnd := st.pos + w.length + (c :: name').length, pre := [] } : Token))
    (arguments_runs (argsEv_nil (env := env) (stdF keys m md true) [] (st.pos + w.length + (c :: name').length)))
  have := reachX_dispatch (stop := stop) (child := child) htol hpk
    (stop_test_char stop _ (Or.inr (Or.inr (Or.inr (Or.inr (Or.inl rfl)))))) rfl
    (by show st.pos ≤ st.pos + w.length + (c :: name').length; omega)
    (dispatch_specials (K := stdF keys m md true) rfl hspec (hch _ (fun h => by cases h)) hcall) rfl rfl
  have e : st.pos + w.length + (c :: name').length - st.pos = w.length + (c :: name').length := by omega
  rw [e] at this
  exact this

end steps

theorem step_mathX (htol : env.tol = false) (k : FKind) {br : Xp} {stop : StopTok} {child : ChildPS}
    (hch : ∀ t : Token, (t.kind = .braceOpen → t.arg = ['{']) → child.get (stdF keys false none true br) t = stdF keys false none true)
    (hstop : ∀ t : Token, t.kind = .mathInline ∨ t.kind = .mathDisplay → stop.test t = false)
    {st : LoopSt} {w X B Y : Str} {trb : List XNode} (hd : env.s.drop st.pos = w ++ (k.opener ++ X))
    (hX : X = B ++ (k.closer ++ Y)) (hw : isWs w = true)
    (hnl : countNl w < 2) (hdollar : k = .dollar → headIs (· == '$') X = false)
    (hbody : ReachesWX env (stdF keys true (some k.opener) true) (.mathClose k.display k.closer) .same
      { pos := st.pos + w.length + k.opener.length } [] trb (k.closer ++ Y)) :
    ∃ p, st.pos ≤ p ∧ env.s.drop p = Y ∧
      ReachesX env (stdF keys false none true br) stop child st
        (pendX w ++ [.math (k.opener ++ (B ++ k.closer)) k.display k.opener k.closer (some (mergeX trb))]) (p - st.pos) := by
  have hdq : env.s.drop (st.pos + w.length) = k.opener ++ X := drop_add_of_drop hd
  obtain ⟨tr, n, w', hreach, hdrop, hw', hn', hm⟩ := hbody
  have hdrop' : env.s.drop (st.pos + w.length + k.opener.length + n) = w' ++ (k.closer ++ Y) := hdrop
  obtain ⟨cc, rc, hcc⟩ : ∃ c r0, k.closer = c :: r0 := by cases k <;> exact ⟨_, _, rfl⟩
  have hccs : isPySpace cc = false := by cases k <;> (cases hcc; decide)
  have hpsM : PSStd keys true true (some (k.closer, k.display)) none (mkPS (stdF keys true (some k.opener) true)) := by
    have := psStd_std keys true (some k.opener) true none (normOk_true _)
    rw [stdExpect_opener] at this
    exact this
  have hpkc : peekImpl (mkPS (stdF keys true (some k.opener) true)) env.s (st.pos + w.length + k.opener.length + n) =
      .tok (mathTok (st.pos + w.length + k.opener.length + n + w'.length) w' k.closer k.display) :=
    (peekImpl_ws (c := cc) (rest := rc ++ Y) (by rw [hdrop', hcc]; rfl) hw' hn' hccs).trans
      (peekAtChar_mathClose k hpsM (drop_add_of_drop hdrop') (by rw [hcc]; rfl))
  have hst : (StopTok.mathClose k.display k.closer).test (mathTok (st.pos + w.length + k.opener.length + n + w'.length) w' k.closer k.display) = true := by
    cases k <;> rfl
  obtain ⟨a, b, ns, hgen, hsh⟩ := bodyX_runs htol hreach hpkc hst rfl
  have hmath := math_runs htol k hdq hdollar hgen
  obtain ⟨co, ro, hco⟩ : ∃ c r0, k.opener = c :: r0 := by cases k <;> exact ⟨_, _, rfl⟩
  have hcos : isPySpace co = false := by cases k <;> (cases hco; decide)
  have hps := psStd_std keys false none true br (fun _ => rfl)
  have hpk : peekImpl (mkPS (stdF keys false none true br)) env.s st.pos = .tok (mathTok (st.pos + w.length) w k.opener k.display) :=
    (peekImpl_ws (c := co) (rest := ro ++ X) (by rw [hd, hco]; rfl) hw hnl hcos).trans
      (peekAtChar_mathOpen hps k hdq hdollar (by rw [hco]; rfl))
  have hkindm : (mathTok (st.pos + w.length) w k.opener k.display).kind = .mathInline ∨ (mathTok (st.pos + w.length) w k.opener k.display).kind = .mathDisplay := by
    cases k <;> first | exact Or.inl rfl | exact Or.inr rfl
  have hkc : ((mathTok (st.pos + w.length) w k.opener k.display).kind == TokKind.char) = false := by cases k <;> rfl
  have hopen : (mkPS (stdF keys false none true br)).t.mathByOpen.any (fun d => d.1 == k.opener) = true := by
    rw [hps.byOpen]; cases k <;> rfl
  have harg : k.opener ≠ ['['] := by cases k <;> decide
  have hposEnd : (mathTok (st.pos + w.length + k.opener.length + n + w'.length) w' k.closer k.display).posEnd
      = st.pos + w.length + k.opener.length + n + w'.length + k.closer.length := rfl
  rw [hposEnd] at hgen hmath
  refine ⟨st.pos + w.length + k.opener.length + n + w'.length + k.closer.length, by omega, ?_, ?_⟩
  · exact drop_add_of_drop (drop_add_of_drop hdrop')
  · have hne2 : k.closer ++ Y ≠ [] := by rw [hcc]; exact List.cons_ne_nil _ _
    have hlen : st.pos + w.length + k.opener.length + B.length = st.pos + w.length + k.opener.length + n + w'.length :=
      pos_of_drops (by rw [← hX]; exact drop_add_of_drop hdq) hdrop' hne2
    have hsl : slice env.s (st.pos + w.length) (st.pos + w.length + k.opener.length + n + w'.length + k.closer.length) =
        k.opener ++ (B ++ k.closer) := by
      have h0 : env.s.drop (st.pos + w.length) = (k.opener ++ (B ++ k.closer)) ++ Y := by
        rw [hdq, hX]; simp only [List.append_assoc]
      have := slice_of_drop h0
      rw [← this]
      congr 1
      simp only [List.length_append]
      omega
    have e : erase env.s (Node.math (st.pos + w.length) (st.pos + w.length + k.opener.length + n + w'.length + k.closer.length)
        (psInfo (stdF keys false none true)) k.display k.opener k.closer (some ns))
        = .math (k.opener ++ (B ++ k.closer)) k.display k.opener k.closer (some (mergeX trb)) := by
      simp only [erase, eraseBody]
      rw [hsh, hsl]
      exact congrArg _ (congrArg _ hm)
    exact reachX_dispatch (stop := stop) (child := child) htol hpk (hstop _ hkindm) hkc (by omega)
      (dispatch_math (K := stdF keys false none true) (tk := { mathTok (st.pos + w.length) w k.opener k.display with pre := [] })
        hkindm (hch _ (fun h => by cases k <;> cases h)) hopen hmath) e rfl

theorem comment_thenX (ctx : Ctx) (htol : env.tol = false) {m : Bool} {md : Option Str} (hn : NormOk m md) {br : Xp}
    {stop : StopTok} {child : ChildPS} {X : List Item} {text ind after w : Str} {st : LoopSt}
    (hprev : exactRaw ctx (some ('\n' :: ind)) X = exactRaw ctx none X)
    (hpost : C03.commentPost ('\n' :: ind) X = '\n' :: ind)
    (hd : env.s.drop st.pos = w ++ (unparseItems (.C text ('\n' :: ind) :: X) ++ after)) (hw : isWs w = true)
    (hnl : countNl w < 2) (htext : text.contains '\n' = false) (hws : isWs ('\n' :: ind) = true)
    (hnl2 : countNl ('\n' :: ind) < 2) (hhead2 : headIs isPySpace (unparseItems X ++ after) = false)
    (hrec : ∀ st1 : LoopSt, env.s.drop st1.pos = [] ++ (unparseItems X ++ after) →
      ReachesWX env (stdF keys m md true br) stop child st1 [] (exactRaw ctx none X) after) :
    ReachesWX env (stdF keys m md true br) stop child st w (exactRaw ctx none (.C text ('\n' :: ind) :: X)) after := by
  have hd' : env.s.drop st.pos = w ++ ('%' :: (text ++ '\n' :: (ind ++ (unparseItems X ++ after)))) := by
    rw [hd]; simp only [unparseItems, List.cons_append, List.append_assoc]
  obtain ⟨p, hp, hdp, hr⟩ := step_commentX (br := br) (stop := stop) (child := child) htol hn hd' hw hnl htext hws hnl2 hhead2
  simp only [exactRaw, hprev, hpost]
  exact ReachesWX.cons_at hp hr hdp hrec

/-- the prefix lemma for derivations of size below `N` -/
def CoreI (env : Pylx.Env) (ctx : Ctx) (keys : List Str) (N : Nat) : Prop :=
    ∀ (a : List Item), sizeOf a < N → ∀ (m : Bool) (after : Str), coreItems ctx m after a = true →
      ∀ (md : Option Str), NormOk m md →
      ∀ (br : Xp) (stop : StopTok) (child : ChildPS), XpOk br →
      (∀ t : Token, (t.kind = .braceOpen → t.arg = ['{']) → child.get (stdF keys m md true br) t = stdF keys m md true) →
      (m = false → ∀ t : Token, t.kind = .mathInline ∨ t.kind = .mathDisplay → stop.test t = false) →
      ∀ (st : LoopSt) (w : Str), isWs w = true → countNl w < 2 →
        (w = [] ∨ headIs isPySpace (unparseItems a ++ after) = false) →
        env.s.drop st.pos = w ++ (unparseItems a ++ after) →
        ReachesWX env (stdF keys m md true br) stop child st w (exactRaw ctx none a) after

/-- the arguments of a call, slot by slot, for argument lists of size below `N` -/
def CoreA (env : Pylx.Env) (ctx : Ctx) (keys : List Str) (N : Nat) : Prop :=
    ∀ (sig : List ArgSpec) (args : List ArgVal), sizeOf args < N → ∀ (m : Bool) (rest : Str),
      coreArgs ctx m rest sig args = true →
      ∀ (md : Option Str), NormOk m md → ∀ (acc : List Arg) (pos : Nat), env.s.drop pos = unparseArgs args ++ rest →
      ∃ al pA, ArgsEv env (stdF keys m md true) sig acc pos (.ok (.args none none (acc ++ al)) pA) ∧ pos ≤ pA ∧
        env.s.drop pA = rest ∧ eraseArgList env.s al = exactArgs ctx args

theorem core_items (ctx : Ctx) (htol : env.tol = false) (hk : keysCore keys = true) (hctx : env.ctx = ctx)
    (hkeys : ctxKeys ctx = keys) {N : Nat} (hI : CoreI env ctx keys N) (hA : CoreA env ctx keys N) :
    CoreI env ctx keys (N + 1) := by
  intro a hsz m after hc md hn br stop child hx hch hsm st w hw hnl hpre hd
  cases a with
  | nil =>
    simp only [unparseItems, List.nil_append] at hd
    simpa only [exactRaw] using ReachesWX.nil hd hw hnl
  | cons it tl =>
    have htail : ∀ st1 : LoopSt, env.s.drop st1.pos = [] ++ (unparseItems tl ++ after) →
        ReachesWX env (stdF keys m md true br) stop child st1 [] (exactRaw ctx none tl) after :=
      fun st1 hd1 => hI tl (by simp only [List.cons.sizeOf_spec] at hsz; omega) m after (coreItems_tail hc) md hn br stop child
        hx hch hsm st1 [] rfl (by decide) (Or.inl rfl) hd1
    cases it with
    | T t =>
      simp only [coreItems, Bool.and_eq_true, Bool.not_eq_eq_eq_not, Bool.not_true] at hc
      obtain ⟨⟨hne, hall⟩, _⟩ := hc
      simp only [unparseItems, List.append_assoc] at hd
      have h1 := reach_textX (br := br) (stop := stop) (child := child) htol hn hx hk hd hw hnl
        (by intro e; rw [e] at hne; simp at hne) hall
      simp only [exactRaw]
      exact ReachesWX.cons h1 (by rw [← Nat.add_assoc]; exact drop_add_of_drop (drop_add_of_drop hd)) htail
    | W w2 =>
      simp only [coreItems, Bool.and_eq_true, Bool.not_eq_eq_eq_not, Bool.not_true, decide_eq_true_eq] at hc
      obtain ⟨⟨⟨⟨hne, hws⟩, hnl2⟩, hhead⟩, htl⟩ := hc
      have hw0 : w = [] := by
        rcases hpre with h | h
        · exact h
        · exfalso
          cases w2 with
          | nil => simp at hne
          | cons c w2 =>
            simp only [isWs, List.all_cons, Bool.and_eq_true] at hws
            simp [unparseItems, headIs, hws.1] at h
      subst hw0
      simp only [unparseItems, List.append_assoc, List.nil_append] at hd
      obtain ⟨tr, n, w', h1, h2, h3, h4, h5⟩ := hI tl (by simp only [List.cons.sizeOf_spec] at hsz; omega) m after htl md hn br
        stop child hx hch hsm st w2 hws hnl2 (Or.inr hhead) hd
      refine ⟨tr, n, w', h1, h2, h3, h4, ?_⟩
      rw [h5, pendX_ne hne]
      simp only [exactRaw, pendX, List.isEmpty_nil, if_true, List.nil_append, List.singleton_append]
    | G b =>
      simp only [coreItems, Bool.and_eq_true] at hc
      simp only [unparseItems, List.cons_append, List.append_assoc] at hd
      have hbody := hI b (by simp only [List.cons.sizeOf_spec, Item.G.sizeOf_spec] at hsz; omega) m
        ('}' :: (unparseItems tl ++ after)) hc.1 md hn none (.braceClose ['}'])
        (.group ['{'] (stdF keys m md true) (stdF keys m md true)) trivial (fun t _ => child_group _ _ t)
        (fun _ t ht => stop_brace_math _ t ht) { pos := st.pos + w.length + 1 } [] rfl (by decide) (Or.inl rfl)
        (drop_succ_of_drop (drop_add_of_drop hd))
      obtain ⟨p, hp, hdp, hr⟩ := step_groupX (br := br) (stop := stop) (child := child) htol hn hch hd hw hnl hbody
      simp only [exactRaw]
      exact ReachesWX.cons_at hp hr hdp htail
    | C text tail =>
      cases tl with
      | nil =>
        rw [coreItems] at hc
        rotate_left
        · intro _ _ h; cases h
        · intro _ _ h; cases h
        simp only [Bool.and_eq_true, Bool.not_eq_eq_eq_not, Bool.not_true, decide_eq_true_eq, beq_iff_eq] at hc
        obtain ⟨⟨⟨⟨⟨htext, hhead⟩, hws⟩, hnl2⟩, hhead2⟩, _⟩ := hc
        obtain ⟨ind, rfl⟩ := cons_of_head? hhead
        exact comment_thenX ctx htol hn (by simp only [exactRaw]) rfl hd hw hnl htext hws hnl2 hhead2 htail
      | cons it tl' =>
        have htail' : ∀ st1 : LoopSt, env.s.drop st1.pos = [] ++ (unparseItems tl' ++ after) →
            ReachesWX env (stdF keys m md true br) stop child st1 [] (exactRaw ctx none tl') after :=
          fun st1 hd1 => hI tl' (by simp only [List.cons.sizeOf_spec] at hsz; omega) m after (coreItems_tail (coreItems_tail hc)) md hn
            br stop child hx hch hsm st1 [] rfl (by decide) (Or.inl rfl) hd1
        cases it with
        | W w2 =>
          simp only [coreItems, Bool.and_eq_true, Bool.not_eq_eq_eq_not, Bool.not_true, decide_eq_true_eq, beq_iff_eq] at hc
          obtain ⟨⟨⟨⟨⟨htext, hhead⟩, hws⟩, hnl2⟩, hw20⟩, ⟨⟨⟨_, hws2⟩, _⟩, hhead2⟩, _⟩ := hc
          obtain ⟨ind, rfl⟩ := cons_of_head? hhead
          simp only [unparseItems, List.cons_append, List.append_assoc] at hd
          have hd' : env.s.drop st.pos = w ++ ('%' :: (text ++ '\n' :: ((ind ++ w2) ++ (unparseItems tl' ++ after)))) := by
            rw [hd]; simp only [List.append_assoc]
          have hwsp : isWs ('\n' :: (ind ++ w2)) = true := by
            simp only [isWs, List.all_cons, List.all_append, Bool.and_eq_true] at hws hws2 ⊢
            exact ⟨hws.1, hws.2, hws2⟩
          have hnlp : countNl ('\n' :: (ind ++ w2)) < 2 := by
            have : countNl ('\n' :: (ind ++ w2)) = countNl ('\n' :: ind) + countNl w2 := by
              simp only [countNl, List.count_cons, List.count_append]; omega
            omega
          obtain ⟨p, hp, hdp, hr⟩ := step_commentX (br := br) (stop := stop) (child := child) htol hn hd' hw hnl htext hwsp hnlp hhead2
          simp only [exactRaw, C03.commentPost, List.cons_append]
          exact ReachesWX.cons_at hp hr hdp htail'
        | P w2 =>
          simp only [coreItems, Bool.and_eq_true, Bool.not_eq_eq_eq_not, Bool.not_true, decide_eq_true_eq, beq_iff_eq, and_true] at hc
          obtain ⟨⟨⟨⟨htext, hhead⟩, hws⟩, hnl2⟩, ⟨⟨⟨⟨⟨⟨hm, hws2⟩, hnl3⟩, hh2⟩, hl2⟩, hhead2⟩, hpc⟩, _⟩ := hc
          obtain ⟨ind, rfl⟩ := cons_of_head? hhead
          simp only [unparseItems, List.cons_append, List.append_assoc] at hd
          have hxw : isWs ('\n' :: (ind ++ w2)) = true := by
            simp only [isWs, List.all_cons, List.all_append, Bool.and_eq_true] at hws hws2 ⊢
            exact ⟨hws.1, hws.2, hws2⟩
          have hxn : countNl ('\n' :: (ind ++ w2)) ≥ 2 := by
            have : countNl ('\n' :: (ind ++ w2)) = countNl ('\n' :: ind) + countNl w2 := by
              simp only [countNl, List.count_cons, List.count_append]; omega
            omega
          have hxl : ('\n' :: (ind ++ w2)).getLast? = some '\n' := by
            have : ('\n' :: (ind ++ w2)) = ('\n' :: ind) ++ w2 := rfl
            rw [this, List.getLast?_append, hl2]
            rfl
          have hpar : parStart ('\n' :: (ind ++ (w2 ++ (unparseItems tl' ++ after)))) = true := by
            have := parStart_of (x := '\n' :: (ind ++ w2)) (r := unparseItems tl' ++ after) hxw hxn rfl hhead2
            simpa only [List.cons_append, List.append_assoc] using this
          obtain ⟨hdp, hr1⟩ := step_comment_parX (br := br) (stop := stop) (child := child) htol hn hd hw hnl htext hpar
          have hr2 := ReachesX.trans hr1 (fun st1 hp1 => reach_parX (br := br) (stop := stop) (child := child) (st := st1)
            (x := '\n' :: (ind ++ w2)) (r := unparseItems tl' ++ after) ctx htol hn hctx hkeys hpc hch
            (by rw [hp1, hdp]; simp only [List.cons_append, List.append_assoc]) hxw hxn rfl hxl hhead2)
          have := ReachesWX.step hr2 (by rw [List.append_assoc]) (fun st1 hp1 => htail' st1 (by
              have := drop_add_of_drop (a := '\n' :: (ind ++ w2)) (rest := unparseItems tl' ++ after)
                (by rw [hdp]; simp only [List.cons_append, List.append_assoc] : env.s.drop (st.pos + (w.length + 1 + text.length)) = _)
              rw [hp1, List.nil_append, ← this]
              congr 1
              omega))
          simpa only [exactRaw, C03.commentPost, parShapeX, Option.getD_some, List.cons_append, List.nil_append, List.singleton_append] using this
        | VE _ _ _ _ => simp [coreItems] at hc
        | _ =>
          -- the item behind the comment is neither whitespace nor a paragraph break: the third equation of `coreItems`
          rw [coreItems] at hc
          rotate_left
          · intro _ _ h; cases h
          · intro _ _ h; cases h
          simp only [Bool.and_eq_true, Bool.not_eq_eq_eq_not, Bool.not_true, decide_eq_true_eq, beq_iff_eq] at hc
          obtain ⟨⟨⟨⟨⟨htext, hhead⟩, hws⟩, hnl2⟩, hhead2⟩, _⟩ := hc
          obtain ⟨ind, rfl⟩ := cons_of_head? hhead
          exact comment_thenX ctx htol hn (by simp only [exactRaw]) rfl hd hw hnl htext hws hnl2 hhead2 htail
    | M name post args =>
      obtain ⟨sig, hms, hargs⟩ := coreItems_M hc
      simp only [coreItems, Bool.and_eq_true] at hc
      obtain ⟨⟨hhdr, _⟩, _⟩ := hc
      have hdq : env.s.drop (st.pos + w.length) = '\\' :: (name ++ (post ++ (unparseArgs args ++ (unparseItems tl ++ after)))) :=
        drop_add_of_drop (a := w) (by rw [hd]; simp only [unparseItems, List.cons_append, List.append_assoc])
      obtain ⟨c0, name', rfl, htok⟩ := macro_tok (keys := keys) (ee := true) (br := br) (pre := w) hn hhdr hdq
      simp only [unparseItems, List.cons_append, List.append_assoc] at hd
      have hd' : env.s.drop st.pos = w ++ ('\\' :: ((c0 :: name') ++ (post ++ (unparseArgs args ++ (unparseItems tl ++ after))))) := by
        rw [hd]; rfl
      obtain ⟨al, pA, hAE, hpA, hdpA, hshape⟩ := hA sig args (by simp only [List.cons.sizeOf_spec, Item.M.sizeOf_spec] at hsz; omega) m
        (unparseItems tl ++ after) hargs md hn [] (st.pos + w.length + 1 + (c0 :: name').length + post.length)
        (drop_add_of_drop (drop_add_of_drop (drop_succ_of_drop hdq)))
      rw [List.nil_append] at hAE
      have hr := step_macroX (br := br) (stop := stop) (child := child) htol hch hd' hw hnl htok
        (by rw [hctx]; exact hms) (arguments_runs hAE) (by omega)
      rw [hshape] at hr
      simp only [exactRaw]
      exact ReachesWX.cons_at (by omega) hr hdpA htail
    | F k b =>
      simp only [coreItems, Bool.and_eq_true, Bool.not_eq_eq_eq_not, Bool.not_true, Bool.or_eq_true] at hc
      obtain ⟨⟨⟨hm, hb⟩, hdol⟩, _⟩ := hc
      subst hm
      have hmd : md = none := hn rfl
      subst hmd
      simp only [unparseItems, List.append_assoc] at hd
      have hbody := hI b (by simp only [List.cons.sizeOf_spec, Item.F.sizeOf_spec] at hsz; omega) true
        (k.closer ++ (unparseItems tl ++ after)) hb (some k.opener) (normOk_true _) none (.mathClose k.display k.closer) .same
        trivial (fun t _ => rfl) (fun h => by cases h) { pos := st.pos + w.length + k.opener.length } [] rfl (by decide)
        (Or.inl rfl) (drop_add_of_drop (drop_add_of_drop hd))
      have hdollar : k = .dollar → headIs (· == '$') (unparseItems b ++ (k.closer ++ (unparseItems tl ++ after))) = false := by
        intro hk2
        rcases hdol with h | h
        · subst hk2; cases h
        · exact core_head_not_dollar ctx _ b hb _ h
      obtain ⟨p, hp, hdp, hr⟩ := step_mathX (br := br) (stop := stop) (child := child) htol k hch (hsm rfl) hd rfl hw hnl hdollar hbody
      simp only [exactRaw]
      exact ReachesWX.cons_at hp hr hdp htail
    | P w2 =>
      simp only [coreItems, Bool.and_eq_true, Bool.not_eq_eq_eq_not, Bool.not_true, decide_eq_true_eq, beq_iff_eq] at hc
      obtain ⟨⟨⟨⟨⟨⟨⟨hm, hws⟩, hnl2⟩, hh⟩, hl⟩, hhead⟩, hpc⟩, _⟩ := hc
      have hw0 : w = [] := by
        rcases hpre with h | h
        · exact h
        · exfalso
          cases w2 with
          | nil => cases hh
          | cons c w2 =>
            have hc : c = '\n' := by simpa using hh
            subst hc
            have h' : headIs isPySpace ('\n' :: (w2 ++ (unparseItems tl ++ after))) = false := by
              simpa only [unparseItems, List.cons_append, List.append_assoc] using h
            revert h'
            show (isPySpace '\n' = false) → False
            decide
      subst hw0
      simp only [unparseItems, List.append_assoc, List.nil_append] at hd
      have h1 := reach_parX (br := br) (stop := stop) (child := child) ctx htol hn hctx hkeys hpc hch hd hws hnl2 hh hl hhead
      have := ReachesWX.step (w := []) h1 rfl (fun st1 hp => htail st1 (by rw [hp]; exact drop_add_of_drop hd))
      simpa only [exactRaw, parShapeX, Option.getD_none, List.nil_append, List.singleton_append] using this
    | E name args body =>
      obtain ⟨sig, bm, hes, hargs, hbody⟩ := coreItems_E hc
      simp only [coreItems, Bool.and_eq_true, Bool.not_eq_eq_eq_not, Bool.not_true] at hc
      obtain ⟨⟨⟨hne, hall⟩, _⟩, _⟩ := hc
      have hne' : name ≠ [] := by intro e; rw [e] at hne; cases hne
      simp only [unparseItems, List.append_assoc] at hd
      obtain ⟨al, pA, hAE, hpA, hdpA, hshape⟩ := hA sig args (by simp only [List.cons.sizeOf_spec, Item.E.sizeOf_spec] at hsz; omega) m _
        hargs md hn [] (st.pos + w.length + (beginStr name).length) (drop_add_of_drop (drop_add_of_drop hd))
      rw [List.nil_append] at hAE
      have hbodyR := hI body (by simp only [List.cons.sizeOf_spec, Item.E.sizeOf_spec] at hsz; omega) (m || bm)
        (endStr name ++ (unparseItems tl ++ after)) hbody (if bm then none else md) (normOk_envBody hn bm) none (.endEnv name) .same
        trivial (fun t _ => rfl) (fun _ t ht => stop_endEnv_math _ t ht) { pos := pA } [] rfl (by decide) (Or.inl rfl)
        (by simpa using hdpA)
      obtain ⟨p, hp, hdp, hr⟩ := step_envX (br := br) (stop := stop) (child := child)
        (B := unparseArgs args ++ unparseItems body) htol hn hch hd (by simp only [List.append_assoc]) hw hnl hne' hall
        (by rw [hctx]; exact hes) hAE (by omega) hbodyR
      rw [hshape, List.append_assoc] at hr
      simp only [exactRaw]
      exact ReachesWX.cons_at hp hr hdp htail
    | S name args =>
      simp only [coreItems, Bool.and_eq_true, beq_iff_eq] at hc
      obtain ⟨⟨⟨⟨hargs, hhead⟩, hts⟩, hspec⟩, _⟩ := hc
      have hargs' : args = [] := List.isEmpty_iff.mp hargs
      subst hargs'
      cases name with
      | nil => simp [headIs] at hhead
      | cons c name' =>
        have hc : specialsHeadOk c = true := by simpa [headIs] using hhead
        have hspec' : lookupFirst (c :: name') env.ctx.specials = some (.std []) := by
          obtain ⟨sig, h1, h2⟩ := std_of_match (f := List.isEmpty) hspec
          rw [hctx, h1, List.isEmpty_iff.mp h2]
        have hd' : env.s.drop st.pos = w ++ ((c :: name') ++ (unparseItems tl ++ after)) := by
          rw [hd]; simp only [unparseItems, unparseArgs, List.nil_append, List.append_assoc]
        rw [hkeys] at hts
        have hr := step_specialsX (br := br) (stop := stop) (child := child) htol hn hx hch hd' hw hnl hc hts hspec'
        simp only [exactRaw, exactArgs]
        exact ReachesWX.cons hr (by rw [← Nat.add_assoc]; exact drop_add_of_drop (drop_add_of_drop hd')) htail
    | V d text =>
      simp only [coreItems, Bool.and_eq_true, Bool.not_eq_eq_eq_not, Bool.not_true] at hc
      obtain ⟨⟨⟨⟨hspec, hda⟩, hds⟩, hnc⟩, _⟩ := hc
      have hms : env.ctx.macroSpec "verb".toList = some .legacyVerb := by
        rw [hctx]
        cases hh : ctx.macroSpec "verb".toList with
        | none => rw [hh] at hspec; cases hspec
        | some a =>
          rw [hh] at hspec
          cases a <;> first | rfl | cases hspec
      have hd' : env.s.drop st.pos = w ++ ('\\' :: (('v' :: "erb".toList) ++ ([] ++ (d :: (text ++ d :: (unparseItems tl ++ after)))))) := by
        rw [hd]; simp only [unparseItems, List.append_assoc, List.cons_append]; rfl
      have hdq : env.s.drop (st.pos + w.length) = '\\' :: (('v' :: "erb".toList) ++ ([] ++ (d :: (text ++ d :: (unparseItems tl ++ after))))) :=
        drop_add_of_drop hd'
      have hps := psStd_std keys m md true br hn
      have htok := peekAtChar_macro (pre := w) hps (stdExpect_cases m md) hdq (by decide) (by simp [headIs, hda]) rfl (by decide)
        (by simp [headIs, hds]) (by decide) (by decide)
      have hdA : env.s.drop (st.pos + w.length + 1 + ('v' :: "erb".toList).length + ([] : Str).length) = d :: (text ++ d :: (unparseItems tl ++ after)) :=
        drop_add_of_drop (drop_add_of_drop (drop_succ_of_drop hdq))
      have hargs := legacyVerb_runs (env := env) (stdF keys m md true) hdA hds hnc
      have hr := step_macroX (br := br) (stop := stop) (child := child) htol hch hd' hw hnl htok hms hargs (by omega)
      have := ReachesWX.step hr rfl (fun st1 hp1 => htail st1 (by
          have h1 := drop_succ_of_drop hdA
          have h2 := drop_succ_of_drop (drop_add_of_drop h1)
          rw [hp1, List.nil_append, ← h2]
          congr 1
          omega))
      have e : ('v' :: "erb".toList) = "verb".toList := rfl
      rw [e] at this
      simpa only [exactRaw, List.singleton_append, eraseArgList, eraseArg, erase] using this
    | VE _ _ _ _ => simp [coreItems] at hc

theorem core_args (ctx : Ctx) (htol : env.tol = false) (hk : keysCore keys = true) (hkeys : ctxKeys ctx = keys) {N : Nat} (hI : CoreI env ctx keys N) (hA : CoreA env ctx keys N) :
    CoreA env ctx keys (N + 1) := by
  intro sig args hsz m rest hc md hn acc pos hd
  cases args with
  | nil =>
    cases sig with
    | nil =>
      refine ⟨[], pos, ?_, Nat.le_refl _, by simpa [unparseArgs] using hd, by simp only [eraseArgList, exactArgs]⟩
      rw [List.append_nil]
      exact argsEv_nil _ _ _
    | cons _ _ => simp [coreArgs] at hc
  | cons av tl =>
    cases sig with
    | nil => simp [coreArgs] at hc
    | cons sp sig =>
      obtain ⟨md', hK', hn'⟩ := applyDelta_std (keys := keys) m md sp.delta
      have hrest := fun (acc' : List Arg) (p : Nat) => hA sig tl (by simp only [List.cons.sizeOf_spec] at hsz; omega) m rest
        (coreArgs_tail hc) md hn acc' p
      have hbody := fun (b : List Item) (hb : sizeOf b < N) (after : Str)
          (hcb : coreItems ctx (deltaMath m sp.delta) after b = true) => hI b hb (deltaMath m sp.delta) after hcb md' (hn' hn)
      cases av with
      | absent =>
        simp only [coreArgs, Bool.and_eq_true] at hc
        obtain ⟨⟨⟨hkind, habs⟩, hfol⟩, _⟩ := hc
        simp only [unparseArgs] at hd
        exact args_cons htol hn hd hfol rfl rfl (slot_absent htol hn hd hkind habs hfol) (Nat.le_refl _) (hrest _ pos hd)
          (fun al h => by simp only [resToArg, eraseArgList, eraseArg, exactArgs, h])
      | star =>
        simp only [coreArgs, Bool.and_eq_true] at hc
        simp only [unparseArgs, List.cons_append] at hd
        exact args_cons htol hn hd (followOk_of_head (by decide) (by decide)) (argKind_s_of_beq _ hc.1) hK'
          (marker_star_runs htol (hn' hn) hk hd) (Nat.le_succ pos) (hrest _ _ (drop_succ_of_drop hd))
          (fun al h => by simp only [resToArg, eraseArgList, eraseArg, erase, exactArgs, h])
      | marker c =>
        simp only [coreArgs, Bool.and_eq_true] at hc
        obtain ⟨⟨hkind, hmk⟩, _⟩ := hc
        simp only [unparseArgs, List.cons_append] at hd
        rw [hkeys] at hmk
        have hmk' := hmk
        unfold markerOk at hmk'
        simp only [Bool.and_eq_true, Bool.not_eq_eq_eq_not, Bool.not_true, bne_iff_ne, ne_eq] at hmk'
        exact args_cons htol hn hd (followOk_of_head hmk'.1.1.1.1.1.1 hmk'.1.1.1.1.1.2) (argKind_t_of_beq _ _ hkind) hK'
          (marker_runs htol (hn' hn) true hd hmk) (Nat.le_succ pos) (hrest _ _ (drop_succ_of_drop hd))
          (fun al h => by simp only [if_true, resToArg, eraseArgList, eraseArg, eraseNodes, erase, exactArgs, h])
      | tok c =>
        simp only [coreArgs, Bool.and_eq_true] at hc
        obtain ⟨⟨hkind, hc1⟩, _⟩ := hc
        simp only [unparseArgs, List.cons_append] at hd
        have hcne := textChar_ne hc1
        exact args_cons htol hn hd (followOk_of_head hcne.2.2.2.2.2 hcne.2.1) (argKind_m_of_beq _ hkind) hK'
          (expr_char_runs htol (hn' hn) hd hcne.2.2.2.2.2
            (C02.peekAtChar_text (psStd_std keys _ md' false none (hn' hn)) trivial hk hd hc1))
          (Nat.le_succ pos) (hrest _ _ (drop_succ_of_drop hd))
          (fun al h => by simp only [resToArg, eraseArgList, eraseArg, erase, exactArgs, h])
      | grp b =>
        simp only [coreArgs, Bool.and_eq_true] at hc
        obtain ⟨⟨hkind, hb⟩, _⟩ := hc
        simp only [unparseArgs, List.cons_append, List.append_assoc] at hd
        obtain ⟨p, nd, hqp, hdp, hgrp, hsh⟩ := group_nodeX htol (hn' hn) hd
          (hbody b (by simp only [List.cons.sizeOf_spec, ArgVal.grp.sizeOf_spec] at hsz; omega) _ hb none _ _ trivial
            (fun t _ => child_group _ _ t) (fun _ t ht => stop_brace_math _ t ht) { pos := pos + 1 } [] rfl (by decide)
            (Or.inl rfl) (drop_succ_of_drop hd))
        exact args_cons htol hn hd (followOk_of_head (by decide) (by decide)) (argKind_m_of_beq _ hkind) hK'
          (expr_runs htol (hn' hn) hd hgrp) hqp (hrest _ p hdp)
          (fun al h => by simp only [resToArg, eraseArgList, eraseArg, exactArgs, h, hsh])
      | br b =>
        simp only [coreArgs, Bool.and_eq_true] at hc
        obtain ⟨⟨hkind, hb⟩, _⟩ := hc
        simp only [unparseArgs, List.cons_append, List.append_assoc] at hd
        obtain ⟨ap, hkk⟩ := argKind_o_of_match hkind
        obtain ⟨p, nd, hqp, hdp, hgrp, hsh⟩ := xgroup_nodeX htol (hn' hn) xpOk_br true ap hd
          (hbody b (by simp only [List.cons.sizeOf_spec, ArgVal.br.sizeOf_spec] at hsz; omega) _ hb xbr _ _ xpOk_br
            (fun t ht => child_br '[' _ _ t (by decide) ht) (fun _ t ht => stop_brace_math _ t ht) { pos := pos + 1 } [] rfl
            (by decide) (Or.inl rfl) (drop_succ_of_drop hd))
        exact args_cons htol hn hd (followOk_of_head (by decide) (by decide)) hkk hK' hgrp hqp (hrest _ p hdp)
          (fun al h => by simp only [resToArg, eraseArgList, eraseArg, exactArgs, h, hsh])
      | del o c b =>
        simp only [coreArgs, Bool.and_eq_true, Bool.or_eq_true, bne_iff_ne, ne_eq] at hc
        obtain ⟨⟨⟨⟨⟨hkind, hxo⟩, hxc⟩, hoc⟩, hb⟩, _⟩ := hc
        have hx : XpOk (some (o, c)) := ⟨hxo, hxc, hoc⟩
        have hone := xdelim_ne hxo
        simp only [unparseArgs, List.cons_append, List.append_assoc] at hd
        obtain ⟨opt, k, hkk, hopt⟩ : ∃ opt k, sp.kind = k ∧ argParser k = .group (.pair [o] [c]) opt true := by
          rcases hkind with h | h
          · exact ⟨false, _, argKind_r_of_beq _ _ _ h, rfl⟩
          · exact ⟨true, _, argKind_d_of_beq _ _ _ h, rfl⟩
        obtain ⟨p, nd, hqp, hdp, hgrp, hsh⟩ := xgroup_nodeX htol (hn' hn) hx opt true hd
          (hbody b (by simp only [List.cons.sizeOf_spec, ArgVal.del.sizeOf_spec] at hsz; omega) _ hb (some (o, c)) _ _ hx
            (fun t ht => child_br o _ _ t hone.2.2.2.1 ht) (fun _ t ht => stop_brace_math _ t ht) { pos := pos + 1 } [] rfl
            (by decide) (Or.inl rfl) (drop_succ_of_drop hd))
        rw [← hopt] at hgrp
        exact args_cons htol hn hd (followOk_of_head hone.2.2.2.2.2 hone.2.1) hkk hK' hgrp hqp (hrest _ p hdp)
          (fun al h => by simp only [resToArg, eraseArgList, eraseArg, exactArgs, h, hsh])
      | verb _ _ _ => simp [coreArgs] at hc

theorem core_reach (ctx : Ctx) (htol : env.tol = false) (hk : keysCore keys = true) (hctx : env.ctx = ctx)
    (hkeys : ctxKeys ctx = keys) : ∀ N : Nat, CoreI env ctx keys N ∧ CoreA env ctx keys N := by
  intro N
  induction N with
  | zero => exact ⟨fun a h => absurd h (Nat.not_lt_zero _), fun _ a h => absurd h (Nat.not_lt_zero _)⟩
  | succ N ih => exact ⟨core_items ctx htol hk hctx hkeys ih.1 ih.2, core_args ctx htol hk hkeys ih.1 ih.2⟩

/-- **prefix lemma.**  With the collector in front of `w ++ unparse a ++ after` (`w` whitespace not yet read; any
    pending characters, any accumulated nodes, any stop condition), it produces the structure of `a` and stands in
    front of (whitespace and) `after`. -/
theorem items_reachX (ctx : Ctx) (htol : env.tol = false) (hk : keysCore keys = true) (hctx : env.ctx = ctx)
    (hkeys : ctxKeys ctx = keys) :
    ∀ (a : List Item) (m : Bool) (after : Str), coreItems ctx m after a = true → ∀ (md : Option Str), NormOk m md →
      ∀ (br : Xp) (stop : StopTok) (child : ChildPS), XpOk br →
      (∀ t : Token, (t.kind = .braceOpen → t.arg = ['{']) → child.get (stdF keys m md true br) t = stdF keys m md true) →
      (m = false → ∀ t : Token, t.kind = .mathInline ∨ t.kind = .mathDisplay → stop.test t = false) →
      ∀ (st : LoopSt) (w : Str), isWs w = true → countNl w < 2 →
        (w = [] ∨ headIs isPySpace (unparseItems a ++ after) = false) →
        env.s.drop st.pos = w ++ (unparseItems a ++ after) →
        ReachesWX env (stdF keys m md true br) stop child st w (exactRaw ctx none a) after :=
  fun a => (core_reach ctx htol hk hctx hkeys (sizeOf a + 1)).1 a (Nat.lt_succ_self _)

theorem args_reachX (ctx : Ctx) (htol : env.tol = false) (hk : keysCore keys = true) (hctx : env.ctx = ctx)
    (hkeys : ctxKeys ctx = keys) :
    ∀ (sig : List ArgSpec) (args : List ArgVal) (m : Bool) (rest : Str), coreArgs ctx m rest sig args = true →
      ∀ (md : Option Str), NormOk m md → ∀ (acc : List Arg) (pos : Nat), env.s.drop pos = unparseArgs args ++ rest →
      ∃ al pA, ArgsEv env (stdF keys m md true) sig acc pos (.ok (.args none none (acc ++ al)) pA) ∧ pos ≤ pA ∧
        env.s.drop pA = rest ∧ eraseArgList env.s al = exactArgs ctx args :=
  fun sig args => (core_reach ctx htol hk hctx hkeys (sizeOf args + 1)).2 sig args (Nat.lt_succ_self _)

end constructs

theorem top_of_reachesWX {env : Pylx.Env} {keys : List Str} {T : List XNode} (htol : env.tol = false)
    (h : ReachesWX env (stdF keys false none true) .none .same { pos := 0 } [] T []) :
    ∃ a b ns pos, Ev env (topTask (stdF keys false none true)) (.ok (.list a b ns) pos) ∧
      eraseNodes env.s ns = mergeX T := by
  obtain ⟨tr, n, w', ⟨st', hp, hs, hcan, hkk⟩, hdrop, hw', hn', hm⟩ := h
  have hd' : env.s.drop st'.pos = w' := by
    rw [hp]; simpa using hdrop
  obtain ⟨e, he, hsh, hce, herr, hst, _⟩ := loopX_eos_ws (child := .same) htol (stdF keys false none true) (st := st') hd' hw' hn'
  have htop := general_of_loop_top htol (hkk _ he) herr hst
  obtain ⟨p, q, hlist⟩ := listOf_eq e.nodes (some 0) (some 0)
  rw [hlist] at htop
  refine ⟨p, q, e.nodes, e.pos, htop, ?_⟩
  rw [← hce (hcan (canon_start _ 0)), hsh]
  have e1 : mergeX (shX env.s st') = mergeX tr := by rw [hs]; rfl
  rw [mergeX_append_left e1, hm]
  rfl

theorem core_evX (ctx : Ctx) (d : List Item) (h : Core ctx d = true) :
    ∃ a b ns pos, Ev { tol := false, ctx := ctx, s := unparse d } (topTask (Doc.startFields ctx)) (.ok (.list a b ns) pos) ∧
      eraseNodes (unparse d) ns = exactOf ctx d := by
  unfold Core at h
  rw [Bool.and_eq_true] at h
  obtain ⟨hk, hc⟩ := h
  exact top_of_reachesWX (env := { tol := false, ctx := ctx, s := unparse d }) rfl
    (items_reachX ctx rfl hk rfl rfl d false [] hc none (fun _ => rfl)
      none .none .same trivial (fun t _ => rfl) (fun _ t _ => rfl) { pos := 0 } [] rfl (by decide) (Or.inl rfl)
      (by simp [unparse]))

/-- **C03, step 1 (exact round trip)**: strict parsing of the source of a `Doc.Core` document gives exactly the tree the
    document was written with — all chars nodes with their characters (whitespace-only ones included), macro
    post-spaces, comments with their post-spaces, delimiters, argument lists with their absent slots, source slices of
    formulas and environments; only positions and parsing states are forgotten.  The parse ends at the end of the
    source (`C01_strict_of_delims`). -/
theorem C02x_core_exact (ctx : Ctx) (d : List Item) (h : Core ctx d = true) :
    ∃ a b ns, parseStrict ctx (unparse d) = .ok (.list a b ns) (unparse d).length ∧
      eraseNodes (unparse d) ns = exactOf ctx d := by
  obtain ⟨a, b, ns, pos, hev, hx⟩ := core_evX ctx d h
  have hp : parseStrict ctx (unparse d) = .ok (.list a b ns) pos := Ev.parseStrict hev
  have hend : pos = (unparse d).length :=
    (C01_strict_of_delims ctx (unparse d) (Doc.startFields ctx) (delimsOk_start ctx) _ _ _ _ _ hp).2.1
  rw [hend] at hp
  exact ⟨a, b, ns, hp, hx⟩

/-- **C03, steps 1 + 2 (`C03_exact_roundtrip`)**: the tolerant parse `latex_to_text` runs (`parseTop` with
    `tol := true` from the walker's start state) of the source of a core document returns a node list — no error, no
    recovery — whose exact tree is `exactOf ctx d` (`C06_agree_top`: tolerant = strict when strict succeeds). -/
theorem C03_exact_roundtrip (ctx : Ctx) (d : List Item) (h : Core ctx d = true) :
    ∃ a b ns, parseTop { tol := true, ctx := ctx, s := unparse d } (L2T.startFields ctx) = .ok (.list a b ns) (unparse d).length ∧
      eraseNodes (unparse d) ns = exactOf ctx d := by
  obtain ⟨a, b, ns, hp, hx⟩ := C02x_core_exact ctx d h
  exact ⟨a, b, ns, C06_agree_top ctx (unparse d) (Doc.startFields ctx) _ _ hp, hx⟩

/-! ### non-vacuity: the exact trees of example documents (those of `C03` here, one of `C02` in `PylxProofs/C02.lean`) -/

mutual
def showX : XNode → String
  | .chars c => "(c " ++ showStr c ++ ")"
  | .comment c p => "(% " ++ showStr c ++ " " ++ showStr p ++ ")"
  | .group o c b => "(g " ++ showStr o ++ " " ++ showStr c ++ " " ++ showXBody b ++ ")"
  | .mac n p a => "(m " ++ showStr n ++ " " ++ showStr p ++ " " ++ showXArgs a ++ ")"
  | .env v n a b => "(e " ++ showStr v ++ " " ++ showStr n ++ " " ++ showXArgs a ++ " " ++ showXBody b ++ ")"
  | .specials c a => "(s " ++ showStr c ++ " " ++ showXArgs a ++ ")"
  | .math v d o c b => "(f " ++ showStr v ++ " " ++ (if d then "D" else "I") ++ " " ++ showStr o ++ " " ++ showStr c ++ " " ++ showXBody b ++ ")"
def showXBody : Option (List XNode) → String
  | none => "None"
  | some l => "[" ++ showXList l ++ "]"
def showXList : List XNode → String
  | [] => ""
  | [x] => showX x
  | x :: l => showX x ++ " " ++ showXList l
def showXArgs : Option (List XArg) → String
  | none => "None"
  | some l => "<" ++ showXArgList l ++ ">"
def showXArgList : List XArg → String
  | [] => ""
  | [a] => showXArg a
  | a :: l => showXArg a ++ " " ++ showXArgList l
def showXArg : XArg → String
  | .absent => "-"
  | .node s => showX s
  | .list l => "(L [" ++ showXList l ++ "])"
end

/-- macro post-space, absent slots, display math with its source slice -/
example : showXList (exactOf Gen.defaultCtx [.M "item".toList [' '] [.absent], .T ['z'], .W [' '], .F .brack [.W [' '], .T ['u']]]) =
    "(m \"item\" \"%20;\" <->) (c \"z%20;\") (f \"\\[%20;u\\]\" D \"\\[\" \"\\]\" [(c \"%20;u\")])" := by
  decide +kernel

theorem exDocA_core : Core Gen.defaultCtx C03.exDocA = true := by decide +kernel
theorem exDocB_core : Core Gen.defaultCtx C03.exDocB = true := by decide +kernel

example : ∃ a b ns, parseTop { tol := true, ctx := Gen.defaultCtx, s := unparse C03.exDocA } (L2T.startFields Gen.defaultCtx) =
      .ok (.list a b ns) (unparse C03.exDocA).length ∧ eraseNodes (unparse C03.exDocA) ns = exactOf Gen.defaultCtx C03.exDocA :=
  C03_exact_roundtrip _ _ exDocA_core

#print axioms C02x_core_exact
#print axioms C03_exact_roundtrip

end Pylx.L2T.C03S
