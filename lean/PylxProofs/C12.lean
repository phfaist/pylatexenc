/-
  C12 — latex2text content filters: the property theorems (see C12Sim for the similarity relation and
  C12Vis for rendered positions).
-/
import PylxProofs.C12Sim
import PylxProofs.C12Vis
namespace Pylx.L2T.C12
open Pylx Pylx.L2T

/-! ### `math_mode='remove'`: formulas and equation environments -/

/-- a rewriting of a formula: display flag, delimiters, body -/
abbrev MathRw := Bool → Str → Str → Option (List Node) → Bool × Str × Str × Option (List Node)
/-- a rewriting of an equation environment (by name): arguments, body -/
abbrev EqEnvRw := Str → Option (List Arg) → Option (List Node) → Option (List Arg) × Option (List Node)

mutual
/-- rewrite every formula with `h` (display type, delimiters, body — arbitrary) and every environment whose text
    specification is the equation callable with `he` (arguments, body — arbitrary); elsewhere recurse -/
def mapMathNode (E : Env) (h : MathRw) (he : EqEnvRw) : Node → Node
  | .chars p e ps ch => .chars p e ps ch
  | .comment p e ps cm post => .comment p e ps cm post
  | .group p e ps o cl b => .group p e ps o cl (mapMathBody E h he b)
  | .mac p e ps name post a => .mac p e ps name post (mapMathArgsO E h he a)
  | .env p e ps name a b =>
    if (envSpec E name).repl = .eqEnv then .env p e ps name (he name a b).1 (he name a b).2
    else .env p e ps name (mapMathArgsO E h he a) (mapMathBody E h he b)
  | .specials p e ps ch a => .specials p e ps ch (mapMathArgsO E h he a)
  | .math p e ps d o cl b => .math p e ps (h d o cl b).1 (h d o cl b).2.1 (h d o cl b).2.2.1 (h d o cl b).2.2.2
def mapMathBody (E : Env) (h : MathRw) (he : EqEnvRw) : Option (List Node) → Option (List Node)
  | none => none
  | some ns => some (mapMath E h he ns)
def mapMath (E : Env) (h : MathRw) (he : EqEnvRw) : List Node → List Node
  | [] => []
  | n :: ns => mapMathNode E h he n :: mapMath E h he ns
def mapMathArgsO (E : Env) (h : MathRw) (he : EqEnvRw) : Option (List Arg) → Option (List Arg)
  | none => none
  | some l => some (mapMathArgs E h he l)
def mapMathArgs (E : Env) (h : MathRw) (he : EqEnvRw) : List Arg → List Arg
  | [] => []
  | a :: l => mapMathArg E h he a :: mapMathArgs E h he l
def mapMathArg (E : Env) (h : MathRw) (he : EqEnvRw) : Arg → Arg
  | .absent => .absent
  | .node n => .node (mapMathNode E h he n)
  | .list p e ns => .list p e (mapMath E h he ns)
end

mutual
theorem sim_mapMathNode (E : Env) (hm : E.opts.mathMode = .remove) (h : MathRw) (he : EqEnvRw) :
    ∀ n : Node, NodeSim E n (mapMathNode E h he n)
  | .chars .. => by simp only [mapMathNode, NodeSim]
  | .comment p e ps cm post => by
    simp only [mapMathNode, NodeSim]; exact ⟨_, rfl, Or.inr rfl⟩
  | .group p e ps o cl b => by
    simp only [mapMathNode, NodeSim]; exact ⟨_, rfl, sim_mapMathBody E hm h he b⟩
  | .mac p e ps name post a => by
    simp only [mapMathNode, NodeSim]; exact ⟨_, rfl, Or.inl (sim_mapMathArgsO E hm h he a)⟩
  | .env p e ps name a b => by
    simp only [mapMathNode]
    split
    · simp only [NodeSim]; exact ⟨_, _, rfl, Or.inr (Or.inr ⟨hm, ‹_›⟩)⟩
    · simp only [NodeSim]
      exact ⟨_, _, rfl, Or.inl ⟨sim_mapMathArgsO E hm h he a, sim_mapMathBody E hm h he b⟩⟩
  | .specials p e ps ch a => by
    simp only [mapMathNode, NodeSim]; exact ⟨_, rfl, Or.inl (sim_mapMathArgsO E hm h he a)⟩
  | .math p e ps d o cl b => by
    simp only [mapMathNode, NodeSim]; exact Or.inr ⟨hm, _, _, _, _, _, _, _, rfl⟩
theorem sim_mapMathBody (E : Env) (hm : E.opts.mathMode = .remove) (h : MathRw) (he : EqEnvRw) :
    ∀ b : Option (List Node), BodySim E b (mapMathBody E h he b)
  | none => by simp only [mapMathBody, BodySim]
  | some ns => by simp only [mapMathBody, BodySim]; exact ⟨_, rfl, sim_mapMath E hm h he ns⟩
theorem sim_mapMath (E : Env) (hm : E.opts.mathMode = .remove) (h : MathRw) (he : EqEnvRw) :
    ∀ ns : List Node, ListSim E ns (mapMath E h he ns)
  | [] => by simp only [mapMath, ListSim]
  | n :: ns => by
    simp only [mapMath, ListSim]; exact ⟨_, _, rfl, sim_mapMathNode E hm h he n, sim_mapMath E hm h he ns⟩
theorem sim_mapMathArgsO (E : Env) (hm : E.opts.mathMode = .remove) (h : MathRw) (he : EqEnvRw) :
    ∀ a : Option (List Arg), ArgsOSim E a (mapMathArgsO E h he a)
  | none => by simp only [mapMathArgsO, ArgsOSim]
  | some l => by simp only [mapMathArgsO, ArgsOSim]; exact ⟨_, rfl, sim_mapMathArgs E hm h he l⟩
theorem sim_mapMathArgs (E : Env) (hm : E.opts.mathMode = .remove) (h : MathRw) (he : EqEnvRw) :
    ∀ l : List Arg, ArgsSim E l (mapMathArgs E h he l)
  | [] => by simp only [mapMathArgs, ArgsSim]
  | a :: l => by
    simp only [mapMathArgs, ArgsSim]; exact ⟨_, _, rfl, sim_mapMathArg E hm h he a, sim_mapMathArgs E hm h he l⟩
theorem sim_mapMathArg (E : Env) (hm : E.opts.mathMode = .remove) (h : MathRw) (he : EqEnvRw) :
    ∀ a : Arg, ArgSim E a (mapMathArg E h he a)
  | .absent => by simp only [mapMathArg, ArgSim]
  | .node n => by simp only [mapMathArg, ArgSim]; exact ⟨_, rfl, sim_mapMathNode E hm h he n⟩
  | .list p e ns => by simp only [mapMathArg, ArgSim]; exact ⟨_, rfl, sim_mapMath E hm h he ns⟩
end

/-- **C12 (`math_mode='remove'`).**  The output does not depend on any formula (body, delimiters, display type) nor
    on the arguments / body of any environment rendered by the equation callable (`equation`, `align`, …): for every
    rewriting of those, every other option, both databases, every library oracle, source and forest. -/
theorem C12_remove (opts : Opts) (db : TextDb) (ctx : Ctx) (lib : Lib) (src : Str) (hm : opts.mathMode = .remove)
    (h : MathRw) (he : EqEnvRw) (ns : List Node) :
    render opts db ctx lib src (mapMath { opts := opts, db := db, ctx := ctx, lib := lib, src := src } h he ns) =
      render opts db ctx lib src ns :=
  (C12_noninterference opts db ctx lib src ns _ (sim_mapMath _ hm h he ns)).symm

/-- under `math_mode='remove'` a formula node emits the empty string -/
theorem C12_remove_node (E : Env) (hm : E.opts.mathMode = .remove) (c : Sls) (p e : Nat) (ps : PSInfo) (d : Bool)
    (o cl : Str) (b : Option (List Node)) : renderNode E c (.math p e ps d o cl b) = R.pure [] := by
  rw [renderNode_math, mathText_remove hm]

/-- under `math_mode='remove'` an equation environment emits the empty string -/
theorem C12_remove_env (E : Env) (hm : E.opts.mathMode = .remove) (c : Sls) (p e : Nat) (ps : PSInfo) (name : Str)
    (a : Option (List Arg)) (b : Option (List Node)) (hr : (envSpec E name).repl = .eqEnv) :
    renderNode E c (.env p e ps name a b) = R.pure [] := by
  rw [renderNode_env, applySpec_eqEnv_remove hm hr]

/-! ### discarded constructs -/

instance (E : Env) (sp : TSpec) : Decidable (Discarded E sp) := by unfold Discarded; infer_instance

/-- rewrite an argument slot, keeping absent slots absent -/
def reArg (f : Node → Node) : Arg → Arg
  | .absent => .absent
  | .node n => .node (f n)
  | .list p e ns => .list p e (ns.map f)

def reArgsO (f : Node → Node) (a : Option (List Arg)) : Option (List Arg) := a.map (·.map (reArg f))

theorem reArgsO_shape (f : Node → Node) (a : Option (List Arg)) : ArgsOShape a (reArgsO f a) := by
  cases a with
  | none => exact ⟨rfl, rfl⟩
  | some l =>
    refine ⟨rfl, ?_⟩
    simp only [reArgsO, Option.map_some, Option.getD_some, List.map_map]
    apply List.map_congr_left
    intro a _
    cases a <;> rfl

def specialsDiscarded (E : Env) (ch : Str) : Bool :=
  match lookupFirst ch E.db.specials with
  | some sp => decide (Discarded E sp)
  | none => false

mutual
/-- rewrite the arguments (every node in them by `f`) and the body (by `fb`) of every discarded macro, environment
    and specials; elsewhere recurse -/
def mapDiscNode (E : Env) (f : Node → Node) (fb : Option (List Node) → Option (List Node)) : Node → Node
  | .chars p e ps ch => .chars p e ps ch
  | .comment p e ps cm post => .comment p e ps cm post
  | .group p e ps o cl b => .group p e ps o cl (mapDiscBody E f fb b)
  | .mac p e ps name post a =>
    if Discarded E (macSpec E name) then .mac p e ps name post (reArgsO f a)
    else .mac p e ps name post (mapDiscArgsO E f fb a)
  | .env p e ps name a b =>
    if Discarded E (envSpec E name) then .env p e ps name (reArgsO f a) (fb b)
    else .env p e ps name (mapDiscArgsO E f fb a) (mapDiscBody E f fb b)
  | .specials p e ps ch a =>
    if specialsDiscarded E ch then
      .specials p e ps ch (reArgsO f a)
    else .specials p e ps ch (mapDiscArgsO E f fb a)
  | .math p e ps d o cl b => .math p e ps d o cl (mapDiscBody E f fb b)
def mapDiscBody (E : Env) (f : Node → Node) (fb : Option (List Node) → Option (List Node)) : Option (List Node) → Option (List Node)
  | none => none
  | some ns => some (mapDisc E f fb ns)
def mapDisc (E : Env) (f : Node → Node) (fb : Option (List Node) → Option (List Node)) : List Node → List Node
  | [] => []
  | n :: ns => mapDiscNode E f fb n :: mapDisc E f fb ns
def mapDiscArgsO (E : Env) (f : Node → Node) (fb : Option (List Node) → Option (List Node)) : Option (List Arg) → Option (List Arg)
  | none => none
  | some l => some (mapDiscArgs E f fb l)
def mapDiscArgs (E : Env) (f : Node → Node) (fb : Option (List Node) → Option (List Node)) : List Arg → List Arg
  | [] => []
  | a :: l => mapDiscArg E f fb a :: mapDiscArgs E f fb l
def mapDiscArg (E : Env) (f : Node → Node) (fb : Option (List Node) → Option (List Node)) : Arg → Arg
  | .absent => .absent
  | .node n => .node (mapDiscNode E f fb n)
  | .list p e ns => .list p e (mapDisc E f fb ns)
end

mutual
theorem sim_mapDiscNode (E : Env) (f : Node → Node) (fb : Option (List Node) → Option (List Node)) :
    ∀ n : Node, NodeSim E n (mapDiscNode E f fb n)
  | .chars .. => by simp only [mapDiscNode, NodeSim]
  | .comment p e ps cm post => by
    simp only [mapDiscNode, NodeSim]; exact ⟨_, rfl, Or.inr rfl⟩
  | .group p e ps o cl b => by
    simp only [mapDiscNode, NodeSim]; exact ⟨_, rfl, sim_mapDiscBody E f fb b⟩
  | .mac p e ps name post a => by
    simp only [mapDiscNode]
    split
    · simp only [NodeSim]; exact ⟨_, rfl, Or.inr ⟨‹_›, reArgsO_shape f a⟩⟩
    · simp only [NodeSim]; exact ⟨_, rfl, Or.inl (sim_mapDiscArgsO E f fb a)⟩
  | .env p e ps name a b => by
    simp only [mapDiscNode]
    split
    · simp only [NodeSim]; exact ⟨_, _, rfl, Or.inr (Or.inl ‹_›)⟩
    · simp only [NodeSim]
      exact ⟨_, _, rfl, Or.inl ⟨sim_mapDiscArgsO E f fb a, sim_mapDiscBody E f fb b⟩⟩
  | .specials p e ps ch a => by
    simp only [mapDiscNode]
    split
    · rename_i hc
      simp only [NodeSim]
      refine ⟨_, rfl, Or.inr ?_⟩
      unfold specialsDiscarded at hc
      cases hl : lookupFirst ch E.db.specials with
      | none => rw [hl] at hc; cases hc
      | some sp =>
        rw [hl] at hc
        exact ⟨sp, rfl, of_decide_eq_true hc⟩
    · simp only [NodeSim]; exact ⟨_, rfl, Or.inl (sim_mapDiscArgsO E f fb a)⟩
  | .math p e ps d o cl b => by
    simp only [mapDiscNode, NodeSim]; exact Or.inl ⟨_, rfl, sim_mapDiscBody E f fb b⟩
theorem sim_mapDiscBody (E : Env) (f : Node → Node) (fb : Option (List Node) → Option (List Node)) :
    ∀ b : Option (List Node), BodySim E b (mapDiscBody E f fb b)
  | none => by simp only [mapDiscBody, BodySim]
  | some ns => by simp only [mapDiscBody, BodySim]; exact ⟨_, rfl, sim_mapDisc E f fb ns⟩
theorem sim_mapDisc (E : Env) (f : Node → Node) (fb : Option (List Node) → Option (List Node)) :
    ∀ ns : List Node, ListSim E ns (mapDisc E f fb ns)
  | [] => by simp only [mapDisc, ListSim]
  | n :: ns => by
    simp only [mapDisc, ListSim]; exact ⟨_, _, rfl, sim_mapDiscNode E f fb n, sim_mapDisc E f fb ns⟩
theorem sim_mapDiscArgsO (E : Env) (f : Node → Node) (fb : Option (List Node) → Option (List Node)) :
    ∀ a : Option (List Arg), ArgsOSim E a (mapDiscArgsO E f fb a)
  | none => by simp only [mapDiscArgsO, ArgsOSim]
  | some l => by simp only [mapDiscArgsO, ArgsOSim]; exact ⟨_, rfl, sim_mapDiscArgs E f fb l⟩
theorem sim_mapDiscArgs (E : Env) (f : Node → Node) (fb : Option (List Node) → Option (List Node)) :
    ∀ l : List Arg, ArgsSim E l (mapDiscArgs E f fb l)
  | [] => by simp only [mapDiscArgs, ArgsSim]
  | a :: l => by
    simp only [mapDiscArgs, ArgsSim]; exact ⟨_, _, rfl, sim_mapDiscArg E f fb a, sim_mapDiscArgs E f fb l⟩
theorem sim_mapDiscArg (E : Env) (f : Node → Node) (fb : Option (List Node) → Option (List Node)) :
    ∀ a : Arg, ArgSim E a (mapDiscArg E f fb a)
  | .absent => by simp only [mapDiscArg, ArgSim]
  | .node n => by simp only [mapDiscArg, ArgSim]; exact ⟨_, rfl, sim_mapDiscNode E f fb n⟩
  | .list p e ns => by simp only [mapDiscArg, ArgSim]; exact ⟨_, rfl, sim_mapDisc E f fb ns⟩
end

/-- **C12 (discarded constructs).**  The output does not depend on what is written in the arguments of a macro /
    environment / specials whose text specification has no replacement and `discard = True`, nor on the body of such
    an environment (the rewriting keeps the pattern of absent optional arguments, which decides whether the macro
    counts as "bare" for the space after it): every option set, both databases, every oracle, source and forest. -/
theorem C12_discard (opts : Opts) (db : TextDb) (ctx : Ctx) (lib : Lib) (src : Str)
    (f : Node → Node) (fb : Option (List Node) → Option (List Node)) (ns : List Node) :
    render opts db ctx lib src (mapDisc { opts := opts, db := db, ctx := ctx, lib := lib, src := src } f fb ns) =
      render opts db ctx lib src ns :=
  (C12_noninterference opts db ctx lib src ns _ (sim_mapDisc _ f fb ns)).symm

/-- a discarded macro emits the empty string -/
theorem C12_discard_mac (E : Env) (c : Sls) (p e : Nat) (ps : PSInfo) (name post : Str) (a : Option (List Arg))
    (h : Discarded E (macSpec E name)) : renderNode E c (.mac p e ps name post a) = R.pure [] := by
  rw [renderNode_mac, applySpec_discarded h]

/-- a discarded environment emits the empty string -/
theorem C12_discard_env (E : Env) (c : Sls) (p e : Nat) (ps : PSInfo) (name : Str) (a : Option (List Arg))
    (b : Option (List Node)) (h : Discarded E (envSpec E name)) : renderNode E c (.env p e ps name a b) = R.pure [] := by
  rw [renderNode_env, applySpec_discarded h]

/-- a discarded specials emits the empty string -/
theorem C12_discard_specials (E : Env) (c : Sls) (p e : Nat) (ps : PSInfo) (ch : Str) (a : Option (List Arg)) (sp : TSpec)
    (hl : lookupFirst ch E.db.specials = some sp) (h : Discarded E sp) :
    renderNode E c (.specials p e ps ch a) = R.pure [] := by
  rw [renderNode_specials]
  simp only [hl]
  rw [applySpec_discarded h]

/-! ### words that survive `strip` and block indentation -/

/-- non-empty, first and last character not Python whitespace -/
def Solid (w : Str) : Prop :=
  (∃ c r, w = c :: r ∧ isPySpace c = false) ∧ (∃ c r, w.reverse = c :: r ∧ isPySpace c = false)

theorem infix_dropWhile {w : Str} {c0 : Char} {r0 : Str} (hw : w = c0 :: r0) (hc : isPySpace c0 = false) :
    ∀ x : Str, w <:+: x → w <:+: x.dropWhile isPySpace
  | [], h => by
    subst hw
    have := List.infix_nil.1 h
    cases this
  | c :: r, h => by
    by_cases hs : isPySpace c = true
    · rw [List.dropWhile_cons_of_pos hs]
      rcases List.infix_cons_iff.1 h with hp | hi
      · subst hw
        obtain ⟨t, ht⟩ := hp
        simp only [List.cons_append, List.cons.injEq] at ht
        rw [ht.1, hs] at hc; cases hc
      · exact infix_dropWhile hw hc r hi
    · rw [List.dropWhile_cons_of_neg hs]; exact h

theorem infix_strip {w : Str} (hw : Solid w) (x : Str) (h : w <:+: x) : w <:+: strip x := by
  obtain ⟨⟨c0, r0, h0, hc0⟩, ⟨c1, r1, h1, hc1⟩⟩ := hw
  have a := infix_dropWhile h0 hc0 x h
  have b := infix_dropWhile h1 hc1 _ (List.reverse_infix.2 a)
  have := List.reverse_infix.2 b
  rw [List.reverse_reverse] at this
  exact this

theorem indentLines_append (ind : Str) : ∀ a b : Str, indentLines ind (a ++ b) = indentLines ind a ++ indentLines ind b
  | [], b => rfl
  | c :: a, b => by
    simp only [List.cons_append, indentLines]
    split
    · simp only [indentLines_append ind a b, List.append_assoc, List.cons_append]
    · simp only [indentLines_append ind a b, List.cons_append]

theorem indentLines_noNl (ind : Str) : ∀ w : Str, '\n' ∉ w → indentLines ind w = w
  | [], _ => rfl
  | c :: w, h => by
    have hc : (c == '\n') = false := by
      have : c ≠ '\n' := fun hc => h (by rw [hc]; exact List.mem_cons_self)
      simpa using this
    simp only [indentLines, hc, Bool.false_eq_true, if_false]
    rw [indentLines_noNl ind w (fun hm => h (List.mem_cons_of_mem _ hm))]

theorem infix_indentLines {w : Str} (hw : '\n' ∉ w) (ind x : Str) (h : w <:+: x) : w <:+: indentLines ind x := by
  obtain ⟨a, b, rfl⟩ := h
  rw [indentLines_append, indentLines_append, indentLines_noNl ind w hw]
  exact infix_mid _ _ _

theorem up_infix (w : Str) : Up (w <:+: ·) := fun _ _ hxy hw => List.IsInfix.trans hw hxy

/-- `s.rstrip()` -/
def rstrip (s : Str) : Str := (s.reverse.dropWhile isPySpace).reverse

theorem rstrip_prefix (s : Str) : rstrip s <+: s := by
  have h := List.takeWhile_append_dropWhile (p := isPySpace) (l := s.reverse)
  have h2 := congrArg List.reverse h
  rw [List.reverse_append, List.reverse_reverse] at h2
  exact ⟨_, h2⟩

theorem solid_percent (cm : Str) : Solid ('%' :: rstrip cm) := by
  refine ⟨⟨'%', _, rfl, by decide⟩, ?_⟩
  simp only [List.reverse_cons, rstrip, List.reverse_reverse]
  cases hd : cm.reverse.dropWhile isPySpace with
  | nil => exact ⟨'%', [], rfl, by decide⟩
  | cons c r =>
    have hc := List.head?_dropWhile_not isPySpace cm.reverse
    rw [hd] at hc
    exact ⟨c, r ++ ['%'], rfl, hc⟩

/-! ### `keep_comments=True` -/

theorem renderNode_comment_kept (E : Env) (hk : E.opts.keepComments = true) (c : Sls) (p e : Nat) (ps : PSInfo) (cm post : Str) :
    Emits ('%' :: rstrip cm <:+: ·) (renderNode E c (.comment p e ps cm post)) := by
  rw [renderNode_comment]
  apply emits_pure
  obtain ⟨r, hr⟩ := rstrip_prefix cm
  simp only [hk, if_true]
  split
  · refine ⟨[], r ++ (if post.isEmpty then [] else ['\n']), ?_⟩
    simp only [List.nil_append, List.cons_append, ← List.append_assoc, hr]
  · refine ⟨[], r ++ post, ?_⟩
    simp only [List.nil_append, List.cons_append, ← List.append_assoc, hr]

/-- **C12 (comments kept).**  With `keep_comments=True` every comment node in rendered position appears in the output
    as `%` followed by its text, up to trailing whitespace of the text (`strip()` of a formula's text removes it when
    the comment ends the formula).  Every option set, both databases, every oracle, source and forest; the comment
    text must not contain a newline when `math_mode='text'` (a display block re-indents its lines; the tokenizer never
    puts a newline into a comment's text). -/
theorem C12_comments_kept (opts : Opts) (db : TextDb) (ctx : Ctx) (lib : Lib) (src : Str) (hk : opts.keepComments = true)
    (ns : List Node) (p e : Nat) (ps : PSInfo) (cm post : Str)
    (hnl : opts.mathMode = .text → '\n' ∉ cm)
    (h : InList { opts := opts, db := db, ctx := ctx, lib := lib, src := src } (.comment p e ps cm post) ns)
    (out : Str) (hr : render opts db ctx lib src ns = .ok out) : '%' :: rstrip cm <:+: out := by
  refine vis_render opts db ctx lib src _ ('%' :: rstrip cm <:+: ·) ?_ ns h out hr
  refine ⟨up_infix _, fun _ => infix_strip (solid_percent cm), fun hm => ?_, fun c => renderNode_comment_kept _ hk c p e ps cm post⟩
  intro x hx
  refine infix_indentLines ?_ _ x hx
  intro hmem
  rcases List.mem_cons.1 hmem with h1 | h1
  · cases h1
  · exact hnl hm ((rstrip_prefix cm).subset h1)

/-- the comment text itself appears when it has no trailing whitespace -/
theorem C12_comments_kept_exact (opts : Opts) (db : TextDb) (ctx : Ctx) (lib : Lib) (src : Str) (hk : opts.keepComments = true)
    (ns : List Node) (p e : Nat) (ps : PSInfo) (cm post : Str) (hnl : opts.mathMode = .text → '\n' ∉ cm)
    (hts : rstrip cm = cm)
    (h : InList { opts := opts, db := db, ctx := ctx, lib := lib, src := src } (.comment p e ps cm post) ns)
    (out : Str) (hr : render opts db ctx lib src ns = .ok out) : '%' :: cm <:+: out := by
  have := C12_comments_kept opts db ctx lib src hk ns p e ps cm post hnl h out hr
  rwa [hts] at this

/-- the statement without the `rstrip` -/
def C12_comments_kept_full : Prop :=
  ∀ (opts : Opts) (db : TextDb) (ctx : Ctx) (lib : Lib) (src : Str), opts.keepComments = true →
    ∀ (ns : List Node) (p e : Nat) (ps : PSInfo) (cm post : Str),
      InList { opts := opts, db := db, ctx := ctx, lib := lib, src := src } (.comment p e ps cm post) ns →
      ∀ out, render opts db ctx lib src ns = .ok out → '%' :: cm <:+: out

/-! ### `math_mode='verbatim'` -/

theorem not_mathShown_verbatim {E : Env} (hm : E.opts.mathMode = .verbatim) : ¬ MathShown E := by
  rintro (h | h) <;> rw [hm] at h <;> cases h

/-- under `verbatim` no path crosses a shown formula, so "contains `w`" is carried by every rendered position -/
theorem carrier_verbatim {E : Env} (hm : E.opts.mathMode = .verbatim) {t : Node} {w : Str}
    (h : ∀ c, Emits (w <:+: ·) (renderNode E c t)) : Carrier E t (w <:+: ·) :=
  ⟨up_infix _, fun hs => absurd hs (not_mathShown_verbatim hm), fun ht => (nomatch hm.symm.trans ht), h⟩

/-- **C12 (`math_mode='verbatim'`).**  For every formula node in rendered position the slice `src[pos:posEnd]` of the
    source appears unchanged in the output (inline: as it is; display: as the block `"\n" + slice + "\n"`). -/
theorem C12_verbatim (opts : Opts) (db : TextDb) (ctx : Ctx) (lib : Lib) (src : Str) (hm : opts.mathMode = .verbatim)
    (ns : List Node) (p e : Nat) (ps : PSInfo) (d : Bool) (o cl : Str) (b : Option (List Node))
    (h : InList { opts := opts, db := db, ctx := ctx, lib := lib, src := src } (.math p e ps d o cl b) ns)
    (out : Str) (hr : render opts db ctx lib src ns = .ok out) :
    (if d then '\n' :: (slice src p e ++ ['\n']) else slice src p e) <:+: out := by
  refine vis_render opts db ctx lib src _ (_ <:+: ·) (carrier_verbatim hm fun c => ?_) ns h out hr
  rw [renderNode_math, mathText_verbatim hm, Bool.false_or, indentedBlock_nil]
  exact emits_pure (List.infix_refl _)

/-- in particular the source slice itself appears -/
theorem C12_verbatim_slice (opts : Opts) (db : TextDb) (ctx : Ctx) (lib : Lib) (src : Str) (hm : opts.mathMode = .verbatim)
    (ns : List Node) (p e : Nat) (ps : PSInfo) (d : Bool) (o cl : Str) (b : Option (List Node))
    (h : InList { opts := opts, db := db, ctx := ctx, lib := lib, src := src } (.math p e ps d o cl b) ns)
    (out : Str) (hr : render opts db ctx lib src ns = .ok out) : slice src p e <:+: out := by
  have := C12_verbatim opts db ctx lib src hm ns p e ps d o cl b h out hr
  cases d
  · exact this
  · exact (List.IsInfix.trans (infix_mid ['\n'] _ ['\n']) (by simpa using this))

/-- the same for an environment rendered by the equation callable (`equation`, `align`, …): always a block -/
theorem C12_verbatim_env (opts : Opts) (db : TextDb) (ctx : Ctx) (lib : Lib) (src : Str) (hm : opts.mathMode = .verbatim)
    (ns : List Node) (p e : Nat) (ps : PSInfo) (name : Str) (a : Option (List Arg)) (b : Option (List Node))
    (hq : (envSpec { opts := opts, db := db, ctx := ctx, lib := lib, src := src } name).repl = .eqEnv)
    (h : InList { opts := opts, db := db, ctx := ctx, lib := lib, src := src } (.env p e ps name a b) ns)
    (out : Str) (hr : render opts db ctx lib src ns = .ok out) :
    '\n' :: (slice src p e ++ ['\n']) <:+: out := by
  refine vis_render opts db ctx lib src _ (_ <:+: ·) (carrier_verbatim hm fun c => ?_) ns h out hr
  rw [renderNode_env, applySpec_eqEnv hq, mathText_verbatim hm, Bool.true_or, if_pos rfl, indentedBlock_nil]
  exact emits_pure (List.infix_refl _)

/-! ### `math_mode='with-delimiters'` -/

/-- **C12 (`with-delimiters`), node form.**  What a formula node emits is its opening delimiter, the stripped text of
    its body (rendered in equation context; for a display formula as the block `"\n" + text + "\n"`), its closing
    delimiter. -/
theorem C12_with_delims (E : Env) (hm : E.opts.mathMode = .withDelims) (c : Sls) (p e : Nat) (ps : PSInfo) (d : Bool)
    (o cl : Str) (b : Option (List Node)) (st : St) (out : Str) (st' : St)
    (hr : renderNode E c (.math p e ps d o cl b) st = .ok (out, st')) :
    ∃ t, renderBody E c.enterEq b st = .ok (t, st') ∧
      out = o ++ (if d then '\n' :: (strip t ++ ['\n']) else strip t) ++ cl := by
  simp only [renderNode_math, mathText_withDelims hm, Bool.false_or, indentedBlock_nil] at hr
  obtain ⟨t, st1, h1, hr⟩ := R.bind_ok hr
  cases R.pure_ok hr
  refine ⟨t, h1, ?_⟩
  cases d <;> simp

/-- **C12 (`with-delimiters`), document form.**  Every formula node in rendered position whose delimiters do not begin
    / end with whitespace keeps them in the output: `dopen ++ content ++ dclose` (display: `content` is a block) is an
    infix of the output, for some `content`. -/
theorem C12_with_delims_kept (opts : Opts) (db : TextDb) (ctx : Ctx) (lib : Lib) (src : Str) (hm : opts.mathMode = .withDelims)
    (ns : List Node) (p e : Nat) (ps : PSInfo) (d : Bool) (o cl : Str) (b : Option (List Node))
    (ho : ∃ c r, o = c :: r ∧ isPySpace c = false) (hcl : ∃ c r, cl.reverse = c :: r ∧ isPySpace c = false)
    (h : InList { opts := opts, db := db, ctx := ctx, lib := lib, src := src } (.math p e ps d o cl b) ns)
    (out : Str) (hr : render opts db ctx lib src ns = .ok out) :
    ∃ content, o ++ (if d then '\n' :: (content ++ ['\n']) else content) ++ cl <:+: out := by
  refine vis_render opts db ctx lib src _ (fun out => ∃ content, o ++ (if d then '\n' :: (content ++ ['\n']) else content) ++ cl <:+: out)
    ?_ ns h out hr
  refine ⟨?_, fun _ => ?_, fun ht => ?_, fun c => ?_⟩
  · rintro x y hxy ⟨ct, hct⟩
    exact ⟨ct, hct.trans hxy⟩
  · rintro x ⟨ct, hct⟩
    refine ⟨ct, infix_strip ?_ x hct⟩
    obtain ⟨c0, r0, h0, hc0⟩ := ho
    obtain ⟨c1, r1, h1, hc1⟩ := hcl
    refine ⟨⟨c0, r0 ++ (if d then '\n' :: (ct ++ ['\n']) else ct) ++ cl, by rw [h0]; simp, hc0⟩,
      ⟨c1, r1 ++ (o ++ (if d then '\n' :: (ct ++ ['\n']) else ct)).reverse, ?_, hc1⟩⟩
    rw [List.reverse_append, h1]; rfl
  · rw [hm] at ht; cases ht
  · intro st out st' hr
    obtain ⟨t, _, rfl⟩ := C12_with_delims _ hm c p e ps d o cl b st out st' hr
    exact ⟨strip t, List.infix_refl _⟩


/-! ### witnesses and non-vacuity -/

def lib0 : Lib := { nfc2 := fun c d => [c, d], upper := fun c => [c], today := ['J'] }

/-- a small text database: `\emph` transparent, `\frac` = `'%s/%s'`, `\label` and `comment` discarded, `equation` -/
def db0 : TextDb :=
  { macros := [(['e', 'm', 'p', 'h'], ⟨true, false, .none⟩), (['f', 'r', 'a', 'c'], ⟨true, true, .fmt ['%', 's', '/', '%', 's'] [.pos, .lit ['/'], .pos]⟩),
               (['l', 'a', 'b', 'e', 'l'], ⟨true, true, .none⟩)],
    envs := [(['e', 'q', 'u', 'a', 't', 'i', 'o', 'n'], ⟨true, false, .eqEnv⟩), (['c', 'o', 'm', 'm', 'e', 'n', 't'], ⟨true, true, .none⟩)] }

def ctx0 : Ctx := { macros := [(['e', 'm', 'p', 'h'], .std [⟨.m, .none⟩]), (['f', 'r', 'a', 'c'], .std [⟨.m, .none⟩, ⟨.m, .none⟩]),
                               (['l', 'a', 'b', 'e', 'l'], .std [⟨.m, .none⟩])] }

def cmt0 : Node := .comment 7 11 {} ['Q', 'C', ' '] ['\n']
def frm0 : Node := .math 11 16 {} false ['$'] ['$'] (some [.chars 12 15 {} ['a', '+', 'b'], cmt0])
def dfrm0 : Node := .math 16 21 {} true ['\\', '['] ['\\', ']'] (some [.chars 18 19 {} ['u']])
/-- `\emph{x%QC ⏎$a+b…$\[u\]}\frac{p}{%QC ⏎}\label{k}\begin{comment}z\end{comment}` (positions schematic) -/
def forest0 : List Node :=
  [.mac 0 22 {} ['e', 'm', 'p', 'h'] [] (some [.node (.group 5 22 {} ['{'] ['}'] (some [.chars 6 7 {} ['x'], cmt0, frm0, dfrm0]))]),
   .mac 22 40 {} ['f', 'r', 'a', 'c'] [] (some [.node (.group 27 30 {} ['{'] ['}'] (some [.chars 28 29 {} ['p']])),
                                        .node (.group 30 40 {} ['{'] ['}'] (some [cmt0]))]),
   .mac 40 48 {} ['l', 'a', 'b', 'e', 'l'] [] (some [.node (.group 46 48 {} ['{'] ['}'] (some [.chars 47 48 {} ['k']]))]),
   .env 48 80 {} ['c', 'o', 'm', 'm', 'e', 'n', 't'] (some []) (some [.chars 63 64 {} ['z']])]

def src0 : Str := ['0', '1', '2', '3', '4', '5', '6', '7', '8', '9', ' ', '$', 'a', '+', 'b', '$', '\\', '[', 'u', '\\', ']']

def E0 (opts : Opts) : Env := { opts := opts, db := db0, ctx := ctx0, lib := lib0, src := src0 }

theorem cmt0_in_forest0 (opts : Opts) : InList (E0 opts) cmt0 forest0 := by
  refine Or.inl (Or.inr (Or.inl ⟨Or.inl ⟨rfl, rfl, rfl⟩, ?_⟩))
  show InBody _ _ _ ∨ _
  exact Or.inl (Or.inr (Or.inl rfl))

theorem cmt0_in_frac (opts : Opts) : InList (E0 opts) cmt0 forest0 := by
  refine Or.inr (Or.inl (Or.inr (Or.inl ⟨Or.inr ⟨_, _, rfl, rfl, rfl⟩, ?_⟩)))
  show _ ∨ (InBody _ _ _ ∨ _)
  exact Or.inr (Or.inl (Or.inl rfl))

theorem frm0_in_forest0 (opts : Opts) : InList (E0 opts) frm0 forest0 := by
  refine Or.inl (Or.inr (Or.inl ⟨Or.inl ⟨rfl, rfl, rfl⟩, ?_⟩))
  show InBody _ _ _ ∨ _
  exact Or.inl (Or.inr (Or.inr (Or.inl (Or.inl rfl))))

theorem dfrm0_in_forest0 (opts : Opts) : InList (E0 opts) dfrm0 forest0 := by
  refine Or.inl (Or.inr (Or.inl ⟨Or.inl ⟨rfl, rfl, rfl⟩, ?_⟩))
  show InBody _ _ _ ∨ _
  exact Or.inl (Or.inr (Or.inr (Or.inr (Or.inl (Or.inl rfl)))))

/-- the forest renders (no crash) under the option sets used below -/
theorem forest0_renders_kept : isOkText (render { keepComments := true } db0 ctx0 lib0 src0 forest0) ['x', '%', 'Q', 'C', ' ', '\n', 'a', '+', 'b', '%', 'Q', 'C', '\n', ' ', ' ', ' ', ' ', 'u', '\n', 'p', '/', '%', 'Q', 'C', ' ', '\n'] = true := by
  decide +kernel
theorem forest0_renders_verbatim : isOkText (render { mathMode := .verbatim } db0 ctx0 lib0 src0 forest0) ['x', '\n', '$', 'a', '+', 'b', '$', '\n', '\\', '[', 'u', '\\', ']', '\n', 'p', '/', '\n'] = true := by
  decide +kernel
theorem forest0_renders_delims : isOkText (render { mathMode := .withDelims } db0 ctx0 lib0 src0 forest0) ['x', '\n', '$', 'a', '+', 'b', '$', '\\', '[', '\n', 'u', '\n', '\\', ']', 'p', '/', '\n'] = true := by
  decide +kernel

-- non-vacuity of the theorems' hypotheses on `forest0`
example : render {} db0 ctx0 lib0 src0 (mapComments (fun p _ => ['R', 'E', 'W', 'R', 'I', 'T', 'T', 'E', 'N'] ++ List.replicate p '!') forest0) =
    render {} db0 ctx0 lib0 src0 forest0 := C12_comments_hidden {} db0 ctx0 lib0 src0 rfl _ forest0
example : '%' :: rstrip ['Q', 'C', ' '] <:+: ['x', '%', 'Q', 'C', ' ', '\n', 'a', '+', 'b', '%', 'Q', 'C', '\n', ' ', ' ', ' ', ' ', 'u', '\n', 'p', '/', '%', 'Q', 'C', ' ', '\n'] :=
  C12_comments_kept { keepComments := true } db0 ctx0 lib0 src0 rfl forest0 7 11 {} ['Q', 'C', ' '] ['\n'] (fun _ => by decide)
    (cmt0_in_forest0 _) _ (ok_of_isOkText forest0_renders_kept)
example : render { mathMode := .remove } db0 ctx0 lib0 src0
      (mapMath (E0 { mathMode := .remove }) (fun _ _ _ _ => (true, ['<', '<'], ['>', '>'], some [cmt0])) (fun _ _ _ => (none, none)) forest0) =
    render { mathMode := .remove } db0 ctx0 lib0 src0 forest0 := C12_remove { mathMode := .remove } db0 ctx0 lib0 src0 rfl _ _ forest0
example : ['$', 'a', '+', 'b', '$'] <:+: ['x', '\n', '$', 'a', '+', 'b', '$', '\n', '\\', '[', 'u', '\\', ']', '\n', 'p', '/', '\n'] :=
  C12_verbatim { mathMode := .verbatim } db0 ctx0 lib0 src0 rfl forest0 11 16 {} false _ _ _ (frm0_in_forest0 _) _
    (ok_of_isOkText forest0_renders_verbatim)
example : ['\n', '\\', '[', 'u', '\\', ']', '\n'] <:+: ['x', '\n', '$', 'a', '+', 'b', '$', '\n', '\\', '[', 'u', '\\', ']', '\n', 'p', '/', '\n'] :=
  C12_verbatim { mathMode := .verbatim } db0 ctx0 lib0 src0 rfl forest0 16 21 {} true _ _ _ (dfrm0_in_forest0 _) _
    (ok_of_isOkText forest0_renders_verbatim)
example : ∃ content, ['\\', '['] ++ ('\n' :: (content ++ ['\n'])) ++ ['\\', ']'] <:+: ['x', '\n', '$', 'a', '+', 'b', '$', '\\', '[', '\n', 'u', '\n', '\\', ']', 'p', '/', '\n'] :=
  C12_with_delims_kept { mathMode := .withDelims } db0 ctx0 lib0 src0 rfl forest0 16 21 {} true _ _ _
    ⟨'\\', ['['], rfl, by decide⟩ ⟨']', ['\\'], rfl, by decide⟩ (dfrm0_in_forest0 _) _ (ok_of_isOkText forest0_renders_delims)
example : render {} db0 ctx0 lib0 src0 (mapDisc (E0 {}) (fun _ => cmt0) (fun _ => some [frm0]) forest0) =
    render {} db0 ctx0 lib0 src0 forest0 := C12_discard {} db0 ctx0 lib0 src0 _ _ forest0
example : Discarded (E0 {}) (macSpec (E0 {}) ['l', 'a', 'b', 'e', 'l']) := ⟨rfl, rfl, rfl⟩
example : Discarded (E0 {}) (envSpec (E0 {}) ['c', 'o', 'm', 'm', 'e', 'n', 't']) := ⟨rfl, rfl, rfl⟩

/-- the trailing blank of a comment that ends a formula is removed by `strip()`: the un-stripped statement is false
    (`$…%QC ⏎$` with `keep_comments=True`) -/
theorem C12_comments_kept_full_false : ¬ C12_comments_kept_full := by
  intro h
  have := h { keepComments := true } db0 ctx0 lib0 src0 rfl [frm0] 7 11 {} ['Q', 'C', ' '] ['\n']
    (Or.inl (Or.inr ⟨Or.inl rfl, Or.inr (Or.inl rfl)⟩)) ['a', '+', 'b', '%', 'Q', 'C'] (ok_of_isOkText (by decide +kernel))
  revert this
  decide

/-- the same on the string level, default databases: `$x%c ⏎$` renders as `x%c` -/
theorem C12_trailing_blank_witness :
    isOkText (latexToText { keepComments := true } lib0 ['$', 'x', '%', 'c', ' ', '\n', '$']) ['x', '%', 'c'] = true := by
  decide +kernel

/-- **F24** (model = code as found): a comment between a macro and its argument is dropped from the tree by the
    argument parser, so `keep_comments=True` cannot render it: `\emph %QC⏎{x}` gives `x` -/
theorem C12_F24_witness_emph :
    isOkText (latexToText { keepComments := true } lib0 ['\\', 'e', 'm', 'p', 'h', ' ', '%', 'Q', 'C', '\n', '{', 'x', '}']) ['x'] = true := by
  decide +kernel

theorem C12_F24_witness_frac :
    isOkText (latexToText { keepComments := true } lib0 ['\\', 'f', 'r', 'a', 'c', '{', 'a', '}', '%', 'Q', 'C', '\n', '{', 'b', '}']) ['a', '/', 'b'] = true := by
  decide +kernel

/-- whereas the same comment inside the argument is rendered -/
theorem C12_F24_contrast :
    isOkText (latexToText { keepComments := true } lib0 ['\\', 'e', 'm', 'p', 'h', '{', '%', 'Q', 'C', '\n', 'x', '}']) ['%', 'Q', 'C', '\n', 'x'] = true := by
  decide +kernel

end Pylx.L2T.C12
