/-
  C06 — token-level facts used by the progress argument: what an end-of-stream answer means, and that a
  math-delimiter token starts at a non-space character (so re-reading at its start never hits the end).
-/
import PylxProofs.C05Tok
namespace Pylx

/-- nothing but whitespace from `pos` on -/
def EosAt (s : Str) (pos : Nat) : Prop := s[pos + (spaceRun s pos).length]? = none

def isMathKind : TokKind → Bool
  | .mathInline => true | .mathDisplay => true | _ => false

theorem isMathKind_iff (k : TokKind) : isMathKind k = true ↔ k = .mathInline ∨ k = .mathDisplay := by
  cases k <;> simp [isMathKind]

/-- a math-delimiter token starts at a non-space character, so re-reading there does not hit the end -/
theorem peekTok_math_not_eos (tol : Bool) (ps : PState) (s : Str) (p : Nat) (t : Token)
    (h : peekTok tol ps s p = .tok t) (hk : isMathKind t.kind = true) : ¬ EosAt s t.pos := by
  have hk' := (isMathKind_iff _).mp hk
  have himpl := peekTok_nonchar h (by rcases hk' with e | e <;> rw [e] <;> decide)
  obtain ⟨c, hc, hns⟩ := nonSpaceAt_of_tok himpl (Or.inr hk')
  unfold EosAt
  rw [spaceRun_nil hc hns, List.length_nil, Nat.add_zero, hc]
  exact fun e => nomatch e

/-- end of stream is reported exactly when only whitespace is left; the final space is that whitespace -/
theorem peekTok_eos_spec (tol : Bool) (ps : PState) (s : Str) (p : Nat) (fs : Str)
    (h : peekTok tol ps s p = .eos fs) : fs = spaceRun s p ∧ EosAt s p := by
  obtain ⟨rfl, hn, _⟩ := peekImpl_eos_iff.mp (peekTok_eos_iff.mp h)
  exact ⟨rfl, hn⟩

/-- token facts for a state built from fields with non-empty math delimiters -/
theorem span_of_fields (tol : Bool) (g : PSFields) (hg : DelimsOk g) (s : Str) (p : Nat) (t : Token)
    (h : peekTok tol (mkPS g) s p = .tok t) : TokSpan s p t :=
  span_of_peekTok tol (mkPS g) (tablesOk_of_fields g hg) s p t h

end Pylx
