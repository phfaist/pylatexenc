/-
  C08, all strings — the renderer side.

  * laws of the position-free renderer loop `renderXList` on successful runs: accumulator shift, independence of the
    previous node when `between-macro-and-chars` is on, the append law, invariance under the merging of adjacent chars
    nodes when `between-latex-constructs` is on (both hold for the two policies of the property);
  * the exact tree `xW` of a concatenation whose first part is solid;
  * pending whitespace and paragraph breaks render to themselves (`render_pendX`, `par_fact`; `render_wsX` in `C08F` builds on them).
-/
import PylxProofs.C08FParse
import PylxProofs.C03SSpec
namespace Pylx.C08.Full
open Pylx Pylx.EncB Pylx.L2T Pylx.L2T.C03S Pylx.C13.Full

/-! ### the loop of the position-free renderer -/

theorem renderXList_cons (E : XE) (c : Sls) (prev : Option XNode) (acc : Str) (n : XNode) (ns : List XNode) :
    renderXList E c prev acc (n :: ns) =
      R.bind (R.ofOut (preOfX E c prev n)) fun pre =>
        R.bind (renderXNode E c n) fun t => renderXList E c (some n) (acc ++ pre ++ t) ns := by
  rw [renderXList]

/-- the accumulator of the loop is a prefix of its result -/
theorem renderXList_acc (E : XE) (c : Sls) : ∀ (ns : List XNode) (prev : Option XNode) (acc : Str),
    renderXList E c prev acc ns = R.bind (renderXList E c prev [] ns) fun t => R.pure (acc ++ t)
  | [], prev, acc => by rw [renderXList, renderXList, R.pure_bind, List.append_nil]
  | n :: ns, prev, acc => by
    rw [renderXList_cons, renderXList_cons, R.bind_assoc]
    refine R.bind_congr rfl fun pre => ?_
    rw [R.bind_assoc]
    refine R.bind_congr rfl fun t => ?_
    rw [renderXList_acc E c ns (some n) (acc ++ pre ++ t), renderXList_acc E c ns (some n) ([] ++ pre ++ t), R.bind_assoc]
    refine R.bind_congr rfl fun u => ?_
    rw [R.pure_bind, List.nil_append, List.append_assoc, List.append_assoc, List.append_assoc]

theorem preOfX_mc (E : XE) (c : Sls) (hmc : c.mc = true) {prev : Option XNode} {b : Bool} (hb : isBareX E prev = .ok b)
    (n : XNode) : preOfX E c prev n = .ok [] := by
  unfold preOfX
  rw [hb, hmc]
  simp

/-- with `between-macro-and-chars` on, the node in front of a list does not matter (if `_is_bare_macro_node` does not
    raise on it) -/
theorem renderXList_prev (E : XE) (c : Sls) (hmc : c.mc = true) {prev : Option XNode} {b : Bool} (hb : isBareX E prev = .ok b)
    (ns : List XNode) (acc : Str) :
    renderXList E c prev acc ns = R.bind (renderXList E c none [] ns) fun t => R.pure (acc ++ t) := by
  rw [renderXList_acc E c ns prev acc]
  refine R.bind_congr ?_ fun _ => rfl
  cases ns with
  | nil => rw [renderXList, renderXList]
  | cons n ns =>
    rw [renderXList_cons, renderXList_cons, preOfX_mc E c hmc hb, preOfX_mc E c hmc (prev := none) (b := false) rfl]

/-- the node the loop remembers after a list -/
def lastOr (prev : Option XNode) (L : List XNode) : Option XNode :=
  match L.getLast? with
  | some l => some l
  | none => prev

theorem lastOr_cons (prev : Option XNode) (n : XNode) (L : List XNode) : lastOr prev (n :: L) = lastOr (some n) L := by
  unfold lastOr
  rw [List.getLast?_cons]
  cases L.getLast? <;> rfl

/-- the append law as an equation between state transformers, `between-macro-and-chars` on -/
theorem renderXList_append (E : XE) (c : Sls) (hmc : c.mc = true) : ∀ (L1 L2 : List XNode) (prev : Option XNode) (acc : Str),
    (∃ b, isBareX E (lastOr prev L1) = .ok b) →
    renderXList E c prev acc (L1 ++ L2) =
      R.bind (renderXList E c prev acc L1) fun t1 => R.bind (renderXList E c none [] L2) fun t2 => R.pure (t1 ++ t2)
  | [], L2, prev, acc, ⟨b, hb⟩ => by
    rw [renderXList, R.pure_bind]
    exact renderXList_prev E c hmc hb L2 acc
  | n :: ns, L2, prev, acc, hb => by
    rw [List.cons_append, renderXList_cons, renderXList_cons, R.bind_assoc]
    refine R.bind_congr rfl fun pre => ?_
    rw [R.bind_assoc]
    exact R.bind_congr rfl fun t => renderXList_append E c hmc ns L2 (some n) _ (lastOr_cons prev n ns ▸ hb)

/-- **append law** on successful runs, `between-macro-and-chars` on -/
theorem renderXList_app (E : XE) (c : Sls) (hmc : c.mc = true) : ∀ (L1 : List XNode) (prev : Option XNode) (acc : Str) (st : St)
    (t1 : Str) (st1 : St), renderXList E c prev acc L1 st = .ok (t1, st1) → (∃ b, isBareX E (lastOr prev L1) = .ok b) →
    ∀ (L2 : List XNode) (t2 : Str) (st2 : St), renderXList E c none [] L2 st1 = .ok (t2, st2) →
      renderXList E c prev acc (L1 ++ L2) st = .ok (t1 ++ t2, st2)
  | L1, prev, acc, st, t1, st1, h, hb, L2, t2, st2, h2 => by
    rw [renderXList_append E c hmc L1 L2 prev acc hb, bind_ok h, bind_ok h2]
    rfl

theorem render_app {E : XE} {c : Sls} (hmc : c.mc = true) {L1 L2 : List XNode} {t1 t2 : Str}
    (h1 : renderXList E c none [] L1 {} = .ok (t1, {})) (hb : ∃ b, isBareX E (lastOr none L1) = .ok b)
    (h2 : renderXList E c none [] L2 {} = .ok (t2, {})) : renderXList E c none [] (L1 ++ L2) {} = .ok (t1 ++ t2, {}) :=
  renderXList_app E c hmc L1 none [] {} t1 {} h1 hb L2 t2 {} h2

/-! ### merging adjacent chars nodes does not change the text -/

theorem preOfX_chars (E : XE) (c : Sls) (x : Str) (n : XNode) : preOfX E c (some (.chars x)) n = .ok [] := by
  unfold preOfX isBareX
  simp

theorem renderXNode_chars (E : XE) (c : Sls) (hlc : c.lc = true) (x : Str) : renderXNode E c (.chars x) = R.pure x := by
  rw [renderXNode, hlc]
  rfl

theorem renderXList_prevChars (E : XE) (c : Sls) (x y : Str) (acc : Str) :
    ∀ (r : List XNode), renderXList E c (some (.chars x)) acc r = renderXList E c (some (.chars y)) acc r
  | [] => by rw [renderXList, renderXList]
  | n :: ns => by rw [renderXList_cons, renderXList_cons, preOfX_chars, preOfX_chars]

theorem preOfX_anychars (E : XE) (c : Sls) (prev : Option XNode) (x y : Str) :
    preOfX E c prev (.chars x) = preOfX E c prev (.chars y) := by
  unfold preOfX
  rfl

theorem renderXList_consX (E : XE) (c : Sls) (hlc : c.lc = true) (prev : Option XNode) (acc : Str) (x : XNode) (M : List XNode) :
    renderXList E c prev acc (consX x M) = renderXList E c prev acc (x :: M) := by
  cases x with
  | chars a =>
    cases M with
    | nil => rfl
    | cons y r =>
      cases y with
      | chars b =>
        show renderXList E c prev acc (.chars (a ++ b) :: r) = renderXList E c prev acc (.chars a :: .chars b :: r)
        rw [renderXList_cons, renderXList_cons, preOfX_anychars E c prev (a ++ b) a]
        refine R.bind_congr rfl (fun pre => ?_)
        rw [renderXNode_chars E c hlc, renderXNode_chars E c hlc, R.pure_bind, R.pure_bind, renderXList_cons, preOfX_chars,
          renderXNode_chars E c hlc]
        show _ = R.bind (R.pure []) _
        rw [R.pure_bind, R.pure_bind, renderXList_prevChars E c (a ++ b) b]
        simp only [List.append_assoc, List.nil_append]
      | _ => rfl
  | _ => rfl

/-- with `between-latex-constructs` on (chars nodes are copied), the merged list renders as the unmerged one -/
theorem renderXList_mergeX (E : XE) (c : Sls) (hlc : c.lc = true) : ∀ (L : List XNode) (prev : Option XNode) (acc : Str),
    renderXList E c prev acc (mergeX L) = renderXList E c prev acc L
  | [], prev, acc => rfl
  | x :: tl, prev, acc => by
    rw [mergeX_cons, renderXList_consX E c hlc, renderXList_cons, renderXList_cons]
    refine R.bind_congr rfl (fun pre => R.bind_congr rfl (fun t => ?_))
    exact renderXList_mergeX E c hlc tl (some x) _

/-! ### the exact tree of a concatenation -/

theorem wsX_nil : wsX [] = [] := by
  unfold wsX pendX
  simp [countNl]

theorem xW_ch_space (w : Str) (c : Char) (tl : List CItem) (h : isPySpace c = true) : xW w (.ch c :: tl) = xW (w ++ [c]) tl := by
  rw [xW_ch, if_pos h]

/-- an item that is not a whitespace character turns the whitespace in hand into nodes, then stands for its own node -/
theorem xW_cons_solid {it : CItem} (h : isWsItemC it = false) (w : Str) (tl : List CItem) :
    xW w (it :: tl) = wsX w ++ (xW [] [it] ++ xW [] tl) := by
  cases it with
  | ch c =>
    have hsp : isPySpace c = false := h
    simp only [xW_ch, xW_nil, hsp, Bool.false_eq_true, if_false, wsX_nil, List.nil_append, List.cons_append]
  | grp b => simp only [xW_grp, xW_nil, wsX_nil, List.nil_append, List.cons_append]
  | mac n po a => simp only [xW_mac, xW_nil, wsX_nil, List.nil_append, List.cons_append]
  | math b => simp only [xW_math, xW_nil, wsX_nil, List.nil_append, List.cons_append]

/-- a list whose last item is not a whitespace character leaves no whitespace in hand -/
theorem xW_append_endsSolid : ∀ (d : List CItem) (w : Str) (b : List CItem), endsSolid d = true →
    xW w (d ++ b) = xW w d ++ xW [] b
  | [], _, _, h => by cases h
  | [it], w, b, h => by
    have hs : isWsItemC it = false := by simpa [endsSolid] using h
    rw [List.cons_append, List.nil_append, xW_cons_solid hs w b, xW_cons_solid hs w [], xW_nil, wsX_nil, List.append_nil,
      List.append_assoc]
  | it :: it2 :: tl, w, b, h => by
    have ih := fun w' => xW_append_endsSolid (it2 :: tl) w' b (by simpa [endsSolid] using h)
    cases hs : isWsItemC it with
    | true =>
      cases it with
      | ch c => rw [List.cons_append, xW_ch_space _ _ _ hs, xW_ch_space _ _ _ hs, ih]
      | _ => cases hs
    | false =>
      rw [List.cons_append, xW_cons_solid hs w (it2 :: tl ++ b), xW_cons_solid hs w (it2 :: tl), ih, List.append_assoc,
        List.append_assoc]

/-- a list whose first item is not a whitespace character turns the whitespace in hand into nodes first -/
theorem xW_startsSolid (d : List CItem) (w : Str) (h : startsSolid d = true) : xW w d = wsX w ++ xW [] d := by
  cases d with
  | nil => cases h
  | cons it tl =>
    have hs : isWsItemC it = false := by simpa [startsSolid] using h
    rw [xW_cons_solid hs w tl, xW_cons_solid hs [] tl, wsX_nil, List.nil_append]

/-- **the exact tree of a solid chunk followed by more** -/
theorem xW_solid (d : List CItem) (w : Str) (b : List CItem) (h : solid d = true) :
    xW w (d ++ b) = wsX w ++ (xW [] d ++ xW [] b) := by
  unfold solid at h
  rw [Bool.and_eq_true] at h
  rw [xW_append_endsSolid d w b h.2, xW_startsSolid d w h.1, List.append_assoc]

/-! ### whitespace runs of a `ParClean` string -/

/-- only the two whitespace characters of the alphabet -/
def wsOnly (w : Str) : Prop := ∀ x ∈ w, x = ' ' ∨ x = '\n'

theorem wsOnly_nil : wsOnly [] := fun _ h => by cases h

theorem wsOnly_snoc {w : Str} {c : Char} (hw : wsOnly w) (hc : c = ' ' ∨ c = '\n') : wsOnly (w ++ [c]) := by
  intro x hx
  rcases List.mem_append.mp hx with h | h
  · exact hw x h
  · have : x = c := by simpa using h
    rw [this]; exact hc

theorem wsOnly_tail {c : Char} {w : Str} (h : wsOnly (c :: w)) : wsOnly w := fun x hx => h x (List.mem_cons_of_mem _ hx)

theorem ParClean_drop : ∀ (a b : Str), ParClean (a ++ b) = true → ParClean b = true
  | [], _, h => h
  | _ :: a, b, h => ParClean_drop a b (ParClean_tail h)

theorem parBad_false {c : Char} {r : Str} (h : ParClean (c :: r) = true) : parBad (c :: r) = false := by
  simp only [ParClean, Bool.and_eq_true, Bool.not_eq_eq_eq_not, Bool.not_true] at h
  exact h.1

theorem countNl_space (l : Str) : countNl (' ' :: l) = countNl l := by
  rw [countNl_cons]; simp

theorem countNl_nl (l : Str) : countNl ('\n' :: l) = 1 + countNl l := by
  rw [countNl_cons]; simp

theorem dropSpaces_nl : ∀ (x : Str), wsOnly x → countNl x ≥ 1 → ∀ (r : Str), ((x ++ r).dropWhile (· == ' ')).head? = some '\n'
  | [], _, hn, _ => by simp [countNl] at hn
  | c :: x, hx, hn, r => by
    rcases hx c (List.mem_cons_self ..) with rfl | rfl
    · rw [countNl_space] at hn
      have := dropSpaces_nl x (wsOnly_tail hx) hn r
      simpa [List.dropWhile] using this
    · simp

theorem lastNlEnd_zero : ∀ (x : Str), countNl x = 0 → lastNlEnd x = 0
  | [], _ => rfl
  | c :: x, h => by
    rw [countNl_cons] at h
    have hc : c ≠ '\n' := by
      intro e; rw [e] at h; simp at h
    have hx : countNl x = 0 := by omega
    have := lastNlEnd_zero x hx
    rw [lastNlEnd, this]
    simp [hc]

theorem parBad_nl_sp (r : Str) : parBad ('\n' :: ' ' :: r) = ((r.dropWhile (· == ' ')).head? == some '\n') := by
  rw [parBad]

theorem parBad_nl3 (r : Str) : parBad ('\n' :: '\n' :: '\n' :: r) = true := by
  rw [parBad]

/-- in a `ParClean` string a whitespace run with two or more newlines is: blanks, exactly `"\n\n"`, blanks -/
theorem par_fact : ∀ (w r : Str), wsOnly w → ParClean (w ++ r) = true → 2 ≤ countNl w →
    w = w.take (firstNl w) ++ '\n' :: '\n' :: w.drop (lastNlEnd w)
  | [], _, _, _, hn => by simp [countNl] at hn
  | c :: w', r, hw, hp, hn => by
    rcases hw c (List.mem_cons_self ..) with rfl | rfl
    · rw [countNl_space] at hn
      have ih := par_fact w' r (wsOnly_tail hw) (ParClean_tail hp) hn
      have h1 : firstNl (' ' :: w') = firstNl w' + 1 := by
        unfold firstNl
        rw [List.findIdx_cons]
        simp
      have hpos : lastNlEnd w' ≥ 1 := C13.Full.lastNlEnd_pos (by omega)
      have h2 : lastNlEnd (' ' :: w') = lastNlEnd w' + 1 := by
        rw [lastNlEnd, if_pos (by omega)]
      rw [h1, h2, List.take_succ_cons, List.drop_succ_cons, List.cons_append, ← ih]
    · rw [countNl_nl] at hn
      have h1 : firstNl ('\n' :: w') = 0 := by
        unfold firstNl
        rw [List.findIdx_cons]
        simp
      rw [h1, List.take_zero, List.nil_append]
      cases w' with
      | nil => simp [countNl] at hn
      | cons c2 w'' =>
        rcases hw c2 (List.mem_cons_of_mem _ (List.mem_cons_self ..)) with rfl | rfl
        · exfalso
          rw [countNl_space] at hn
          have hp' : ParClean ('\n' :: ' ' :: (w'' ++ r)) = true := hp
          have hb := parBad_false hp'
          rw [parBad_nl_sp, dropSpaces_nl w'' (wsOnly_tail (wsOnly_tail hw)) (by omega) r] at hb
          simp at hb
        · have hz : countNl w'' = 0 := by
            cases hcz : countNl w'' with
            | zero => rfl
            | succ k =>
              exfalso
              cases w'' with
              | nil => simp [countNl] at hcz
              | cons c3 w3 =>
                rcases hw c3 (List.mem_cons_of_mem _ (List.mem_cons_of_mem _ (List.mem_cons_self ..))) with rfl | rfl
                · rw [countNl_space] at hcz
                  have hp' : ParClean ('\n' :: '\n' :: ' ' :: (w3 ++ r)) = true := hp
                  have hb := parBad_false (ParClean_tail hp')
                  rw [parBad_nl_sp, dropSpaces_nl w3 (wsOnly_tail (wsOnly_tail (wsOnly_tail hw))) (by omega) r] at hb
                  simp at hb
                · have hp' : ParClean ('\n' :: '\n' :: '\n' :: (w3 ++ r)) = true := hp
                  have hb := parBad_false hp'
                  rw [parBad_nl3] at hb
                  cases hb
          have l0 := lastNlEnd_zero w'' hz
          have l1 : lastNlEnd ('\n' :: w'') = 1 := by
            rw [lastNlEnd, l0]; simp
          have l2 : lastNlEnd ('\n' :: '\n' :: w'') = 2 := by
            rw [lastNlEnd, l1]; simp
          rw [l2]
          rfl

/-! ### rendering whitespace nodes -/

section wsrender
variable {E : XE} {c : Sls}

theorem render_pendX (hlc : c.lc = true) (a : Str) : renderXList E c none [] (pendX a) {} = .ok (a, {}) := by
  unfold pendX
  split
  · rename_i h
    rw [renderXList_nil, List.isEmpty_iff.mp h]
  · rw [renderXList_cons_ok E c none [] (.chars a) [] {} {} [] a (preOfX_none E c _) (by rw [renderXNode_chars E c hlc]; rfl),
      renderXList_nil]
    simp

theorem bare_pendX (prev : Option XNode) (hprev : ∃ b, isBareX E prev = .ok b) (a : Str) :
    ∃ b, isBareX E (lastOr prev (pendX a)) = .ok b := by
  unfold pendX
  split
  · exact hprev
  · exact ⟨false, rfl⟩

end wsrender

/-! ### non-vacuity -/

-- the hypotheses of `par_fact` on " \n\n  " followed by "x", and what it says
example : wsOnly " \n\n  ".toList ∧ ParClean (" \n\n  ".toList ++ ['x']) = true ∧ 2 ≤ countNl " \n\n  ".toList ∧
    " \n\n  ".toList = (" \n\n  ".toList).take (firstNl " \n\n  ".toList) ++ '\n' :: '\n' :: (" \n\n  ".toList).drop (lastNlEnd " \n\n  ".toList) := by
  refine ⟨?_, by decide, by decide, by decide⟩
  intro x hx
  simp at hx
  rcases hx with rfl | rfl | rfl <;> simp
-- three newlines are not `ParClean`; the run does not come back (`C08_parbreak_false`)
example : ParClean ['\n', '\n', '\n'] = false := by decide
-- solid / not solid
example : solid [.mac ['i'] [] [], .grp []] = true ∧ solid [.ch 'a', .ch ' '] = false ∧ solid [.ch ' '] = false := by
  refine ⟨by decide, by decide, by decide⟩

end Pylx.C08.Full
