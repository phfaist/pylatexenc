/-
  C13, parse link for all strings — kernel evaluation over one quarter of the `defaults` table: every replacement text
  is the source of a document of the grammar of `C13FullDefs` that is well formed under each of the four brace protection
  schemes (`rawOk`; the classifier's output is checked, not trusted: it unparses to the text and satisfies `cwfI`).
-/
import PylxProofs.C13FullDefs
namespace Pylx.C13.Full
open Pylx Pylx.EncB

theorem defaults_docs_0 : ((Gen.uni2latexChunks.drop 0).take 10).all (fun ch => ch.all entryOk) = true := by
  decide +kernel

end Pylx.C13.Full
