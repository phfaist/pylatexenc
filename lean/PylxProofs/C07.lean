/-
  C07 — latex2text is total.
-/
import PylxProofs.L2TLemmas
import PylxProofs.C06Total
namespace Pylx.L2T

/-! ### totality of state transformers -/

def Total {α : Type} (x : R α) : Prop := ∀ st, ∃ a st', x st = .ok (a, st')

theorem total_pure {α : Type} (a : α) : Total (R.pure a) := fun st => ⟨a, st, rfl⟩

theorem total_bind {α β : Type} {x : R α} {f : α → R β} (hx : Total x) (hf : ∀ a, Total (f a)) :
    Total (R.bind x f) := by
  intro st
  obtain ⟨a, st', h⟩ := hx st
  obtain ⟨b, st'', h'⟩ := hf a st'
  exact ⟨b, st'', by simp only [R.bind, h, h']⟩

theorem total_ite {α : Type} {c : Prop} [Decidable c] {x y : R α} (hx : c → Total x) (hy : ¬c → Total y) :
    Total (if c then x else y) := by
  split
  · exact hx ‹_›
  · exact hy ‹_›

theorem total_setField (f : DocField) (t : Str) : Total (setField f t) := by
  intro st; cases f <;> exact ⟨(), _, rfl⟩

/-! ### the cross-database predicate -/

def walkerSpecC (ctx : Ctx) : Kind → Str → Option ArgsP
  | .mac, n => ctx.macroSpec n
  | .env, n => (ctx.envSpec n).map (·.1)
  | .specials, n => lookupFirst n ctx.specials

theorem walkerSpec_eq (E : Env) (k : Kind) (n : Str) : walkerSpec E k n = walkerSpecC E.ctx k n := by
  cases k <;> rfl

/-- `len(spec.arguments_spec_list)` of the walker specification of a name (0 when there is none) -/
def wlen (ctx : Ctx) (k : Kind) (n : Str) : Nat := ((walkerSpecC ctx k n).map sigLen).getD 0

/-- the pylatexenc-1 view of a full argument list can be built: `argnlist[nskip]` exists -/
def legacyOk (a : ArgsP) : Bool :=
  match (legacyOf (argspecOf a)).optIdx with
  | some k => k < sigLen a
  | none => true

def legacyAll (ctx : Ctx) : Bool :=
  ctx.macros.all (fun p => legacyOk p.2) && ctx.envs.all (fun p => legacyOk p.2.1) &&
  ctx.specials.all (fun p => legacyOk p.2) &&
  (match ctx.unknownMacro with | some a => legacyOk a | none => true) &&
  (match ctx.unknownEnv with | some a => legacyOk a.1 | none => true)

/-- the replacement is truthy whatever the date is -/
def alwaysTruthy : Repl → Bool
  | .none => false
  | .lit s => !s.isEmpty
  | .today => false
  | _ => true

/-- a database entry cannot make the renderer raise on a node whose argument list is empty or has the length
    of the walker signature of the same name -/
def callOk (ctx : Ctx) (kind : Kind) (name : Str) : Repl → Bool
  | .unknownCallable => false
  | .badFmt _ => false
  | .eqEnv => kind == .env
  | .matrix => kind == .env
  | .sectioning _ _ idx _ => wlen ctx kind name == 0 || idx < wlen ctx kind name
  | _ => true

def entryOk (ctx : Ctx) (kind : Kind) (name : Str) (sp : TSpec) : Bool :=
  (sp.hasDiscard || alwaysTruthy sp.repl) && callOk ctx kind name sp.repl

def crossOk (db : TextDb) (ctx : Ctx) : Bool :=
  db.shapeOk && legacyAll ctx &&
  db.macros.all (fun p => entryOk ctx .mac p.1 p.2) &&
  db.envs.all (fun p => entryOk ctx .env p.1 p.2) &&
  db.specials.all (fun p => entryOk ctx .specials p.1 p.2)

/-- replacements that tolerate `nodeargd is None` -/
def replNoneSafe : Repl → Bool
  | .setDoc _ => false
  | .texorpdf => false
  | _ => true

def textSpecC (db : TextDb) : Kind → Str → Option TSpec
  | .mac, n => lookupFirst n db.macros
  | .env, n => lookupFirst n db.envs
  | .specials, n => lookupFirst n db.specials

def noneSafe (db : TextDb) (k : Kind) (n : Str) : Bool :=
  match textSpecC db k n with
  | some sp => replNoneSafe sp.repl
  | none => true

/-! ### the argument-list invariant on trees -/

/-- `nodeargd` is `None` only where the replacement tolerates it; an argument list is empty (expression-parser
    node, or signature without arguments) or has exactly the length of the walker signature -/
def Shape (db : TextDb) (ctx : Ctx) (k : Kind) (name : Str) : Option (List Arg) → Prop
  | none => noneSafe db k name = true
  | some l => l = [] ∨ l.length = wlen ctx k name

mutual
def NodeOk (db : TextDb) (ctx : Ctx) : Node → Prop
  | .chars .. => True
  | .comment .. => True
  | .group _ _ _ _ _ b => BodyOk db ctx b
  | .mac _ _ _ name _ args => Shape db ctx .mac name args ∧ ArgsOOk db ctx args
  | .env _ _ _ name args b => Shape db ctx .env name args ∧ ArgsOOk db ctx args ∧ BodyOk db ctx b
  | .specials _ _ _ ch args => Shape db ctx .specials ch args ∧ ArgsOOk db ctx args
  | .math _ _ _ _ _ _ b => BodyOk db ctx b
def BodyOk (db : TextDb) (ctx : Ctx) : Option (List Node) → Prop
  | none => True
  | some ns => ListOk db ctx ns
def ListOk (db : TextDb) (ctx : Ctx) : List Node → Prop
  | [] => True
  | n :: ns => NodeOk db ctx n ∧ ListOk db ctx ns
def ArgsOOk (db : TextDb) (ctx : Ctx) : Option (List Arg) → Prop
  | none => True
  | some l => ArgsOk db ctx l
def ArgsOk (db : TextDb) (ctx : Ctx) : List Arg → Prop
  | [] => True
  | a :: l => ArgOk db ctx a ∧ ArgsOk db ctx l
def ArgOk (db : TextDb) (ctx : Ctx) : Arg → Prop
  | .absent => True
  | .node n => NodeOk db ctx n
  | .list _ _ _ => False
end

/-! ### lookups -/

theorem lookupFirst_mem' {β : Type} {k : Str} {l : List (Str × β)} {b : β} (h : lookupFirst k l = some b) :
    (k, b) ∈ l := by
  induction l with
  | nil => cases h
  | cons p l ih =>
    obtain ⟨a, b'⟩ := p
    rw [lookupFirst] at h
    split at h
    · rename_i hk
      cases h
      rw [eq_of_beq hk]
      exact List.mem_cons_self
    · exact List.mem_cons_of_mem _ (ih h)

theorem legacyOk_of_walkerSpec {ctx : Ctx} (h : legacyAll ctx = true) {k : Kind} {n : Str} {a : ArgsP}
    (hs : walkerSpecC ctx k n = some a) : legacyOk a = true := by
  simp only [legacyAll, Bool.and_eq_true, List.all_eq_true] at h
  obtain ⟨⟨⟨⟨hm, he⟩, hsp⟩, hum⟩, hue⟩ := h
  cases k with
  | mac =>
    simp only [walkerSpecC, Ctx.macroSpec] at hs
    split at hs
    · cases hs
      exact hm (_, _) (lookupFirst_mem' ‹_›)
    · rw [hs] at hum; exact hum
  | env =>
    simp only [walkerSpecC, Ctx.envSpec] at hs
    split at hs
    · rename_i x hx
      cases hs
      exact he (_, _) (lookupFirst_mem' hx)
    · cases hu : ctx.unknownEnv with
      | none => rw [hu] at hs; cases hs
      | some x =>
        rw [hu] at hs hue
        cases hs
        exact hue
  | specials => exact hsp (_, _) (lookupFirst_mem' hs)

/-- the index of the optional argument in the pylatexenc-1 view lies inside the walker signature -/
theorem optIdx_lt_wlen {ctx : Ctx} (hl : legacyAll ctx = true) {k : Kind} {n : Str} {i : Nat}
    (h : (legacyOf (((walkerSpecC ctx k n).map argspecOf).getD [])).optIdx = some i) : i < wlen ctx k n := by
  unfold wlen
  cases hs : walkerSpecC ctx k n with
  | none => rw [hs] at h; cases h
  | some a =>
    have := legacyOk_of_walkerSpec hl hs
    rw [hs] at h
    rw [legacyOk, show (legacyOf (argspecOf a)).optIdx = some i from h] at this
    exact of_decide_eq_true this

/-! ### the replacement of one node, given total thunks -/

structure ThOk (ctx : Ctx) (k : Kind) (name : Str) (th : Thunks) : Prop where
  each : Total th.each
  single : ∀ i, i < th.n → Total (th.single i)
  contents : ∀ i, i < th.n → Total (th.contents i)
  body : Total th.body
  bodyEq : Total th.bodyEq
  matrix : Total th.matrix
  shape : th.n = 0 ∨ th.n = wlen ctx k name
  noArgd : th.noArgd = true → th.n = 0

theorem legacyCheck_ok {E : Env} {info : NodeInfo} {th : Thunks} (hl : legacyAll E.ctx = true)
    (hth : ThOk E.ctx info.kind info.name th) : legacyCheck (legacyView E info th) th = .ok () := by
  unfold legacyView
  split
  · rfl
  · rename_i hn
    have hw : th.n = wlen E.ctx info.kind info.name := hth.shape.resolve_left (by simpa using hn)
    unfold legacyCheck
    split
    · rename_i k hk
      rw [walkerSpec_eq] at hk
      rw [if_pos (hw ▸ optIdx_lt_wlen hl hk)]
    · rfl

theorem total_mathText (E : Env) (isEnv display : Bool) (d0 d1 : Str) (p e : Nat) {b : R Str} (hb : Total b) :
    Total (mathText E isEnv display d0 d1 p e b) := by
  unfold mathText
  split
  · exact total_pure _
  · exact total_pure _
  · exact total_bind hb fun _ => total_pure _
  · exact total_bind hb fun _ => total_pure _

theorem kind_bne_env (k : Kind) : (k != Kind.env) = true ↔ k ≠ .env := by cases k <;> decide

theorem applyCallable_total {E : Env} {info : NodeInfo} {th : Thunks} (hrep : E.opts.repaired = true)
    (hl : legacyAll E.ctx = true) (hth : ThOk E.ctx info.kind info.name th) {r : Repl}
    (hc : isCallable r = true) (hok : callOk E.ctx info.kind info.name r = true)
    (hnone : th.noArgd = true → replNoneSafe r = true) : Total (applyCallable E info th r) := by
  have hlc := legacyCheck_ok hl hth
  -- with the repairs on and the legacy view buildable, what is left of each callable is a tree of `if`s and binds whose
  -- thunk calls are guarded by the index tests
  cases r with
  | none | lit | fmt | badFmt | today => cases hc
  | unknownCallable => cases hok
  | placeholder | const => exact total_pure _
  | maketitle => exact fun st => ⟨_, _, rfl⟩
  | eqEnv =>
    rw [applyCallable, if_pos (show (info.kind == Kind.env) = true from hok)]
    exact total_mathText _ _ _ _ _ _ _ hth.bodyEq
  | «matrix» =>
    simp only [applyCallable, bne, show (info.kind == Kind.env) = true from hok, hrep, Bool.not_true, Bool.and_false,
      Bool.false_eq_true, if_false]
    exact total_bind hth.matrix fun _ => total_pure _
  | input =>
    simp only [applyCallable, hlc, R.ofOut, R.pure_bind, hrep, if_true]
    exact total_ite (fun _ => total_pure _) fun _ => total_ite (fun _ => total_pure _) fun h =>
      total_bind (hth.single _ (by omega)) fun _ => total_pure _
  | accent comb =>
    simp only [applyCallable, hlc, R.ofOut, R.pure_bind]
    exact total_bind (total_ite (fun _ => total_pure _) fun _ => total_ite (fun _ => total_pure _) fun h =>
      total_bind (hth.single _ (by omega)) fun _ => total_pure _) fun _ => total_pure _
  | mathAlpha up lo exc =>
    rw [applyCallable]
    refine total_bind (total_ite (fun _ => total_pure _) fun h => hth.contents 0 ?_) fun _ => total_pure _
    simp only [Bool.or_eq_true, beq_iff_eq, not_or] at h
    omega
  | sectioning pre post idx upper =>
    rw [applyCallable]
    refine total_bind (total_ite (fun _ => total_pure _) fun h => hth.contents idx ?_) fun _ => total_pure _
    simp only [Bool.or_eq_true, beq_iff_eq, not_or] at h
    simp only [callOk, Bool.or_eq_true, beq_iff_eq, decide_eq_true_eq] at hok
    have := hth.shape
    omega
  | uebung =>
    simp only [applyCallable, hlc, R.ofOut, R.pure_bind, hrep, if_true, Bool.not_true, Bool.and_false, Bool.false_eq_true,
      if_false]
    refine total_ite (fun _ => total_pure _) fun _ => ?_
    refine total_bind (total_ite (fun h => hth.single _ h) fun _ => total_pure _) fun _ => ?_
    refine total_ite (fun _ => total_pure _) fun h => total_bind (hth.single _ ?_) fun _ => total_pure _
    simp only [Bool.or_eq_true, Bool.not_eq_true', decide_eq_false_iff_not, not_or, Decidable.not_not] at h
    exact h.1
  | setDoc f =>
    rw [applyCallable]
    refine total_ite (fun h => nomatch hnone h) fun _ => ?_
    refine total_bind (total_ite (fun _ => total_pure _) fun h => hth.single 0 ?_) fun _ =>
      total_bind (total_setField _ _) fun _ => total_pure _
    simp only [beq_iff_eq] at h
    omega
  | item =>
    simp only [applyCallable, hlc, R.ofOut, R.pure_bind]
    refine total_ite (fun _ => total_pure _) fun _ => ?_
    split
    · exact total_pure _
    · rename_i k hk
      refine total_ite (fun _ => total_pure _) fun _ => total_bind (hth.single k ?_) fun _ => total_pure _
      rw [legacyCheck, hk] at hlc
      exact Decidable.by_contra fun hkn => by simp only [if_neg hkn] at hlc; cases hlc
  | href =>
    simp only [applyCallable, hrep, if_true, Bool.not_true, Bool.and_false, Bool.false_eq_true, if_false]
    exact total_ite (fun _ => total_pure _) fun _ =>
      total_bind (total_ite (fun h => hth.single 1 h) fun _ => total_pure _) fun _ =>
        total_bind (total_ite (fun h => hth.single 0 h) fun _ => total_pure _) fun _ => total_pure _
  | texorpdf =>
    simp only [applyCallable, hlc, R.ofOut, R.pure_bind]
    exact total_ite (fun h => nomatch hnone h) fun _ => total_ite (fun h => hth.single _ h) fun _ => total_pure _

theorem applyString_total {E : Env} {info : NodeInfo} {th : Thunks} (hth : ThOk E.ctx info.kind info.name th)
    (raw : Str) (segs : List Seg) : Total (applyString E info th raw segs) := by
  unfold applyString
  have he : Total (if th.noArgd = true then R.pure [] else th.each) :=
    total_ite (fun _ => total_pure _) fun _ => hth.each
  refine total_ite (fun _ => ?_) fun _ => ?_
  · refine total_ite (fun _ => ?_) fun _ => ?_
    · exact total_bind hth.body fun _ => total_pure _
    · exact total_bind he fun _ => total_bind hth.body fun _ => total_pure _
  · refine total_bind he fun _ => ?_
    exact total_ite (fun _ => total_pure _) fun _ => total_pure _

theorem replTruthy_of_always {lib : Lib} {r : Repl} (h : alwaysTruthy r = true) : replTruthy lib r = true := by
  cases r <;> first | exact h | rfl | cases h

theorem applySpec_total {E : Env} {info : NodeInfo} {th : Thunks} (hrep : E.opts.repaired = true)
    (hl : legacyAll E.ctx = true) (hth : ThOk E.ctx info.kind info.name th) {sp : TSpec}
    (hent : entryOk E.ctx info.kind info.name sp = true)
    (hnone : th.noArgd = true → replNoneSafe sp.repl = true) {dflt : R Str} (hd : Total dflt) :
    Total (applySpec E info th sp dflt) := by
  simp only [entryOk, Bool.and_eq_true, Bool.or_eq_true] at hent
  obtain ⟨hdis, hcall⟩ := hent
  unfold applySpec
  refine total_ite (fun htr => ?_) fun htr => ?_
  · -- a truthy replacement: a string, a format, or (every other constructor) a callable
    cases hr : sp.repl with
    | none => rw [hr] at htr; cases htr
    | lit | today => exact total_pure _
    | fmt => exact applyString_total hth _ _
    | badFmt | unknownCallable => rw [hr] at hcall; cases hcall
    | _ => exact applyCallable_total hrep hl hth rfl (hr ▸ hcall) (hr ▸ hnone)
  · have hd' : sp.hasDiscard = true := hdis.resolve_right fun h => htr (replTruthy_of_always h)
    rw [hd']
    exact total_ite (fun h => nomatch h) fun _ => total_ite (fun _ => total_pure _) fun _ => hd

/-! ### structural induction over the tree -/

theorem entryOk_of_lookup {db : TextDb} {ctx : Ctx} (hx : crossOk db ctx = true) {k : Kind} {name : Str} {sp : TSpec}
    (h : textSpecC db k name = some sp) : entryOk ctx k name sp = true := by
  simp only [crossOk, Bool.and_eq_true, List.all_eq_true] at hx
  obtain ⟨⟨⟨⟨_, _⟩, hm⟩, he⟩, hs⟩ := hx
  cases k with
  | mac => exact hm _ (lookupFirst_mem' h)
  | env => exact he _ (lookupFirst_mem' h)
  | specials => exact hs _ (lookupFirst_mem' h)

theorem legacyAll_of_cross {db : TextDb} {ctx : Ctx} (hx : crossOk db ctx = true) : legacyAll ctx = true := by
  simp only [crossOk, Bool.and_eq_true] at hx
  exact hx.1.1.1.2

structure EnvOk (E : Env) : Prop where
  rep : E.opts.repaired = true
  cross : crossOk E.db E.ctx = true

def PrevOk (E : Env) (prev : Option Node) : Prop := ∀ p, prev = some p → NodeOk E.db E.ctx p

theorem prevOk_none (E : Env) : PrevOk E none := fun _ h => nomatch h

theorem prevOk_some {E : Env} {n : Node} (h : NodeOk E.db E.ctx n) : PrevOk E (some n) := fun _ hp => by
  cases hp; exact h

theorem isBare_ok {E : Env} (hE : EnvOk E) {prev : Option Node} (hp : PrevOk E prev) : ∃ b, isBare E prev = .ok b := by
  unfold isBare
  split
  · rename_i name _ args
    split
    · rw [hE.rep]; exact ⟨_, rfl⟩
    · exact ⟨_, rfl⟩
    · rename_i l hne
      simp only []
      split
      · exact ⟨_, rfl⟩
      · rename_i k hk
        rw [walkerSpec_eq] at hk
        have hlt := optIdx_lt_wlen (legacyAll_of_cross hE.cross) hk
        have hlen : l.length = wlen E.ctx .mac name := Or.resolve_left (hp _ rfl).1 fun h => hne (by rw [h])
        rw [List.getElem?_eq_getElem (hlen ▸ hlt)]
        exact ⟨_, rfl⟩
  · exact ⟨_, rfl⟩

theorem total_preOf {E : Env} (hE : EnvOk E) (c : Sls) {prev : Option Node} (hp : PrevOk E prev) (n : Node) :
    Total (R.ofOut (preOf E c prev n)) := by
  unfold preOf
  obtain ⟨b, hb⟩ := isBare_ok hE hp
  rw [hb]; exact total_pure _

/-- the thunks `renderNode` builds from an argument list of the right shape are total as soon as the accessors are -/
theorem thOk_argThunks {E : Env} {k : Kind} {name : Str} {args : Option (List Arg)} (hsh : Shape E.db E.ctx k name args)
    {c : Sls} (each : Total (argsEachO E c args)) (single : ∀ i, i < (args.getD []).length → Total (singleAtO E c i args))
    (contents : ∀ i, i < (args.getD []).length → Total (contentsAtO E c i args))
    {body bodyEq : R Str} {m : R (List (List Str))} (hb : Total body) (hbe : Total bodyEq) (hm : Total m) (bn : Bool) :
    ThOk E.ctx k name (argThunks E c args body bodyEq bn m) where
  each := each
  single := single
  contents := contents
  body := hb
  bodyEq := hbe
  matrix := hm
  shape := by
    cases args with
    | none => exact Or.inl rfl
    | some l => exact hsh.imp (fun h => by rw [h]; rfl) id
  noArgd := by
    intro h
    cases args with
    | none => rfl
    | some l => cases h

/-- the replacement step of a node with total thunks: `sp` is the entry of the name in the text database or, when
    there is none, a default without replacement -/
theorem applySpec_total_node {E : Env} (hE : EnvOk E) {k : Kind} {name : Str} {p e : Nat} {args : Option (List Arg)}
    {th : Thunks} (hth : ThOk E.ctx k name th) (hna : th.noArgd = args.isNone) (hsh : Shape E.db E.ctx k name args)
    {sp : TSpec} (hsp : textSpecC E.db k name = some sp ∨ (sp.repl = .none ∧ sp.hasDiscard = true)) {dflt : R Str}
    (hd : Total dflt) : Total (applySpec E ⟨k, name, p, e⟩ th sp dflt) := by
  refine applySpec_total hE.rep (legacyAll_of_cross hE.cross) hth ?_ (fun h => ?_) hd
  · rcases hsp with hl | ⟨h1, h2⟩
    · exact entryOk_of_lookup hE.cross hl
    · rw [entryOk, h1, h2]; rfl
  · rcases hsp with hl | ⟨h1, _⟩
    · cases args with
      | none => simpa only [Shape, noneSafe, hl] using hsh
      | some l => rw [hna] at h; cases h
    · rw [h1]; rfl

theorem getD_spec (o : Option TSpec) (d : Bool) :
    o = some (o.getD ⟨true, d, .none⟩) ∨ ((o.getD ⟨true, d, .none⟩).repl = .none ∧ (o.getD ⟨true, d, .none⟩).hasDiscard = true) := by
  cases o
  · exact Or.inr ⟨rfl, rfl⟩
  · exact Or.inl rfl

theorem total_of_bind {α β : Type} {x : R α} {f : α → R β} (h : Total (R.bind x f)) : Total x := fun st => by
  obtain ⟨_, _, hb⟩ := h st
  obtain ⟨a, st1, h1, _⟩ := R.bind_ok hb
  exact ⟨a, st1, h1⟩

/-- `_groupnodecontents_to_text` of a node is `node_to_text` of it, except that a group loses its braces -/
theorem groupContents_node_total {E : Env} {c : Sls} {n : Node} (h : Total (renderNode E c n)) :
    Total (groupContents E c (.node n)) := by
  cases n with
  | group p e ps o cl b => rw [renderNode_group] at h; exact total_of_bind h
  | _ => exact h

mutual
theorem renderNode_total (E : Env) (hE : EnvOk E) : ∀ (n : Node) (c : Sls), NodeOk E.db E.ctx n → Total (renderNode E c n)
  | .chars .., c, _ => total_pure _
  | .comment .., c, _ => total_pure _
  | .group _ _ _ o cl body, c, h => by
    rw [renderNode_group]
    exact total_bind (renderBody_total E hE body c h) fun _ => total_pure _
  | .mac p e ps name post args, c, h => by
    rw [renderNode_mac]
    exact applySpec_total_node hE
      (thOk_argThunks h.1 (argsEachO_total E hE args c h.2) (fun i hi => singleAtO_total E hE args c i h.2 hi)
        (fun i hi => contentsAtO_total E hE args c i h.2 hi) (total_pure _) (total_pure _) (total_pure _) _)
      rfl h.1 (getD_spec _ _) (argsCatO_total E hE args c h.2)
  | .env p e ps name args body, c, h => by
    rw [renderNode_env]
    exact applySpec_total_node hE
      (thOk_argThunks h.1 (argsEachO_total E hE args c h.2.1) (fun i hi => singleAtO_total E hE args c i h.2.1 hi)
        (fun i hi => contentsAtO_total E hE args c i h.2.1 hi) (renderBody_total E hE body c h.2.2)
        (renderBody_total E hE body c.enterEq h.2.2) (matrixBody_total E hE body c h.2.2) _)
      rfl h.1 (getD_spec _ _) (renderBody_total E hE body c h.2.2)
  | .specials p e ps ch args, c, h => by
    rw [renderNode_specials]
    split
    · exact total_pure _
    · rename_i sp hl
      exact applySpec_total_node hE
        (thOk_argThunks h.1 (argsEachO_total E hE args c h.2) (fun i hi => singleAtO_total E hE args c i h.2 hi)
          (fun i hi => contentsAtO_total E hE args c i h.2 hi) (total_pure _) (total_pure _) (total_pure _) _)
        rfl h.1 (Or.inl hl) (argsCatO_total E hE args c h.2)
  | .math p e ps d o cl body, c, h => by
    rw [renderNode_math]
    exact total_mathText _ _ _ _ _ _ _ (renderBody_total E hE body c.enterEq h)
theorem renderBody_total (E : Env) (hE : EnvOk E) : ∀ (b : Option (List Node)) (c : Sls), BodyOk E.db E.ctx b → Total (renderBody E c b)
  | none, _, _ => total_pure _
  | some ns, c, h => renderList_total E hE ns c none [] (prevOk_none E) h
theorem renderList_total (E : Env) (hE : EnvOk E) : ∀ (ns : List Node) (c : Sls) (prev : Option Node) (acc : Str),
    PrevOk E prev → ListOk E.db E.ctx ns → Total (renderList E c prev acc ns)
  | [], c, prev, acc, _, _ => total_pure _
  | n :: ns, c, prev, acc, hp, h => by
    rw [renderList_cons]
    exact total_bind (total_preOf hE c hp n) fun _ => total_bind (renderNode_total E hE n c h.1) fun _ =>
      renderList_total E hE ns c (some n) _ (prevOk_some h.1) h.2
theorem groupContents_total (E : Env) (hE : EnvOk E) : ∀ (a : Arg) (c : Sls), ArgOk E.db E.ctx a → Total (groupContents E c a)
  | .absent, _, _ => total_pure _
  | .list _ _ _, _, h => h.elim
  | .node n, c, h => groupContents_node_total (renderNode_total E hE n c h)
theorem singleArg_total (E : Env) (hE : EnvOk E) : ∀ (a : Arg) (c : Sls), ArgOk E.db E.ctx a → Total (singleArg E c a)
  | .absent, _, _ => total_pure _
  | .list _ _ _, _, h => h.elim
  | .node n, c, h => renderNode_total E hE n c h
theorem argsCat_total (E : Env) (hE : EnvOk E) : ∀ (l : List Arg) (c : Sls), ArgsOk E.db E.ctx l → Total (argsCat E c l)
  | [], _, _ => total_pure _
  | a :: l, c, h => total_bind (groupContents_total E hE a c h.1) fun _ =>
    total_bind (argsCat_total E hE l c h.2) fun _ => total_pure _
theorem argsEach_total (E : Env) (hE : EnvOk E) : ∀ (l : List Arg) (c : Sls), ArgsOk E.db E.ctx l → Total (argsEach E c l)
  | [], _, _ => total_pure _
  | a :: l, c, h => total_bind (groupContents_total E hE a c h.1) fun _ =>
    total_bind (argsEach_total E hE l c h.2) fun _ => total_pure _
theorem singleAt_total (E : Env) (hE : EnvOk E) : ∀ (l : List Arg) (c : Sls) (k : Nat), ArgsOk E.db E.ctx l → k < l.length →
    Total (singleAt E c k l)
  | [], _, k, _, hk => absurd hk (Nat.not_lt_zero k)
  | a :: _, c, 0, h, _ => singleArg_total E hE a c h.1
  | _ :: l, c, k + 1, h, hk => singleAt_total E hE l c k h.2 (Nat.lt_of_succ_lt_succ hk)
theorem contentsAt_total (E : Env) (hE : EnvOk E) : ∀ (l : List Arg) (c : Sls) (k : Nat), ArgsOk E.db E.ctx l → k < l.length →
    Total (contentsAt E c k l)
  | [], _, k, _, hk => absurd hk (Nat.not_lt_zero k)
  | a :: _, c, 0, h, _ => groupContents_total E hE a c h.1
  | _ :: l, c, k + 1, h, hk => contentsAt_total E hE l c k h.2 (Nat.lt_of_succ_lt_succ hk)
theorem argsCatO_total (E : Env) (hE : EnvOk E) : ∀ (o : Option (List Arg)) (c : Sls), ArgsOOk E.db E.ctx o → Total (argsCatO E c o)
  | none, _, _ => total_pure _
  | some l, c, h => argsCat_total E hE l c h
theorem argsEachO_total (E : Env) (hE : EnvOk E) : ∀ (o : Option (List Arg)) (c : Sls), ArgsOOk E.db E.ctx o → Total (argsEachO E c o)
  | none, _, _ => total_pure _
  | some l, c, h => argsEach_total E hE l c h
theorem singleAtO_total (E : Env) (hE : EnvOk E) : ∀ (o : Option (List Arg)) (c : Sls) (k : Nat), ArgsOOk E.db E.ctx o →
    k < (o.getD []).length → Total (singleAtO E c k o)
  | none, _, k, _, hk => absurd hk (Nat.not_lt_zero k)
  | some l, c, k, h, hk => singleAt_total E hE l c k h hk
theorem contentsAtO_total (E : Env) (hE : EnvOk E) : ∀ (o : Option (List Arg)) (c : Sls) (k : Nat), ArgsOOk E.db E.ctx o →
    k < (o.getD []).length → Total (contentsAtO E c k o)
  | none, _, k, _, hk => absurd hk (Nat.not_lt_zero k)
  | some l, c, k, h, hk => contentsAt_total E hE l c k h hk
theorem matrixBody_total (E : Env) (hE : EnvOk E) : ∀ (b : Option (List Node)) (c : Sls), BodyOk E.db E.ctx b → Total (matrixBody E c b)
  | none, _, _ => total_pure _
  | some ns, c, h => matrixLoop_total E hE ns c none none [] [] (prevOk_none E) h
theorem matrixLoop_total (E : Env) (hE : EnvOk E) : ∀ (ns : List Node) (c : Sls) (prev : Option Node) (cell : Option Str)
    (row : List Str) (rows : List (List Str)), PrevOk E prev → ListOk E.db E.ctx ns →
    Total (matrixLoop E c prev cell row rows ns)
  | [], c, prev, cell, row, rows, _, _ => total_pure _
  | n :: ns, c, prev, cell, row, rows, hp, h => by
    rw [matrixLoop_cons]
    refine total_ite (fun _ => matrixLoop_total E hE ns c none none _ _ (prevOk_none E) h.2) fun _ => ?_
    refine total_ite (fun _ => matrixLoop_total E hE ns c none none _ _ (prevOk_none E) h.2) fun _ => ?_
    exact total_bind (total_preOf hE c hp n) fun _ => total_bind (renderNode_total E hE n c h.1) fun _ =>
      matrixLoop_total E hE ns c (some n) _ _ _ (prevOk_some h.1) h.2
end

/-! ### the property theorems -/

/-- **C07 (renderer).**  For every text database and walker context satisfying the cross-database predicate, every
    option set (repaired switch on), all library oracles and every tree satisfying the argument-list invariant,
    the renderer returns a string. -/
theorem C07_render_total (opts : Opts) (db : TextDb) (ctx : Ctx) (lib : Lib) (src : Str) (hrep : opts.repaired = true)
    (hx : crossOk db ctx = true) (ns : List Node) (h : ListOk db ctx ns) :
    ∃ t, render opts db ctx lib src ns = .ok t := by
  have hs : db.shapeOk = true := by
    simp only [crossOk, Bool.and_eq_true] at hx
    exact hx.1.1.1.1
  obtain ⟨a, st', hr⟩ := renderList_total ⟨opts, db, ctx, lib, src⟩ ⟨hrep, hx⟩ ns (parseSls opts.sls) none [] (prevOk_none _) h {}
  exact ⟨a, (render_ok_iff opts db ctx lib src ns a).2 ⟨hs, st', hr⟩⟩

/-- **cross-database fact** (kernel-checked on the generated tables): no unrecognised callable or format, no
    specials entry whose falsy replacement would read the missing `discard` attribute, matrix/equation callables
    only on environments, every argument index read by a sectioning callable inside the walker signature of the
    same name, and for every walker signature the pylatexenc-1 `(nodeoptarg, nodeargs)` view of a full argument
    list can be built. -/
theorem C07_cross_db : crossOk Gen.defaultTextDb Gen.defaultCtx = true := by decide +kernel

def countPos (segs : List Seg) : Nat := (segs.filter Seg.isPos).length

def keyOk (n : Nat) (isEnv : Bool) (k : Str) : Bool :=
  (isEnv && k == "body".toList) || (List.range n).any (fun j => decStr (j + 1) == k)

/-- a %-format replacement names only arguments inside the walker signature (so the `TypeError` / `KeyError`
    fallback of `apply_simplify_repl` cannot fire on a node satisfying the invariant) -/
def fmtOk (ctx : Ctx) (kind : Kind) (name : Str) : Repl → Bool
  | .fmt _ segs =>
    if segs.any Seg.isPos then countPos segs == (if kind == .env then 1 else wlen ctx kind name)
    else segs.all (fun s => match s with | .key k => keyOk (wlen ctx kind name) (kind == .env) k | _ => true)
  | _ => true

def fmtOffenders (db : TextDb) (ctx : Ctx) : List Str :=
  ((db.macros.filter (fun p => !fmtOk ctx .mac p.1 p.2.repl)) ++ (db.envs.filter (fun p => !fmtOk ctx .env p.1 p.2.repl)) ++
   (db.specials.filter (fun p => !fmtOk ctx .specials p.1 p.2.repl))).map (·.1)

/-- every %-format replacement of the default text database stays inside the walker signature of its name, with one
    exception: `\textfrac` (`'%s/%s'`, but the walker database declares no arguments for it, so the substitution
    always fails and the raw format string is emitted — reported as a finding, not a C07 violation) -/
theorem C07_fmt_in_range : (fmtOffenders Gen.defaultTextDb Gen.defaultCtx).all (· == "textfrac".toList) = true := by
  decide +kernel

/-- the argument-list invariant for everything the tolerant parser returns -/
def C07_parsed_args_length_stmt (db : TextDb) (ctx : Ctx) : Prop :=
  ∀ (s : Str) (p e : Option Nat) (ns : List Node) (pos : Nat),
    parseTop { tol := true, ctx := ctx, s := s } (startFields ctx) = .ok (.list p e ns) pos → ListOk db ctx ns

theorem startOk_default : StartOk' Gen.defaultCtx (startFields Gen.defaultCtx) :=
  { hasCtx := rfl, specials := rfl, mathDelims := by decide, groupDelims := by decide, comment := by decide,
    normal := rfl, esc := Or.inl rfl }

/-- the full statement of C07 for the model -/
def C07_full : Prop :=
  ∀ (opts : Opts), opts.repaired = true → ∀ (lib : Lib) (s : Str), ∃ t, latexToText opts lib s = .ok t

/-- **C07, partial**: the parser invariant `C07_parsed_args_length_stmt` is an explicit hypothesis (not yet derived
    from `Pylx.Parse`; it is exercised by the correspondence).  From it: for every option set (repaired switch on),
    all library oracles and every input string, `latex_to_text` returns a string. -/
theorem C07_partial (hp : C07_parsed_args_length_stmt Gen.defaultTextDb Gen.defaultCtx)
    (opts : Opts) (hrep : opts.repaired = true) (lib : Lib) (s : Str) :
    ∃ t, latexToText opts lib s = .ok t := by
  unfold latexToText latexToTextWith
  obtain ⟨p, e, ns, pos, h, _⟩ := C06_total_list Gen.defaultCtx defaultCtx_closed s _ startOk_default
  rw [h]
  exact C07_render_total opts _ _ lib s hrep C07_cross_db ns (hp s p e ns pos h)


/-! ### negation witnesses: with the switch off (the code as found) concrete inputs raise -/

def idLib : Lib := { nfc2 := fun c d => [c, d], upper := fun c => [c], today := ['J'] }

def Out.isCrashB : Out Str → Bool
  | .crash _ => true
  | _ => false

def Out.isOkB : Out Str → Bool
  | .ok _ => true
  | _ => false

theorem not_ok_of_isCrashB {o : Out Str} (h : o.isCrashB = true) : ¬ ∃ t, o = .ok t := by
  rintro ⟨t, rfl⟩; cases h

theorem ok_of_isOkB {o : Out Str} (h : o.isOkB = true) : ∃ t, o = .ok t := by
  cases o with
  | ok a => exact ⟨a, rfl⟩
  | crash k => cases h


def C07_F7_href_input : Str := ['\\', 'h', 'r', 'e', 'f', '{', 'u', '}', '{', 't', '}']

/-- F7: `\\href{u}{t}` — the walker database declares no arguments for `\\href`, the callable indexes `argnlist[1]` of an empty list (IndexError) -/
theorem C07_F7_href : ¬ ∃ t, latexToText { repaired := false } idLib C07_F7_href_input = .ok t :=
  not_ok_of_isCrashB (by decide +kernel)


def C07_F7_uebung_input : Str := ['\\', 'e', 'm', 'p', 'h', '\\', 'u', 'e', 'b', 'u', 'n', 'g']

/-- F7: `\\emph\\uebung` — `_format_uebung` indexes `nodeargs[0]` of the empty argument list of a single-token argument (IndexError) -/
theorem C07_F7_uebung : ¬ ∃ t, latexToText { repaired := false } idLib C07_F7_uebung_input = .ok t :=
  not_ok_of_isCrashB (by decide +kernel)


def C07_F7_input_input : Str := ['\\', 'e', 'm', 'p', 'h', '\\', 'i', 'n', 'p', 'u', 't']

/-- F7: `\\emph\\input` — `_input_node_simplify_repl` indexes `nodeargs[0]` of an empty list (IndexError) -/
theorem C07_F7_input : ¬ ∃ t, latexToText { repaired := false } idLib C07_F7_input_input = .ok t :=
  not_ok_of_isCrashB (by decide +kernel)


def C07_F8_matrix_input : Str := ['\\', 'b', 'e', 'g', 'i', 'n', '{', 'p', 'm', 'a', 't', 'r', 'i', 'x', '}', '\\', 'e', 'n', 'd', '{', 'p', 'm', 'a', 't', 'r', 'i', 'x', '}']

/-- F8: a matrix environment with an empty body: `max()` of an empty sequence (ValueError) -/
theorem C07_F8_matrix : ¬ ∃ t, latexToText { repaired := false } idLib C07_F8_matrix_input = .ok t :=
  not_ok_of_isCrashB (by decide +kernel)


def C07_F9_bare_input : Str := ['\\', 'v', 'e', 'r', 'b', '{', ' ', 'a']

/-- F9: `\\verb{ a` — the legacy verbatim parser fails, tolerant mode keeps the macro node with `nodeargd = None`, `_is_bare_macro_node` takes `len(None)` (TypeError) -/
theorem C07_F9_bare : ¬ ∃ t, latexToText { repaired := false } idLib C07_F9_bare_input = .ok t :=
  not_ok_of_isCrashB (by decide +kernel)



end Pylx.L2T
