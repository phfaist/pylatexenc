/-
  C20 — positions map to the right line and column.
  Theorems about `Pylx.posToLineCol` (model of LineNumbersCalculator.pos_to_lineno_colno).
-/
import Pylx.LineNo
namespace Pylx

/-- `st` is a line start of `s`: the beginning, or the index right after a newline. -/
def IsLineStart (s : Str) (st : Nat) : Prop := st = 0 ∨ ∃ k, st = k + 1 ∧ s[k]? = some '\n'

theorem mem_lineStartsFrom (s : Str) (k x : Nat) :
    x ∈ lineStartsFrom s k ↔ ∃ j, s[j]? = some '\n' ∧ x = k + j + 1 := by
  induction s generalizing k with
  | nil => simp [lineStartsFrom]
  | cons c cs ih =>
    unfold lineStartsFrom
    by_cases hc : (c == '\n') = true
    · rw [if_pos hc]; simp only [List.mem_cons, ih]
      constructor
      · rintro (h | ⟨j, hj, hx⟩)
        · exact ⟨0, by simpa using hc, by omega⟩
        · exact ⟨j+1, by simpa using hj, by omega⟩
      · rintro ⟨j, hj, hx⟩
        cases j with
        | zero => left; omega
        | succ j => right; exact ⟨j, by simpa using hj, by omega⟩
    · rw [if_neg hc, ih]
      constructor
      · rintro ⟨j, hj, hx⟩
        exact ⟨j+1, by simpa using hj, by omega⟩
      · rintro ⟨j, hj, hx⟩
        cases j with
        | zero => simp at hj; simp [hj] at hc
        | succ j => exact ⟨j, by simpa using hj, by omega⟩

theorem lineStartsFrom_gt (s : Str) (k x : Nat) (h : x ∈ lineStartsFrom s k) : k < x := by
  rw [mem_lineStartsFrom] at h; obtain ⟨j, _, hx⟩ := h; omega

theorem lineStartsFrom_sorted (s : Str) (k : Nat) : (lineStartsFrom s k).Pairwise (· < ·) := by
  induction s generalizing k with
  | nil => simp [lineStartsFrom]
  | cons c cs ih =>
    unfold lineStartsFrom
    split
    · exact List.pairwise_cons.mpr ⟨fun x hx => lineStartsFrom_gt _ _ _ hx, ih _⟩
    · exact ih _

theorem lineStarts_sorted (s : Str) : (lineStarts s).Pairwise (· < ·) := by
  unfold lineStarts
  exact List.pairwise_cons.mpr ⟨fun x hx => by have := lineStartsFrom_gt _ _ _ hx; omega, lineStartsFrom_sorted _ _⟩

theorem mem_lineStarts (s : Str) (x : Nat) : x ∈ lineStarts s ↔ IsLineStart s x := by
  unfold lineStarts IsLineStart
  simp only [List.mem_cons, mem_lineStartsFrom]
  constructor
  · rintro (h | ⟨j, hj, hx⟩)
    · left; exact h
    · right; exact ⟨j, by omega, hj⟩
  · rintro (h | ⟨k, hk, hs⟩)
    · left; exact h
    · right; exact ⟨k, hs, by omega⟩

/-- The specification of `bisect_right(l, p) - 1` on a strictly sorted list. -/
theorem countLE_spec (l : List Nat) (p n : Nat) (hs : l.Pairwise (· < ·)) (hn : countLE l p = n + 1) :
    ∃ st, l[n]? = some st ∧ st ≤ p ∧ ∀ x ∈ l, x ≤ p → x ≤ st := by
  induction l generalizing n with
  | nil => cases hn
  | cons a t ih =>
    have hs' := List.pairwise_cons.mp hs
    by_cases ha : a ≤ p
    · have hc : countLE t p = n := by simpa [countLE, List.filter, ha] using hn
      cases n with
      | zero =>
        refine ⟨a, rfl, ha, fun x hx hxp => ?_⟩
        rcases List.mem_cons.mp hx with rfl | hxt
        · exact Nat.le_refl _
        · have : x ∈ t.filter (· ≤ p) := List.mem_filter.mpr ⟨hxt, by simpa using hxp⟩
          rw [List.length_eq_zero_iff.mp hc] at this
          cases this
      | succ m =>
        obtain ⟨st, hst, hle, hmax⟩ := ih m hs'.2 hc
        refine ⟨st, hst, hle, fun x hx hxp => ?_⟩
        rcases List.mem_cons.mp hx with rfl | hxt
        · exact Nat.le_of_lt (hs'.1 _ (List.mem_of_getElem? hst))
        · exact hmax x hxt hxp
    · -- the head is already beyond `p`, and so is everything after it
      obtain ⟨st, hst, hle, _⟩ := ih n hs'.2 (by simpa [countLE, List.filter, ha] using hn)
      have := hs'.1 st (List.mem_of_getElem? hst)
      omega

/-- **C20.**  For every string, every position `p ≤ |s|` and every offset
    configuration, the reported `(lineno, colno)` identify a line start `st` of `s`
    with: `st ≤ p`; `st` is the `(lineno - lineOffset)`-th line start (0-based) in
    increasing order; the position equals `st` plus the column minus the
    configured column offset (first-line offset on the first line); and no
    newline lies between `st` and `p` — i.e. `p` really is on that line. -/
theorem C20_pos_line_col (cfg : LineCfg) (s : Str) (p : Nat) (_hp : p ≤ s.length) :
    ∃ (idx st : Nat),
      (posToLineCol cfg s p).1 = (idx : Int) + cfg.lineOffset ∧
      (lineStarts s)[idx]? = some st ∧ IsLineStart s st ∧ st ≤ p ∧
      ((p : Int) = (st : Int) + ((posToLineCol cfg s p).2
          - (if idx = 0 then cfg.firstLineColOffset else cfg.colOffset))) ∧
      (∀ k, st ≤ k → k < p → s[k]? ≠ some '\n') := by
  have h0 : 0 ∈ (lineStarts s).filter (· ≤ p) := by
    apply List.mem_filter.mpr; simp [lineStarts]
  have hpos : 0 < countLE (lineStarts s) p := List.length_pos_of_mem h0
  obtain ⟨n, hn⟩ : ∃ n, countLE (lineStarts s) p = n + 1 := ⟨countLE (lineStarts s) p - 1, by omega⟩
  obtain ⟨st, hst, hle, hmax⟩ := countLE_spec _ p n (lineStarts_sorted s) hn
  refine ⟨n, st, ?_, hst, ?_, hle, ?_, ?_⟩
  · simp [posToLineCol, hn]
  · exact (mem_lineStarts s st).mp (List.mem_of_getElem? hst)
  · have hg : (lineStarts s).getD n 0 = st := by simp [List.getD, hst]
    simp only [posToLineCol, hn, Nat.add_sub_cancel, hg]
    omega
  · intro k hk1 hk2 hnl
    have hmem : k + 1 ∈ lineStarts s := (mem_lineStarts s (k+1)).mpr (Or.inr ⟨k, rfl, hnl⟩)
    have := hmax (k+1) hmem (by omega)
    omega

/-- Line starts are exactly `0` and the indices following a newline, in increasing order. -/
theorem C20_line_starts (s : Str) :
    (lineStarts s).Pairwise (· < ·) ∧ ∀ x, x ∈ lineStarts s ↔ IsLineStart s x :=
  ⟨lineStarts_sorted s, mem_lineStarts s⟩

/-- Uniqueness: the pair determines the position (two positions with the same report are equal). -/
theorem C20_injective (cfg : LineCfg) (s : Str) (p q : Nat) (hp : p ≤ s.length) (hq : q ≤ s.length)
    (h : posToLineCol cfg s p = posToLineCol cfg s q) : p = q := by
  obtain ⟨i, st, h1, h2, _, _, h5, _⟩ := C20_pos_line_col cfg s p hp
  obtain ⟨j, st', g1, g2, _, _, g5, _⟩ := C20_pos_line_col cfg s q hq
  rw [h] at h1 h5
  have hij : i = j := by omega
  subst hij
  rw [h2] at g2
  cases g2
  omega

/-- Non-vacuity: a concrete three-line string; position 5 is line 3 (offset 1), column 1. -/
example : posToLineCol {} "a\n\nbc".toList 5 = (3, 2) := by decide
example : posToLineCol { lineOffset := 0, firstLineColOffset := 7, colOffset := 2 } "ab\nc".toList 1 = (0, 8) := by decide
example : posToLineCol { lineOffset := 0, firstLineColOffset := 7, colOffset := 2 } "ab\nc".toList 4 = (1, 3) := by decide

end Pylx
