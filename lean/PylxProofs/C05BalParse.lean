/-
  C05BalParse — acceptance implies balance.  A contract over the strict parser model: whenever a task that starts
  at `pos` succeeds and leaves the reader at `pos'`, the counts of `C05BalScan` at `pos` and `pos'` agree (up to the
  closing token a general-nodes parser consumes).  Consequence (`accepted_balanced`): a source without calls of
  verbatim constructs that the strict parser accepts has as many `{` as `}`, an even number of `$`, as many `\(` as
  `\)`, `\[` as `\]`, `\begin` as `\end`.
-/
import PylxProofs.C05BalTok
import PylxProofs.C05
namespace Pylx
namespace C05Bal
open Doc

attribute [local instance] TokKind.lawfulBEq

/-! ### the parsing states of a strict run started by the walker -/

def stdInline : Pairs := [(['$'], ['$']), (['\\', '('], ['\\', ')'])]
def stdDisplay : Pairs := [(['$', '$'], ['$', '$']), (['\\', '['], ['\\', ']'])]

/-- everything but `enable_environments`, which the expression parser switches off for its own read -/
structure FInv0 (f : PSFields) : Prop where
  inl : f.inlineDelims = stdInline
  disp : f.displayDelims = stdDisplay
  esc : f.escapeChar = '\\'
  em : f.enMacros = true
  cs : f.commentStart = ['%']
  ec : f.enComments = true
  eg : f.enGroups = true
  emath : f.enMath = true
  fb : f.forbidden = []
  alpha : f.macroAlpha = C02.alphaStr
  groups : ∀ pr ∈ f.groupDelims, PairOk pr
  brace : (['{'], ['}']) ∈ f.groupDelims
  keys : ∀ key ∈ f.specials, ∀ c ∈ key, plainCh c = true

structure FInv (f : PSFields) : Prop extends FInv0 f where
  ee : f.enEnvs = true

theorem FInv0.set {f : PSFields} (h : FInv0 f) (im : Bool) (md : Option Str) (ee : Bool) :
    FInv0 { f with inMath := im, mathDelim := md, enEnvs := ee } :=
  ⟨h.inl, h.disp, h.esc, h.em, h.cs, h.ec, h.eg, h.emath, h.fb, h.alpha, h.groups, h.brace, h.keys⟩

theorem FInv0.normalize {f : PSFields} (h : FInv0 f) : FInv0 f.normalize := by
  unfold PSFields.normalize
  split
  · exact h
  · exact h.set f.inMath none f.enEnvs

theorem normalize_enEnvs (f : PSFields) : f.normalize.enEnvs = f.enEnvs := by
  unfold PSFields.normalize; split <;> rfl

theorem FInv.setMath {f : PSFields} (h : FInv f) (im : Bool) (md : Option Str) :
    FInv { f with inMath := im, mathDelim := md } :=
  ⟨h.toFInv0.set im md f.enEnvs, h.ee⟩

theorem FInv.normalize {f : PSFields} (h : FInv f) : FInv f.normalize :=
  { toFInv0 := h.toFInv0.normalize, ee := by rw [normalize_enEnvs]; exact h.ee }

theorem FInv.applyDelta {f : PSFields} (h : FInv f) (d : Delta) : FInv (applyDelta f d) := by
  cases d
  · exact h
  · exact (h.setMath true none).normalize
  · exact (h.setMath false none).normalize

theorem FInv.mathFields {f : PSFields} (h : FInv f) (d : Str) : FInv (mathFields f d) :=
  (h.setMath true (some d)).normalize

theorem FInv.noEnvs {f : PSFields} (h : FInv f) : FInv0 ({ f with enEnvs := false } : PSFields).normalize :=
  (h.toFInv0.set f.inMath f.mathDelim false).normalize

def GDOk : GroupDelims → Prop
  | .auto _ => True
  | .pair o c => PairOk (o, c)

theorem FInv.groupState {f g : PSFields} (h : FInv f) {d : GroupDelims} (hd : GDOk d) (hg : groupState d f = some g) :
    FInv g := by
  rcases groupState_some hg with rfl | ⟨o, c, rfl, rfl⟩
  · exact h
  · refine ⟨⟨h.inl, h.disp, h.esc, h.em, h.cs, h.ec, h.eg, h.emath, h.fb, h.alpha, ?_,
      List.mem_append_left _ h.brace, h.keys⟩, h.ee⟩
    intro pr hpr
    rcases List.mem_append.mp hpr with h1 | h1
    · exact h.groups pr h1
    · rw [List.mem_singleton.mp h1]; exact hd

theorem mathTables_std {f : PSFields} (h1 : f.inlineDelims = stdInline) (h2 : f.displayDelims = stdDisplay) :
    mathTables f = (C02.stdMathStart, C02.stdMathAll, C02.stdMathByOpen) := by
  rw [mathTables_congr f {} h1 h2]
  decide

theorem stdByOpen_six : ∀ d ∈ C02.stdMathByOpen, d.2.1 ∈ sixD := by decide

theorem tokF_of {f : PSFields} (h : FInv0 f) : TokF (mkPS f) := by
  have hn := h.normalize
  have hmt := mathTables_std hn.inl hn.disp
  have hps : mkPS f = { f := f.normalize, t := computeTables f.normalize } := rfl
  rw [hps]
  refine { esc := hn.esc, em := hn.em, cs := hn.cs, ec := hn.ec, eg := hn.eg, emath := hn.emath, fb := hn.fb,
           alpha := hn.alpha, ms := ?_, all := ?_, expect := ?_, gopen := ?_, gclose := ?_, gbrace := ?_, gclose2 := ?_,
           keys := hn.keys }
  · show (mathTables f.normalize).1 = _; rw [hmt]
  · show (mathTables f.normalize).2.1 = _; rw [hmt]
  · intro cd hcd
    have hcd : expectCloseOf f.normalize (mathTables f.normalize).2.2 = some cd := hcd
    rw [hmt] at hcd
    unfold expectCloseOf at hcd
    split at hcd
    · cases hcd
    · split at hcd
      · cases hcd
      · exact stdByOpen_six _ (lookupLast_mem _ _ _ hcd)
  · intro d hd; exact hn.groups d hd
  · intro c hc
    have hc : c ∈ f.normalize.groupDelims.map (·.2) := hc
    obtain ⟨d, hd, rfl⟩ := List.mem_map.mp hc
    exact ⟨d, hn.groups d hd, rfl⟩
  · exact hn.brace
  · show ['}'] ∈ f.normalize.groupDelims.map (·.2)
    exact List.mem_map.mpr ⟨_, hn.brace, rfl⟩

theorem mkPS_enEnvs (f : PSFields) : (mkPS f).f.enEnvs = f.enEnvs := normalize_enEnvs f

theorem delimsOk_of {f : PSFields} (h : FInv0 f) : DelimsOk f := by
  unfold DelimsOk
  rw [h.inl, h.disp]
  decide

theorem verbW_nonneg (ctx : Ctx) (r : Str) : 0 ≤ verbW ctx r := by
  unfold verbW
  split
  · exact Int.le_refl _
  · split
    · split
      · split
        · split <;> decide
        · decide
      · split
        · decide
        · split <;> decide
    · split
      · decide
      · split <;> decide

theorem cnt_verb_nonneg (ctx : Ctx) : ∀ (r : Str) (m : Mode), 0 ≤ cnt ctx .verb m r := by
  intro r
  induction r with
  | nil => intro m; cases m <;> exact Int.le_refl _
  | cons c r ih =>
    intro m
    cases m with
    | n =>
      rw [cnt]
      split
      · have := verbW_nonneg ctx r
        have := ih .esc
        rw [escW_verb]; omega
      · split
        · exact ih .com
        · have : plainW .verb c = 0 := rfl
          rw [this, Int.zero_add]; exact ih .n
    | esc => rw [cnt]; exact ih .n
    | com =>
      rw [cnt]
      split
      · exact ih .n
      · exact ih .com

theorem kindW_verb_nonneg (ctx : Ctx) (kind : TokKind) (a : Str) : 0 ≤ kindW ctx .verb kind a := by
  match kind with
  | .macro => show 0 ≤ (if macroBad ctx a then (1 : Int) else 0); split <;> decide
  | .beginEnv => show 0 ≤ (if envBad ctx a then (1 : Int) else 0); split <;> decide
  | .braceOpen =>
    show 0 ≤ (if Sym.verb = Sym.brace ∧ a = ['{'] then (1 : Int) else 0)
    rw [if_neg (fun h => nomatch h.1)]; decide
  | .braceClose =>
    show 0 ≤ (if Sym.verb = Sym.brace ∧ a = ['}'] then (-1 : Int) else 0)
    rw [if_neg (fun h => nomatch h.1)]; decide
  | .char | .endEnv | .comment | .mathInline | .mathDisplay | .specials => exact Int.le_refl _

def stopW (ctx : Ctx) (k : Sym) : StopTok → Int
  | .none => 0
  | .braceClose c => kindW ctx k .braceClose c
  | .mathClose _ c => mathW k c
  | .endEnv n => kindW ctx k .endEnv n

theorem stopW_of_test (ctx : Ctx) (k : Sym) {stop : StopTok} {t : Token} (h : stop.test t = true) :
    kindW ctx k t.kind t.arg = stopW ctx k stop := by
  cases stop with
  | none => cases h
  | braceClose c =>
    simp only [StopTok.test, Bool.and_eq_true, beq_iff_eq] at h
    rw [h.1, h.2]; rfl
  | mathClose d c =>
    simp only [StopTok.test, Bool.and_eq_true, beq_iff_eq] at h
    rw [h.1, h.2]
    cases d <;> rfl
  | endEnv n =>
    simp only [StopTok.test, Bool.and_eq_true, beq_iff_eq] at h
    rw [h.1, h.2]; rfl

theorem stop_isSome_of_test {stop : StopTok} {t : Token} (h : stop.test t = true) : stop.isSome = true := by
  cases stop <;> first | rfl | cases h

/-- opening and closing math delimiter cancel (the `$` count modulo 2) -/
theorem math_pair (k : Sym) {o : Str} {cd : Str × Bool} (h : lookupLast o C02.stdMathByOpen = some cd) :
    Rel k (mathW k o + mathW k cd.1) 0 := by
  have hm := lookupLast_mem _ _ _ h
  simp only [C02.stdMathByOpen, List.mem_cons, List.not_mem_nil, or_false, Prod.mk.injEq] at hm
  rcases hm with ⟨h1, h2⟩ | ⟨h1, h2⟩ | ⟨h1, h2⟩ | ⟨h1, h2⟩ <;> subst h1 <;> subst h2
  · cases k <;> first | exact Rel.refl _ _ | (show (2 : Int) ∣ _; exact ⟨1, by simp [mathW]⟩)
  · cases k <;> first | exact Rel.refl _ _ | exact Rel.of_eq (by simp [mathW])
  · cases k <;> first | exact Rel.refl _ _ | (show (2 : Int) ∣ _; exact ⟨2, by simp [mathW]⟩)
  · cases k <;> first | exact Rel.refl _ _ | exact Rel.of_eq (by simp [mathW])

theorem kindW_macro_zero (ctx : Ctx) (k : Sym) {a : Str} (h : macroBad ctx a = false) : kindW ctx k .macro a = 0 := by
  cases k <;> simp [kindW, h]

theorem kindW_env_pair (ctx : Ctx) (k : Sym) {a : Str} (h : envBad ctx a = false) :
    kindW ctx k .beginEnv a + kindW ctx k .endEnv a = 0 := by
  cases k <;> simp [kindW, h]

section contract
variable (ctx : Ctx) (s : Str)

/-- the closing token a parser consumes beyond its balanced content -/
def parserW (k : Sym) : Parser → Int
  | .general stop _ _ => stopW ctx k stop
  | .envBody n => kindW ctx k .endEnv n
  | .envCall t _ _ => kindW ctx k .endEnv t.arg
  | _ => 0

def ChildOk : ChildPS → Prop
  | .same => True
  | .group _ c o => FInv c ∧ FInv o

def PInv : Parser → Prop
  | .general _ req child => req = true ∧ ChildOk child
  | .group d _ _ => GDOk d
  | .macroCall _ a => argsOk a = true
  | .specialsCall _ a => argsOk a = true
  | .envCall _ a _ => argsOk a = true
  | .arguments a => argsOk a = true
  | .verbatim _ => False
  | _ => True

/-- result `(res, pos')` of a task started at `pos`: no verbatim construct from `pos'` on, counts agree up to `w` -/
def PosOk (w : Sym → Int) (pos pos' : Nat) : Prop :=
  C ctx .verb s pos' = 0 ∧ ∀ k, Rel k (C ctx k s pos) (w k + C ctx k s pos')

def Post (p : Parser) (pos : Nat) : Ret → Prop
  | .ok _ pos' => PosOk ctx s (fun k => parserW ctx k p) pos pos'
  | _ => True

def ExprPost (pos : Nat) : Ret → Prop
  | .ok _ pos' => PosOk ctx s (fun _ => 0) pos pos'
  | _ => True

def EndOk (stop : StopTok) (e : LoopEnd) : Prop :=
  match e.stopTok with
  | some t => stop.test t = true ∧ ∀ k, C ctx k s e.pos = kindW ctx k t.kind t.arg + C ctx k s t.posEnd
  | none => ∀ k, C ctx k s e.pos = 0

def LoopPost (stop : StopTok) (pos : Nat) : Ret → Prop
  | .loopEnd e => e.err = none → PosOk ctx s (fun _ => 0) pos e.pos ∧ EndOk ctx s stop e
  | _ => True

def Good : Task → Ret → Prop
  | .pc p f pos, r => FInv f → PInv p → C ctx .verb s pos = 0 → Post ctx s p pos r
  | .loop f stop child st, r => FInv f → ChildOk child → C ctx .verb s st.pos = 0 → LoopPost ctx s stop st.pos r
  | .expr _ _ f pos, r => FInv f → C ctx .verb s pos = 0 → ExprPost ctx s pos r

end contract

section basics
variable {ctx : Ctx} {s : Str}

theorem PosOk.refl {p : Nat} (h : C ctx .verb s p = 0) : PosOk ctx s (fun _ => 0) p p :=
  ⟨h, fun k => by rw [Int.zero_add]; exact Rel.refl _ _⟩

theorem PosOk.rel {a b : Nat} (h : PosOk ctx s (fun _ => 0) a b) (k : Sym) : Rel k (C ctx k s a) (C ctx k s b) := by
  have := h.2 k
  rw [Int.zero_add] at this
  exact this

theorem PosOk.shift {w : Sym → Int} {a b c : Nat} {u : Sym → Int} (h1 : ∀ k, Rel k (C ctx k s a) (u k + C ctx k s b))
    (h2 : PosOk ctx s w b c) : PosOk ctx s (fun k => u k + w k) a c := by
  refine ⟨h2.1, fun k => ?_⟩
  have := Rel.trans (h1 k) (Rel.add_left (u k) (h2.2 k))
  rw [Int.add_assoc]; exact this

theorem PosOk.shift0 {w : Sym → Int} {a b c : Nat} (h1 : ∀ k, Rel k (C ctx k s a) (C ctx k s b))
    (h2 : PosOk ctx s w b c) : PosOk ctx s w a c :=
  ⟨h2.1, fun k => Rel.trans (h1 k) (h2.2 k)⟩

theorem PosOk.congr {w w' : Sym → Int} {a b : Nat} (h : PosOk ctx s w a b) (hw : ∀ k, Rel k (w k) (w' k)) :
    PosOk ctx s w' a b :=
  ⟨h.1, fun k => Rel.trans (h.2 k) (Rel.add (hw k) (Rel.refl _ _))⟩

theorem verb_split {p q : Nat} {w : Int} (h0 : C ctx .verb s p = 0) (h : C ctx .verb s p = w + C ctx .verb s q)
    (hw : 0 ≤ w) : w = 0 ∧ C ctx .verb s q = 0 := by
  have : 0 ≤ C ctx .verb s q := cnt_verb_nonneg ctx _ _
  omega

theorem ChildOk.get {child : ChildPS} (hc : ChildOk child) {f : PSFields} (hf : FInv f) (t : Token) :
    FInv (child.get f t) := by
  cases child with
  | same => exact hf
  | group o c outer =>
    rcases ChildPS.get_group o c outer f t with h | h <;> rw [h]
    · exact hc.1
    · exact hc.2

structure TokFacts (ctx : Ctx) (s : Str) (p0 : Nat) (t : Token) : Prop where
  skip : ∀ k, C ctx k s p0 = C ctx k s t.pos
  weight : ∀ k, C ctx k s t.pos = kindW ctx k t.kind t.arg + C ctx k s t.posEnd
  pos_eq : t.pos = p0 + t.pre.length

theorem tokFacts_of_peek {f : PSFields} (hf : FInv f) {p : Nat} {t : Token}
    (h : peekTok false (mkPS f) s p = .tok t) : TokFacts ctx s p t := by
  rw [peekTok_false] at h
  have hs := C11_span (mkPS f) (tablesOk_of_fields f (delimsOk_of hf.toFInv0)) s p t h
  have := peekImpl_cnt ctx (tokF_of hf.toFInv0) s p
  rw [h] at this
  obtain ⟨h1, h2⟩ := this
  rcases h2 with h2 | h2
  · rw [mkPS_enEnvs, hf.ee] at h2
    exact absurd h2.1 (by decide)
  · exact ⟨h1, h2, hs.pos_eq⟩

/-- the same for the expression parser's read (environments switched off): `\begin` / `\end` come as macros -/
theorem tokFacts_of_peek0 {f : PSFields} (hf : FInv0 f) {p : Nat} {t : Token}
    (h : peekTok false (mkPS f) s p = .tok t) :
    (t.kind = .macro ∧ (t.arg = beginW ∨ t.arg = endW)) ∨ TokFacts ctx s p t := by
  rw [peekTok_false] at h
  have hs := C11_span (mkPS f) (tablesOk_of_fields f (delimsOk_of hf)) s p t h
  have := peekImpl_cnt ctx (tokF_of hf) s p
  rw [h] at this
  obtain ⟨h1, h2⟩ := this
  rcases h2 with h2 | h2
  · exact Or.inl h2.2
  · exact Or.inr ⟨h1, h2, hs.pos_eq⟩

theorem eos_of_peek {f : PSFields} (hf : FInv0 f) {p : Nat} {fs : Str}
    (h : peekTok false (mkPS f) s p = .eos fs) : ∀ k, C ctx k s p = 0 ∧ C ctx k s (p + fs.length) = 0 := by
  rw [peekTok_false] at h
  have := peekImpl_cnt ctx (tokF_of hf) s p
  rw [h] at this
  exact this

theorem TokFacts.step {p0 : Nat} {t : Token} (h : TokFacts ctx s p0 t) (k : Sym) :
    C ctx k s p0 = kindW ctx k t.kind t.arg + C ctx k s t.posEnd :=
  (h.skip k).trans (h.weight k)

/-- after a token whose weight for the class `verb` is non-negative, no verbatim construct follows either -/
theorem TokFacts.verb {p0 : Nat} {t : Token} (h : TokFacts ctx s p0 t) (h0 : C ctx .verb s p0 = 0) :
    C ctx .verb s t.pos = 0 ∧ kindW ctx .verb t.kind t.arg = 0 ∧ C ctx .verb s t.posEnd = 0 := by
  have h1 : C ctx .verb s t.pos = 0 := by rw [← h.skip]; exact h0
  have := verb_split h1 (h.weight .verb) (kindW_verb_nonneg ctx _ _)
  exact ⟨h1, this.1, this.2⟩

theorem moveToToken_pre {p0 : Nat} {t : Token} (ht : TokFacts ctx s p0 t) : moveToToken t true = p0 := by
  have := ht.pos_eq
  rw [moveToToken_true]; omega

theorem TokFacts.leaf {pos : Nat} {t : Token} (ht : TokFacts ctx s pos t) (h0 : C ctx .verb s pos = 0)
    (hz : ∀ k, k ≠ .verb → kindW ctx k t.kind t.arg = 0) : PosOk ctx s (fun _ => 0) pos t.posEnd := by
  obtain ⟨_, hv1, hv2⟩ := ht.verb h0
  refine ⟨hv2, fun k => ?_⟩
  rw [Int.zero_add, ht.step k]
  by_cases hk : k = .verb
  · subst hk; rw [hv1, Int.zero_add]; exact Rel.refl _ _
  · rw [hz k hk, Int.zero_add]; exact Rel.refl _ _

theorem rawPost_other {p : Parser} {pos : Nat} {r : Ret} (h : ∀ res q, r ≠ .ok res q) :
    RawSat false (Post ctx s p pos) (.ret r) := by
  cases r with
  | ok res q => exact absurd rfl (h res q)
  | _ => trivial

theorem post_none_self {p : Parser} {pos : Nat} (hw : ∀ k, parserW ctx k p = 0) (h0 : C ctx .verb s pos = 0) :
    Post ctx s p pos (.ok .none pos) :=
  ⟨h0, fun k => by show Rel k _ (parserW ctx k p + _); rw [hw k, Int.zero_add]; exact Rel.refl _ _⟩

end basics

section loop
variable {ctx : Ctx} {env : Env} {rec : Task → Ret}

theorem loopFinish_err (f : PSFields) (st : LoopSt) (stopTok : Option Token) (e : PErr) (stop : StopTok) (pos : Nat) :
    LoopPost ctx env.s stop pos (loopFinish f st stopTok (some e)) := by
  rw [loopFinish_eq]
  intro h; cases h

theorem loopFinish_ok (f : PSFields) (st : LoopSt) (stopTok : Option Token) (stop : StopTok) (pos : Nat)
    (h1 : PosOk ctx env.s (fun _ => 0) pos st.pos)
    (h2 : match stopTok with
      | some t => stop.test t = true ∧ ∀ k, C ctx k env.s st.pos = kindW ctx k t.kind t.arg + C ctx k env.s t.posEnd
      | none => ∀ k, C ctx k env.s st.pos = 0) :
    LoopPost ctx env.s stop pos (loopFinish f st stopTok none) := by
  rw [loopFinish_eq]
  exact fun _ => ⟨h1, h2⟩

theorem LoopPost.shift {stop : StopTok} {a b : Nat} {r : Ret} (h1 : ∀ k, Rel k (C ctx k env.s a) (C ctx k env.s b))
    (h2 : LoopPost ctx env.s stop b r) : LoopPost ctx env.s stop a r := by
  cases r with
  | loopEnd e => exact fun he => ⟨(h2 he).1.shift0 h1, (h2 he).2⟩
  | _ => trivial

/-- what the collector needs from a sub-parse started for the token at `tpos` -/
def ChildPost (ctx : Ctx) (s : Str) (tpos : Nat) : Ret → Prop
  | .ok _ p => PosOk ctx s (fun _ => 0) tpos p
  | _ => True

theorem afterChild_post (ih : ∀ t, Good ctx env.s t (rec t)) {f : PSFields} {stop : StopTok} {child : ChildPS}
    (hf : FInv f) (hc : ChildOk child) (st : LoopSt) (tpos : Nat) (noneOk : Bool) (r : Ret)
    (hr : ChildPost ctx env.s tpos r) :
    LoopPost ctx env.s stop tpos (afterChild rec f stop child st noneOk r) := by
  apply afterChild_elim
  · intro n p e
    rw [e] at hr
    exact LoopPost.shift hr.rel (ih (.loop _ _ _ _) hf hc hr.1)
  · intro p e _
    rw [e] at hr
    exact LoopPost.shift hr.rel (ih (.loop _ _ _ _) hf hc hr.1)
  · intro e _; exact loopFinish_err _ _ _ _ _ _
  · intro _; trivial
  · intro _ _; trivial

theorem macroSpec_ok {name : Str} {a : ArgsP} (hb : macroBad ctx name = false) (h : ctx.macroSpec name = some a) :
    argsOk a = true := by
  unfold macroBad at hb
  rw [h] at hb
  simpa using hb

theorem envSpec_ok {name : Str} {ab : ArgsP × Bool} (hb : envBad ctx name = false) (h : ctx.envSpec name = some ab) :
    argsOk ab.1 = true := by
  unfold envBad at hb
  rw [h] at hb
  simpa using hb

theorem childPost_of_post {s : Str} {p : Parser} {tpos pos : Nat} {r : Ret} (h : Post ctx s p pos r) {u : Sym → Int}
    (h1 : ∀ k, Rel k (C ctx k s tpos) (u k + C ctx k s pos)) (hw : ∀ k, Rel k (u k + parserW ctx k p) 0) :
    ChildPost ctx s tpos r := by
  cases r with
  | ok res p' => exact (PosOk.shift h1 (show PosOk ctx s (fun k => parserW ctx k p) pos p' from h)).congr hw
  | _ => trivial

theorem macroBad_of_weight {a : Str} (h : kindW ctx .verb .macro a = 0) : macroBad ctx a = false := by
  cases hb : macroBad ctx a with
  | false => rfl
  | true => simp [kindW, hb] at h

theorem envBad_of_weight {a : Str} (h : kindW ctx .verb .beginEnv a = 0) : envBad ctx a = false := by
  cases hb : envBad ctx a with
  | false => rfl
  | true => simp [kindW, hb] at h

/-- the sub-parse `process_one_token` starts for `t`, which weighs `kindW … t` between `t.pos` and `t.posEnd`, gives
    the collector what it needs: the parser takes the closing token that cancels `t`, if there is one -/
theorem childPost_of_dispatch (hS : ∀ p ∈ ctx.specials, argsOk p.2 = true) (hctx : env.ctx = ctx)
    {f g : PSFields} {st : LoopSt} {t : Token} {P : Parser} {start : Nat} {b : Bool}
    (hd : DispatchChild env f st t P start b) (hpos : st.pos = t.posEnd) (h0 : C ctx .verb env.s t.pos = 0)
    (hw : ∀ k, C ctx k env.s t.pos = kindW ctx k t.kind t.arg + C ctx k env.s t.posEnd)
    (hg : FInv g) {r : Ret} (h : Good ctx env.s (.pc P g start) r) : ChildPost ctx env.s t.pos r := by
  obtain ⟨hv1, hv2⟩ := verb_split h0 (hw .verb) (kindW_verb_nonneg ctx _ _)
  have atTok : ∀ {P : Parser}, Post ctx env.s P t.pos r → (∀ k, parserW ctx k P = 0) → ChildPost ctx env.s t.pos r :=
    fun h hP => childPost_of_post h (u := fun _ => 0) (fun k => by rw [Int.zero_add]; exact Rel.refl _ _)
      (fun k => by rw [hP k]; exact Rel.refl _ _)
  have afterTok : ∀ {P : Parser}, Post ctx env.s P st.pos r → (∀ k, Rel k (kindW ctx k t.kind t.arg + parserW ctx k P) 0) →
      ChildPost ctx env.s t.pos r :=
    fun h hP => childPost_of_post h (u := fun k => kindW ctx k t.kind t.arg)
      (fun k => by rw [hpos, hw k]; exact Rel.refl _ _) hP
  rw [← hpos] at hv2
  cases hd with
  | group hk => exact atTok (h hg trivial h0) (fun _ => rfl)
  | math hk hm => exact atTok (h hg trivial h0) (fun _ => rfl)
  | mac hk hm =>
    rw [hk] at hv1
    rw [hctx] at hm
    have hbad := macroBad_of_weight hv1
    refine afterTok (h hg (macroSpec_ok hbad hm) hv2) (fun k => ?_)
    rw [hk, kindW_macro_zero ctx k hbad]; exact Rel.refl _ _
  | env hk hm =>
    rw [hk] at hv1
    rw [hctx] at hm
    have hbad := envBad_of_weight hv1
    refine afterTok (h hg (envSpec_ok hbad hm) hv2) (fun k => ?_)
    rw [hk]; exact Rel.of_eq (kindW_env_pair ctx k hbad)
  | @spec a hk hm =>
    rw [hctx] at hm
    obtain ⟨pr, hpr, rfl⟩ := lookupFirst_mem _ _ _ hm
    refine afterTok (h hg (hS pr hpr) hv2) (fun k => ?_)
    rw [hk]; exact Rel.refl _ _

theorem loopDispatch_post (htol : env.tol = false) (hS : ∀ p ∈ ctx.specials, argsOk p.2 = true) (hctx : env.ctx = ctx)
    (ih : ∀ t, Good ctx env.s t (rec t))
    {f : PSFields} {stop : StopTok} {child : ChildPS} (hf : FInv f) (hc : ChildOk child)
    {st : LoopSt} {t : Token} (hpos : st.pos = t.posEnd)
    (h0 : C ctx .verb env.s t.pos = 0)
    (hw : ∀ k, C ctx k env.s t.pos = kindW ctx k t.kind t.arg + C ctx k env.s t.posEnd) :
    LoopPost ctx env.s stop t.pos (loopDispatch env rec f stop child st t) := by
  apply loopDispatch_elim
  · intro _ _ _; exact loopFinish_err _ _ _ _ _ _
  · intro hk
    obtain ⟨_, hv2⟩ := verb_split h0 (hw .verb) (kindW_verb_nonneg ctx _ _)
    refine LoopPost.shift (fun k => ?_) (ih (.loop _ _ _ _) hf hc (hpos ▸ hv2))
    rw [hw k, hk, hpos]; exact Rel.of_eq (Int.zero_add _)
  · intro h; rw [htol] at h; cases h
  · intro P start b hd
    exact afterChild_post ih hf hc st t.pos b _
      (childPost_of_dispatch hS hctx hd hpos h0 hw (hc.get hf t) (ih (.pc P (child.get f t) start)))
  · intro _ _; trivial

theorem tokFacts_of_loopTok (htol : env.tol = false) {f : PSFields} (hf : FInv f) {st : LoopSt} {t : Token}
    (h : LoopTok env f st t) : TokFacts ctx env.s st.pos t := by
  cases h with
  | peek hpk => rw [htol] at hpk; exact tokFacts_of_peek hf hpk
  | @final fs hpk hne =>
    rw [htol] at hpk
    have he := eos_of_peek (ctx := ctx) hf.toFInv0 hpk
    exact ⟨fun k => by rw [(he k).1]; exact (he k).2.symm, fun k => (Int.zero_add _).symm, rfl⟩

theorem loopStep_good (htol : env.tol = false) (hS : ∀ p ∈ ctx.specials, argsOk p.2 = true) (hctx : env.ctx = ctx)
    (ih : ∀ t, Good ctx env.s t (rec t))
    (f : PSFields) (stop : StopTok) (child : ChildPS) (st : LoopSt) :
    Good ctx env.s (.loop f stop child st) (loopStep env rec f stop child st) := by
  intro hf hc h0
  apply loopStep_elim
  · intro hpk
    rw [htol] at hpk
    have he := eos_of_peek (ctx := ctx) hf.toFInv0 hpk
    exact loopFinish_ok f st none stop st.pos (PosOk.refl h0) (fun k => (he k).1)
  · intro _ _ _ _ _ _; exact loopFinish_err _ _ _ _ _ _
  · intro t hlt hst
    have ht := tokFacts_of_loopTok (ctx := ctx) htol hf hlt
    exact LoopPost.shift (fun k => Rel.of_eq (ht.skip k))
      (loopFinish_ok f _ (some t) stop t.pos (PosOk.refl (ht.verb h0).1) ⟨hst, ht.weight⟩)
  · intro t hlt _ hk
    have ht := tokFacts_of_loopTok (ctx := ctx) htol hf hlt
    refine LoopPost.shift (fun k => ?_) (ih (.loop _ _ _ _) hf hc (ht.verb h0).2.2)
    rw [ht.step k, hk]; exact Rel.of_eq (Int.zero_add _)
  · intro t hlt _ _
    have ht := tokFacts_of_loopTok (ctx := ctx) htol hf hlt
    exact LoopPost.shift (fun k => Rel.of_eq (ht.skip k))
      (loopDispatch_post (t := { t with pre := [] }) htol hS hctx ih hf hc rfl (ht.verb h0).1 ht.weight)

end loop

section parsers
variable {ctx : Ctx} {env : Env} {rec : Task → Ret}

theorem rawGeneral_post (ih : ∀ t, Good ctx env.s t (rec t)) {stop : StopTok} {require : Bool} {child : ChildPS}
    {f : PSFields} {pos : Nat} (hf : FInv f) (hp : PInv (.general stop require child)) (h0 : C ctx .verb env.s pos = 0) :
    RawSat false (Post ctx env.s (.general stop require child) pos) (rawGeneral rec stop require child f pos) := by
  obtain ⟨hreq, hc⟩ := hp
  have hl := ih (.loop f stop child { pos := pos }) hf hc h0
  apply rawGeneral_elim
  · intro _ _ _ _; trivial
  · intro _ _ _ _ _ _; trivial
  · intro e t hr he hst
    rw [hr] at hl
    obtain ⟨h1, h2⟩ := hl he
    unfold EndOk at h2
    rw [hst] at h2
    obtain ⟨h3, h4⟩ := h2
    rw [stop_isSome_of_test h3, if_pos rfl]
    -- the stop token `t`, read at the collector's end `e.pos`, is the closing token the parser takes
    refine ⟨(verb_split h1.1 (h4 .verb) (kindW_verb_nonneg ctx _ _)).2, fun k => ?_⟩
    have := h1.2 k
    rw [Int.zero_add, h4 k, stopW_of_test ctx k h3] at this
    exact this
  · intro e hr he _ hnone
    rw [hr] at hl
    have hstop : stop = .none := by
      have := hnone hreq
      cases stop <;> first | rfl | cases this
    subst hstop
    exact (hl he).1
  · intro _; trivial
  · intro _ _ _; trivial

theorem pairOk_of_closer {d : GroupDelims} {g : PSFields} (hg : FInv g) (hd : GDOk d) {c : Str}
    (hc : groupCloser d g = some c) : PairOk (d.opener, c) := by
  cases d with
  | auto o =>
    have hc : lookupLast o (mkPS g).t.groupByOpen = some c := hc
    rw [mkPS_groupByOpen] at hc
    exact hg.groups _ (lookupLast_mem _ _ _ hc)
  | pair o c' =>
    cases (hc : some c' = some c)
    exact hd

theorem rawGroup_post (htol : env.tol = false) (ih : ∀ t, Good ctx env.s t (rec t)) {d : GroupDelims} {opt ap : Bool}
    {f : PSFields} {pos : Nat} (hf : FInv f) (hd : GDOk d) (h0 : C ctx .verb env.s pos = 0) :
    RawSat false (Post ctx env.s (.group d opt ap) pos) (rawGroup env rec d opt ap f pos) := by
  have hnone : Post ctx env.s (.group d opt ap) pos (.ok .none pos) := post_none_self (fun _ => rfl) h0
  apply rawGroup_elim
  · intro _ _; trivial
  · intro _ _ _ _; exact hnone
  · intro _ _ _ _ _ _ _ _; trivial
  · intro g t hg hpk
    rw [htol] at hpk
    have hgf := hf.groupState hd hg
    have ht := tokFacts_of_peek (ctx := ctx) hgf hpk
    apply rawGroupTok_elim
    · intro _ _ _; trivial
    · intro c res p hop hc hr
      have := ih (.pc (.general (.braceClose c) true (.group d.opener g f)) g t.posEnd) hgf ⟨rfl, hgf, hf⟩ (ht.verb h0).2.2
      rw [hr] at this
      refine (PosOk.shift (u := fun k => kindW ctx k .braceOpen t.arg) (fun k => ?_) this).congr (fun k => ?_)
      · rw [ht.step k, hop.2.1]; exact Rel.refl _ _
      · rw [hop.2.2]; exact Rel.of_eq (pair_weight ctx k (pairOk_of_closer hgf hd hc))
    · intro _ _ _ hne; exact rawPost_other hne
    · intro _ _; rw [← moveToToken_true, moveToToken_pre ht]; exact hnone
    · intro _ _; trivial

theorem mkPS_expect_mathFields {f : PSFields} (hf : FInv f) (d : Str) :
    (mkPS (mathFields f d)).t.expectClose = lookupLast d C02.stdMathByOpen := by
  rw [C10.expectClose_mathFieldsX, mathTables_std hf.inl hf.disp]

theorem kindW_math (ctx : Ctx) (k : Sym) {kind : TokKind} (h : kind = .mathInline ∨ kind = .mathDisplay) (a : Str) :
    kindW ctx k kind a = mathW k a := by
  rcases h with h | h <;> (rw [h]; rfl)

theorem rawMath_post (htol : env.tol = false) (ih : ∀ t, Good ctx env.s t (rec t)) {d : Str}
    {f : PSFields} {pos : Nat} (hf : FInv f) (h0 : C ctx .verb env.s pos = 0) :
    RawSat false (Post ctx env.s (.math d) pos) (rawMath env rec d f pos) := by
  apply rawMath_elim
  · intro _ _; exact post_none_self (fun _ => rfl) h0
  · intro _ _ _ _ _ _; trivial
  · intro t hpk
    rw [htol] at hpk
    have ht := tokFacts_of_peek (ctx := ctx) hf hpk
    apply rawMathTok_elim
    · intro _ _ _; trivial
    · intro cd res p hop hcd hr
      rw [mkPS_expect_mathFields hf] at hcd
      have := ih (.pc (.general (.mathClose (t.kind == .mathDisplay) cd.1) true .same) (mathFields f t.arg) t.posEnd)
        (hf.mathFields _) ⟨rfl, trivial⟩ (ht.verb h0).2.2
      rw [hr] at this
      refine (PosOk.shift (u := fun k => mathW k t.arg) (fun k => ?_) this).congr (fun k => math_pair k hcd)
      rw [ht.step k, kindW_math ctx k hop.2.1]; exact Rel.refl _ _
    · intro _ _ _ hne; exact rawPost_other hne
    · intro _; trivial

theorem rawEnvBody_post (ih : ∀ t, Good ctx env.s t (rec t)) {name : Str}
    {f : PSFields} {pos : Nat} (hf : FInv f) (h0 : C ctx .verb env.s pos = 0) :
    RawSat false (Post ctx env.s (.envBody name) pos) (rawEnvBody rec name f pos) := by
  have := ih (.pc (.general (.endEnv name) true .same) f pos) hf ⟨rfl, trivial⟩ h0
  apply rawEnvBody_elim
  · intro p hr; rw [hr] at this; exact this
  · intro res p hr _; rw [hr] at this; exact this
  · exact rawPost_other

/-- macro and specials calls: `P` is a parser that takes no closing token -/
theorem rawCall_post (ih : ∀ t, Good ctx env.s t (rec t)) {P : Parser} (hP : ∀ k, parserW ctx k P = 0)
    {mk : Nat → Option (List Arg) → Node} {a : ArgsP}
    {f : PSFields} {pos : Nat} (hf : FInv f) (ha : argsOk a = true) (h0 : C ctx .verb env.s pos = 0) :
    RawSat false (Post ctx env.s P pos) (rawCall rec mk a f pos) := by
  have := ih (.pc (.arguments a) f pos) hf ha h0
  apply rawCall_elim
  · intro res p hr
    rw [hr] at this
    exact PosOk.congr this (fun k => by rw [hP k]; exact Rel.refl _ _)
  · exact rawPost_other

theorem rawEnvCall_post (ih : ∀ t, Good ctx env.s t (rec t)) {t : Token} {a : ArgsP} {bm : Bool}
    {f : PSFields} {pos : Nat} (hf : FInv f) (ha : argsOk a = true) (h0 : C ctx .verb env.s pos = 0) :
    RawSat false (Post ctx env.s (.envCall t a bm) pos) (rawEnvCall rec t a bm f pos) := by
  have hargs := ih (.pc (.arguments a) f pos) hf ha h0
  have hbf : FInv (if bm = true then applyDelta f .enterMath else f) := by
    split
    · exact hf.applyDelta _
    · exact hf
  apply rawEnvCall_elim
  · intro ares p bres p2 hr hr2
    rw [hr] at hargs
    have hbody := ih (.pc (.envBody t.arg) (if bm = true then applyDelta f .enterMath else f) p) hbf trivial hargs.1
    rw [hr2] at hbody
    exact PosOk.shift0 (PosOk.rel hargs) hbody
  · exact rawPost_other
  · intro _ _ _; exact rawPost_other

theorem pinv_argParser {k : ArgKind} (h : argKindOk k = true) : PInv (argParser k) := by
  cases k with
  | m => trivial
  | m0 => trivial
  | o ap => exact Or.inr ⟨'[', ']', rfl, by decide, by decide⟩
  | s => trivial
  | t c => trivial
  | r o c =>
    simp only [argKindOk, Bool.and_eq_true] at h
    exact Or.inr ⟨o, c, rfl, h.1, h.2⟩
  | d o c =>
    simp only [argKindOk, Bool.and_eq_true] at h
    exact Or.inr ⟨o, c, rfl, h.1, h.2⟩
  | v => cases h
  | vd o c => cases h

theorem parserW_argParser (ctx : Ctx) (k' : Sym) (k : ArgKind) : parserW ctx k' (argParser k) = 0 := by
  cases k <;> rfl

theorem argsLoop_post (ih : ∀ t, Good ctx env.s t (rec t)) {f : PSFields} (hf : FInv f)
    (a : ArgsP) (pos0 : Nat) :
    ∀ (l : List ArgSpec) (acc : List Arg) (pos : Nat), (l.all (fun sp => argKindOk sp.kind) = true) →
      PosOk ctx env.s (fun _ => 0) pos0 pos →
      Post ctx env.s (.arguments a) pos0 (argsLoop env rec f l acc pos) := by
  intro l
  induction l with
  | nil =>
    intro acc pos _ h
    rw [argsLoop_nil]
    exact h
  | cons x rest ihl =>
    intro acc pos hall h
    rw [List.all_cons, Bool.and_eq_true] at hall
    have := ih (.pc (argParser x.kind) (applyDelta f x.delta) pos) (hf.applyDelta _) (pinv_argParser hall.1) h.1
    apply argsLoop_cons_elim
    · intro _ _ _ _ _ _; trivial
    · intro res p hr
      rw [hr] at this
      refine ihl _ p hall.2 (PosOk.shift0 h.rel (PosOk.congr this (fun k => ?_)))
      rw [parserW_argParser]; exact Rel.refl _ _
    · intro hne
      cases hr : rec (.pc (argParser x.kind) (applyDelta f x.delta) pos) with
      | ok res q => exact absurd hr (hne res q)
      | _ => trivial

theorem rawArguments_post (ih : ∀ t, Good ctx env.s t (rec t)) {a : ArgsP}
    {f : PSFields} {pos : Nat} (hf : FInv f) (ha : argsOk a = true) (h0 : C ctx .verb env.s pos = 0) :
    RawSat false (Post ctx env.s (.arguments a) pos) (rawArguments env rec a f pos) := by
  cases a with
  | std l => exact rawSat_strict.mpr (argsLoop_post ih hf _ pos l [] pos ha (PosOk.refl h0))
  | legacyVerb => cases ha
  | legacyVerbEnv name optArg => cases ha
  | unknown => cases ha

end parsers

section single
variable {ctx : Ctx} {env : Env} {rec : Task → Ret}

theorem exprFinish_ok (f : PSFields) (nodes : List Node) (p : Nat) : ∃ res, exprFinish f nodes p = .ok res p := by
  unfold exprFinish
  split
  · exact ⟨_, rfl⟩
  · exact ⟨_, rfl⟩

theorem exprPost_finish {s : Str} {pos p : Nat} (f : PSFields) (nodes : List Node) (h : PosOk ctx s (fun _ => 0) pos p) :
    ExprPost ctx s pos (exprFinish f nodes p) := by
  obtain ⟨res, hres⟩ := exprFinish_ok f nodes p
  rw [hres]; exact h

theorem ExprPost.shift {s : Str} {a b : Nat} {r : Ret} (h1 : ∀ k, Rel k (C ctx k s a) (C ctx k s b))
    (h2 : ExprPost ctx s b r) : ExprPost ctx s a r := by
  cases r with
  | ok res p => exact PosOk.shift0 h1 h2
  | _ => trivial

theorem exprOnTok_post (htol : env.tol = false) (ih : ∀ t, Good ctx env.s t (rec t)) {ap : Bool} {sk : List Node}
    {f : PSFields} {pos : Nat} {t : Token} (hf : FInv f) (ht : TokFacts ctx env.s pos t)
    (h0 : C ctx .verb env.s pos = 0) :
    ExprPost ctx env.s pos (exprOnTok env rec ap sk f t) := by
  obtain ⟨hv0, _, hv2⟩ := ht.verb h0
  apply exprOnTok_elim
  · intro hk _
    refine ExprPost.shift (fun k => ?_) (ih (.expr ap _ f t.posEnd) hf hv2)
    rw [ht.step k, hk]; exact Rel.of_eq (Int.zero_add _)
  · intro _ _ h; rw [htol] at h; cases h
  · intro _ _ _; trivial
  · intro n p _ hr
    have := ih (.pc (.group (.auto t.arg) false false) f t.pos) hf trivial hv0
    rw [hr] at this
    exact exprPost_finish f _ (PosOk.shift0 (fun k => Rel.of_eq (ht.skip k)) this)
  · intro _ hne
    cases hr : rec (.pc (.group (.auto t.arg) false false) f t.pos) with
    | ok res q => exact absurd hr (hne res q)
    | _ => trivial
  · intro _; trivial
  · intro hk
    refine exprPost_finish f _ (ht.leaf h0 (fun k _ => ?_))
    rw [hk]; rfl
  · intro _; trivial
  · intro _ _; trivial

theorem exprTok_post (htol : env.tol = false) (ih : ∀ t, Good ctx env.s t (rec t)) {ap : Bool} {sk : List Node}
    {f : PSFields} {pos : Nat} {t : Token} (hf : FInv f)
    (ht : (t.kind = .macro ∧ (t.arg = beginW ∨ t.arg = endW)) ∨ TokFacts ctx env.s pos t)
    (h0 : C ctx .verb env.s pos = 0) :
    ExprPost ctx env.s pos (exprTok env rec ap sk f t) := by
  -- outside the refused `\begin` / `\end` the token is one the reader's facts are about
  have tf : ¬ (t.kind = .macro ∧ IsBeginEnd t) → TokFacts ctx env.s pos t := fun hbe =>
    ht.resolve_left (fun h => hbe ⟨h.1, h.2⟩)
  apply exprTok_elim
  · intro _ _ h; rw [htol] at h; cases h
  · intro _ _ _; trivial
  · intro hk hb
    refine exprPost_finish f _ ((tf fun h => hb h.2).leaf h0 (fun k hk' => ?_))
    rw [hk]; cases k <;> first | rfl | exact absurd rfl hk'
  · intro hk
    refine exprPost_finish f _ ((tf fun h => nomatch hk.symm.trans h.1).leaf h0 (fun k _ => ?_))
    rw [hk]; rfl
  · intro hm _ _ _
    have ht := tf fun h => hm h.1
    exact ExprPost.shift (fun k => Rel.of_eq (ht.skip k)) (ih (.expr ap _ f t.pos) hf (ht.verb h0).1)
  · intro _ _ _ _ h; rw [htol] at h; cases h
  · intro _ _ _ _ _; trivial
  · intro hm _ _; exact exprOnTok_post htol ih hf (tf fun h => hm h.1) h0

theorem exprStep_good (htol : env.tol = false) (ih : ∀ t, Good ctx env.s t (rec t)) (ap : Bool) (sk : List Node)
    (f : PSFields) (pos : Nat) : Good ctx env.s (.expr ap sk f pos) (exprStep env rec ap sk f pos) := by
  intro hf h0
  apply exprStep_elim
  · intro _ _ _ _ _ _; trivial
  · intro h; rw [htol] at h; cases h
  · intro _; trivial
  · intro t hpk
    rw [htol] at hpk
    exact exprTok_post htol ih hf (tokFacts_of_peek0 hf.noEnvs hpk) h0

theorem rawMarker_post (htol : env.tol = false) {c : Char} {fl ap : Bool} {f : PSFields} {pos : Nat}
    (hf : FInv f) (h0 : C ctx .verb env.s pos = 0) :
    RawSat false (Post ctx env.s (.marker c fl ap) pos) (rawMarker env c fl ap f pos) := by
  have hnone : Post ctx env.s (.marker c fl ap) pos (.ok .none pos) := post_none_self (fun _ => rfl) h0
  apply rawMarker_elim
  · intro _ _; exact hnone
  · intro _ _ _ _ _ _; trivial
  · intro t hpk _ hk _
    rw [htol] at hpk
    refine (tokFacts_of_peek (ctx := ctx) hf hpk).leaf h0 (fun k _ => ?_)
    rcases hk with hk | hk <;> (rw [hk]; rfl)
  · intro _ _ _ _; exact hnone
  · intro _ _; exact hnone

end single

section main
variable {ctx : Ctx} {env : Env}

theorem step_good (htol : env.tol = false) (hS : ∀ p ∈ ctx.specials, argsOk p.2 = true) (hctx : env.ctx = ctx)
    {rec : Task → Ret} (ih : ∀ t, Good ctx env.s t (rec t)) :
    ∀ t, Good ctx env.s t (step env rec t) := by
  intro t
  cases t with
  | loop f stop child st => exact loopStep_good htol hS hctx ih f stop child st
  | expr ap sk f pos => exact exprStep_good htol ih ap sk f pos
  | pc p f pos =>
    intro hf hpre h0
    show RawSat env.tol (Post ctx env.s p pos) (rawParse env rec p f pos)
    rw [htol]
    cases p with
    | general stop require child => exact rawGeneral_post ih hf hpre h0
    | group d o a => exact rawGroup_post htol ih hf hpre h0
    | math d => exact rawMath_post htol ih hf h0
    | envBody n => exact rawEnvBody_post ih hf h0
    | macroCall t a => exact rawCall_post ih (fun _ => rfl) hf hpre h0
    | specialsCall t a => exact rawCall_post ih (fun _ => rfl) hf hpre h0
    | envCall t a bm => exact rawEnvCall_post ih hf hpre h0
    | arguments a => exact rawArguments_post ih hf hpre h0
    | expression ap => exact rawSat_strict.mpr (ih (.expr ap [] f pos) hf h0)
    | marker c fl ap => exact rawMarker_post htol hf h0
    | verbatim d => exact hpre.elim

theorem good_fuel (ctx : Ctx) (s : Str) : ∀ t, Good ctx s t .fuel := by
  intro t
  cases t with
  | pc p f pos => intro _ _ _; trivial
  | loop f stop child st => intro _ _ _; trivial
  | expr ap sk f pos => intro _ _; trivial

theorem run_good (htol : env.tol = false) (hS : ∀ p ∈ ctx.specials, argsOk p.2 = true) (hctx : env.ctx = ctx) :
    ∀ n t, Good ctx env.s t (run env n t) :=
  run_inv (good_fuel _ _) (fun _ => step_good htol hS hctx)

end main

/-- condition on the context: its specials are strings of plain characters (none of `\ % { } $`) whose argument
    specifications are made of non-verbatim standard slots -/
def ctxOk (ctx : Ctx) : Bool := ctx.specials.all (fun p => argsOk p.2 && p.1.all plainCh)

theorem ctxOk_specs {ctx : Ctx} (h : ctxOk ctx = true) : ∀ p ∈ ctx.specials, argsOk p.2 = true := by
  intro p hp
  have := List.all_eq_true.mp h p hp
  simp only [Bool.and_eq_true] at this
  exact this.1

theorem finv_start {ctx : Ctx} (h : ctxOk ctx = true) : FInv (startFields ctx) := by
  refine ⟨⟨rfl, rfl, rfl, rfl, rfl, rfl, rfl, rfl, rfl, rfl, ?_, ?_, ?_⟩, rfl⟩
  · intro pr hpr
    have : pr = (['{'], ['}']) := by simpa [startFields] using hpr
    exact Or.inl this
  · simp [startFields]
  · intro key hkey c hc
    have hkey : key ∈ ctx.specials.map (·.1) := hkey
    obtain ⟨p, hp, rfl⟩ := List.mem_map.mp hkey
    have := List.all_eq_true.mp h p hp
    simp only [Bool.and_eq_true] at this
    exact List.all_eq_true.mp this.2 c hc

/-- `s` contains no call of a macro or environment whose argument specification in `ctx` is not made of the
    non-verbatim standard slots (`\verb`, `verbatim`-like environments, `v` arguments), as the scanner reads `s` -/
def VerbFree (ctx : Ctx) (s : Str) : Prop := cnt ctx .verb .n s = 0

instance (ctx : Ctx) (s : Str) : Decidable (VerbFree ctx s) := by unfold VerbFree; infer_instance

def Balanced (ctx : Ctx) (k : Sym) (s : Str) : Prop := Rel k (cnt ctx k .n s) 0

/-- **Acceptance implies balance** (every context whose specials are plain, every input without verbatim constructs,
    every amount of fuel): if the strict parse of `s` succeeds then, outside comments and with `\x` read as one unit,
    `s` has as many `{` as `}`, an even number of `$`, as many `\(` as `\)`, `\[` as `\]`, and as many `\begin` as `\end`. -/
theorem accepted_balanced_run (ctx : Ctx) (hc : ctxOk ctx = true) (s : Str) (hv : VerbFree ctx s) (n : Nat)
    (res : Res) (pos : Nat)
    (hr : run { tol := false, ctx := ctx, s := s } n (topTask (startFields ctx)) = .ok res pos) :
    ∀ k, Balanced ctx k s := by
  have hf := finv_start hc
  have h0 : C ctx .verb s 0 = 0 := hv
  have := run_good (ctx := ctx) (env := { tol := false, ctx := ctx, s := s }) rfl (ctxOk_specs hc) rfl n
    (topTask (startFields ctx)) hf ⟨rfl, trivial⟩ h0
  rw [hr] at this
  have this : PosOk ctx s (fun k => parserW ctx k (.general .none true .same)) 0 pos := this
  have hpos : pos = s.length := by
    have h1 := C01_contract ctx s ['%'] n (topTask (startFields ctx)) ⟨rfl, delimsOk_of hf.toFInv0⟩ (Nat.zero_le _) trivial
    rw [hr] at h1
    obtain ⟨_, _, _, _, _, _, _, _, _, _, h2⟩ := h1
    exact (h2 rfl).2
  intro k
  have h2 : Rel k (C ctx k s 0) (parserW ctx k (.general .none true .same) + C ctx k s pos) := this.2 k
  have e1 : C ctx k s pos = 0 := by
    rw [hpos]; unfold C; rw [List.drop_length]; rfl
  have e2 : parserW ctx k (.general .none true .same) = 0 := rfl
  rw [e1, e2] at h2
  exact h2

theorem accepted_balanced (ctx : Ctx) (hc : ctxOk ctx = true) (s : Str) (hv : VerbFree ctx s) (res : Res) (pos : Nat)
    (hr : parseStrict ctx s = .ok res pos) : ∀ k, Balanced ctx k s :=
  accepted_balanced_run ctx hc s hv (fuelFor s) res pos hr

theorem startOk_startFields (ctx : Ctx) : StartOk ctx (startFields ctx) where
  hasCtx := rfl
  specials := rfl
  mathDelims := C02.delimsOk_start ctx
  groupDelims := by
    intro pr hpr
    rw [List.mem_singleton.mp (show pr ∈ [(['{'], ['}'])] from hpr)]
    exact ⟨rfl, rfl⟩
  comment := List.cons_ne_nil _ _
  normal := rfl

/-- **Unbalanced input is rejected with a parse error**: for a closed-world context with plain specials, an input
    without verbatim constructs that is unbalanced for some class is answered by a `LatexWalkerParseError`. -/
theorem unbalanced_rejected (ctx : Ctx) (hcl : ctx.Closed) (hc : ctxOk ctx = true) (s : Str) (hv : VerbFree ctx s)
    (k : Sym) (hk : ¬ Balanced ctx k s) : ∃ e, parseStrict ctx s = .perr e := by
  rcases C05_shape_strict ctx hcl s (startFields ctx) (startOk_startFields ctx) (fuelFor s) with
    ⟨p, e, ns, pos, h, _⟩ | ⟨e, h⟩ | h
  · exact absurd (accepted_balanced ctx hc s hv _ _ h k) hk
  · exact ⟨e, h⟩
  · exact absurd h (C06_no_fuel { tol := false, ctx := ctx, s := s } (startFields ctx) (C02.delimsOk_start ctx))

end C05Bal
end Pylx
