/-
  C03SRender — step 3 of the string-level statement of C03: the renderer model `Pylx.L2T` depends on a node tree only
  through its exact position-free tree `erase src ns`.

  `renderXNode` … are the functions of `Pylx.L2T`'s renderer block written over `XNode` (no positions, no parsing
  states, no source text; the slice of the source a formula or environment spans is the node's `verb` field).
  `agree_*`: the renderer model on a node tree equals the position-free renderer on its erasure (mutual induction
  over the tree, every function of the block).  `C03_render_erase_congr`: two node lists (over two sources) with the
  same erasure render to the same text, for every option set and all databases.
-/
import PylxProofs.C03SRound
namespace Pylx.L2T.C03S
open Pylx Pylx.L2T

/-- the renderer's environment without the source text -/
structure XE where
  opts : Opts
  db : TextDb
  ctx : Ctx
  lib : Lib

/-- the environment of the renderer model over the source `src` -/
def XE.at (E : XE) (src : Str) : Env := { opts := E.opts, db := E.db, ctx := E.ctx, lib := E.lib, src := src }

def isAbsentX : XArg → Bool
  | .absent => true
  | _ => false

/-- `_is_bare_macro_node(prev)` -/
def isBareX (E : XE) : Option XNode → Out Bool
  | some (.mac name _ args) =>
    match args with
    | none => if E.opts.repaired then .ok true else .crash "TypeError"
    | some [] => .ok true
    | some l =>
      let lg := legacyOf (((walkerSpec (E.at []) .mac name).map argspecOf).getD [])
      match lg.optIdx with
      | none => .ok false
      | some k =>
        match l[k]? with
        | none => .crash "IndexError"
        | some a => .ok (isAbsentX a && (l.drop lg.off).isEmpty)
  | _ => .ok false

def postSpaceOfX : Option XNode → Str
  | some (.mac _ post _) => post
  | _ => []

def preOfX (E : XE) (c : Sls) (prev : Option XNode) (n : XNode) : Out Str :=
  match isBareX E prev with
  | .crash k => .crash k
  | .ok b => .ok (if b && n.isChars && !c.mc then postSpaceOfX prev else [])

def isSpecialsNamedX (s : Str) : XNode → Bool
  | .specials c _ => c == s
  | _ => false

def isMacroNamedX (s : Str) : XNode → Bool
  | .mac n _ _ => n == s
  | _ => false

def absentAtX (l : List XArg) (k : Nat) : Bool :=
  match l[k]? with
  | some a => isAbsentX a
  | none => false

mutual
/-- `node_to_text` on a position-free node -/
def renderXNode (E : XE) (c : Sls) : XNode → R Str
  | .chars ch => R.pure (if !c.lc && (strip ch).isEmpty then [] else ch)
  | .comment cm post =>
    R.pure (
      if E.opts.keepComments then
        (if c.ac then '%' :: cm ++ (if post.isEmpty then [] else ['\n']) else '%' :: cm ++ post)
      else (if c.ac then [] else post))
  | .group o cl body =>
    R.bind (renderXBody E c body) fun t =>
      R.pure (if E.opts.keepBraced && (t.length : Int) ≥ E.opts.minLen then o ++ t ++ cl else t)
  | .mac name _ args =>
    let l := args.getD []
    let th : Thunks := {
      noArgd := args.isNone, n := l.length, absent := absentAtX l,
      each := argsEachOX E c args, single := fun k => singleAtOX E c k args, contents := fun k => contentsAtOX E c k args,
      body := R.pure [], bodyEq := R.pure [], bodyNone := true, matrix := R.pure [] }
    let sp := (lookupFirst name E.db.macros).getD ⟨true, true, .none⟩
    applySpec (E.at []) ⟨.mac, name, 0, 0⟩ th sp (argsCatOX E c args)
  | .env verb name args body =>
    let l := args.getD []
    let th : Thunks := {
      noArgd := args.isNone, n := l.length, absent := absentAtX l,
      each := argsEachOX E c args, single := fun k => singleAtOX E c k args, contents := fun k => contentsAtOX E c k args,
      body := renderXBody E c body, bodyEq := renderXBody E c.enterEq body, bodyNone := body.isNone,
      matrix := matrixBodyX E c body }
    let sp := (lookupFirst name E.db.envs).getD ⟨true, false, .none⟩
    applySpec (E.at verb) ⟨.env, name, 0, verb.length⟩ th sp (renderXBody E c body)
  | .specials ch args =>
    match lookupFirst ch E.db.specials with
    | none => R.pure ch
    | some sp =>
      let l := args.getD []
      let th : Thunks := {
        noArgd := args.isNone, n := l.length, absent := absentAtX l,
        each := argsEachOX E c args, single := fun k => singleAtOX E c k args, contents := fun k => contentsAtOX E c k args,
        body := R.pure [], bodyEq := R.pure [], bodyNone := true, matrix := R.pure [] }
      applySpec (E.at []) ⟨.specials, ch, 0, 0⟩ th sp (argsCatOX E c args)
  | .math verb display o cl body =>
    mathText (E.at verb) false display o cl 0 verb.length (renderXBody E c.enterEq body)
def renderXBody (E : XE) (c : Sls) : Option (List XNode) → R Str
  | none => R.pure []
  | some ns => renderXList E c none [] ns
def renderXList (E : XE) (c : Sls) (prev : Option XNode) (acc : Str) : List XNode → R Str
  | [] => R.pure acc
  | n :: ns =>
    R.bind (R.ofOut (preOfX E c prev n)) fun pre =>
      R.bind (renderXNode E c n) fun t =>
        renderXList E c (some n) (acc ++ pre ++ t) ns
def groupContentsX (E : XE) (c : Sls) : XArg → R Str
  | .absent => R.pure []
  | .list ns => renderXList E c none [] ns
  | .node (.group _ _ body) => renderXBody E c body
  | .node n => renderXNode E c n
def singleArgX (E : XE) (c : Sls) : XArg → R Str
  | .absent => R.pure []
  | .list _ => R.crash "AttributeError"
  | .node n => renderXNode E c n
def argsCatX (E : XE) (c : Sls) : List XArg → R Str
  | [] => R.pure []
  | a :: l => R.bind (groupContentsX E c a) fun t => R.bind (argsCatX E c l) fun r => R.pure (t ++ r)
def argsEachX (E : XE) (c : Sls) : List XArg → R (List Str)
  | [] => R.pure []
  | a :: l => R.bind (groupContentsX E c a) fun t => R.bind (argsEachX E c l) fun r => R.pure (t :: r)
def singleAtX (E : XE) (c : Sls) : Nat → List XArg → R Str
  | _, [] => R.crash "IndexError"
  | 0, a :: _ => singleArgX E c a
  | k + 1, _ :: l => singleAtX E c k l
def contentsAtX (E : XE) (c : Sls) : Nat → List XArg → R Str
  | _, [] => R.crash "IndexError"
  | 0, a :: _ => groupContentsX E c a
  | k + 1, _ :: l => contentsAtX E c k l
def argsCatOX (E : XE) (c : Sls) : Option (List XArg) → R Str
  | none => R.pure []
  | some l => argsCatX E c l
def argsEachOX (E : XE) (c : Sls) : Option (List XArg) → R (List Str)
  | none => R.pure []
  | some l => argsEachX E c l
def singleAtOX (E : XE) (c : Sls) (k : Nat) : Option (List XArg) → R Str
  | none => R.crash "IndexError"
  | some l => singleAtX E c k l
def contentsAtOX (E : XE) (c : Sls) (k : Nat) : Option (List XArg) → R Str
  | none => R.crash "IndexError"
  | some l => contentsAtX E c k l
def matrixBodyX (E : XE) (c : Sls) : Option (List XNode) → R (List (List Str))
  | none => R.pure [[]]
  | some ns => matrixLoopX E c none none [] [] ns
def matrixLoopX (E : XE) (c : Sls) (prev : Option XNode) (cell : Option Str) (row : List Str) (rows : List (List Str)) :
    List XNode → R (List (List Str))
  | [] => R.pure (rows ++ [closeCell cell row])
  | n :: ns =>
    if isSpecialsNamedX ['&'] n then matrixLoopX E c none none (closeCell cell row) rows ns
    else if isMacroNamedX ['\\'] n then matrixLoopX E c none none [] (rows ++ [closeCell cell row]) ns
    else
      R.bind (R.ofOut (preOfX E c prev n)) fun pre =>
        R.bind (renderXNode E c n) fun t =>
          matrixLoopX E c (some n) (some (cell.getD [] ++ pre ++ t)) row rows ns
end

/-- `nodelist_to_text` of a fresh converter object on a position-free node list -/
def renderX (E : XE) (nodes : List XNode) : Out Str :=
  if !E.db.shapeOk then .crash "unmodelled" else
  match renderXList E (parseSls E.opts.sls) none [] nodes {} with
  | .ok (t, _) => .ok t
  | .crash k => .crash k

/-! ### the helper functions agree -/

theorem eraseArgList_map (s : Str) (l : List Arg) : eraseArgList s l = l.map (eraseArg s) := by
  induction l with
  | nil => rfl
  | cons a l ih => simp only [eraseArgList, List.map_cons, ih]

theorem isAbsentX_erase (s : Str) (a : Arg) : isAbsentX (eraseArg s a) = isAbsent a := by
  cases a <;> rfl

theorem isChars_erase (s : Str) (n : Node) : (erase s n).isChars = isCharsNode n := by
  cases n <;> rfl

theorem postSpaceOfX_erase (s : Str) (prev : Option Node) : postSpaceOfX (prev.map (erase s)) = postSpaceOf prev := by
  cases prev with
  | none => rfl
  | some n => cases n <;> rfl

theorem isBareX_erase (E : XE) (s : Str) (prev : Option Node) : isBareX E (prev.map (erase s)) = isBare (E.at s) prev := by
  cases prev with
  | none => rfl
  | some n =>
    cases n with
    | mac p e ps name post args =>
      cases args with
      | none => rfl
      | some l =>
        cases l with
        | nil => rfl
        | cons a l =>
          simp only [Option.map_some, erase, eraseArgs, eraseArgList, isBareX, isBare]
          have hw : walkerSpec (E.at []) Kind.mac name = walkerSpec (E.at s) Kind.mac name := rfl
          rw [hw]
          generalize legacyOf (Option.getD (Option.map argspecOf (walkerSpec (E.at s) Kind.mac name)) []) = lg
          cases lg.optIdx with
          | none => rfl
          | some k =>
            simp only
            have e1 : (eraseArg s a :: eraseArgList s l) = (a :: l).map (eraseArg s) := by
              rw [List.map_cons, eraseArgList_map]
            rw [e1, List.getElem?_map]
            cases (a :: l)[k]? with
            | none => rfl
            | some b =>
              simp only [Option.map_some, isAbsentX_erase, ← List.map_drop, List.isEmpty_map]
    | _ => rfl

theorem preOfX_erase (E : XE) (s : Str) (c : Sls) (prev : Option Node) (n : Node) :
    preOfX E c (prev.map (erase s)) (erase s n) = preOf (E.at s) c prev n := by
  unfold preOfX preOf
  rw [isBareX_erase, isChars_erase, postSpaceOfX_erase]
  rfl

theorem absentAtX_erase (s : Str) (l : List Arg) : absentAtX (l.map (eraseArg s)) = absentAt l := by
  funext k
  unfold absentAtX absentAt
  rw [List.getElem?_map]
  cases l[k]? with
  | none => rfl
  | some a => simp only [Option.map_some, isAbsentX_erase]

theorem isSpecialsNamedX_erase (s : Str) (x : Str) (n : Node) : isSpecialsNamedX x (erase s n) = isSpecialsNamed x n := by
  cases n <;> rfl

theorem isMacroNamedX_erase (s : Str) (x : Str) (n : Node) : isMacroNamedX x (erase s n) = isMacroNamed x n := by
  cases n <;> rfl

/-! ### positions matter only through the source slice (and only for `math_mode='verbatim'`) -/

theorem mathText_src (E : XE) (s s' : Str) (isEnv display : Bool) (d0 d1 : Str) (p e p' e' : Nat) (b : R Str)
    (h : slice s p e = slice s' p' e') :
    mathText (E.at s) isEnv display d0 d1 p e b = mathText (E.at s') isEnv display d0 d1 p' e' b := by
  simp only [mathText, XE.at, h]

theorem slice_whole (v : Str) : slice v 0 v.length = v := by
  unfold slice
  simp

theorem applyCallable_src (E : XE) (s s' : Str) (k : Kind) (name : Str) (p e p' e' : Nat) (th : Thunks) (r : Repl)
    (h : k = .env → slice s p e = slice s' p' e') :
    applyCallable (E.at s) ⟨k, name, p, e⟩ th r = applyCallable (E.at s') ⟨k, name, p', e'⟩ th r := by
  cases r with
  | eqEnv =>
    unfold applyCallable
    cases k with
    | env => exact mathText_src E s s' true false _ _ p e p' e' _ (h rfl)
    | mac => rfl
    | specials => rfl
  | _ => rfl

theorem applySpec_src (E : XE) (s s' : Str) (k : Kind) (name : Str) (p e p' e' : Nat) (th : Thunks) (sp : TSpec) (d : R Str)
    (h : k = .env → slice s p e = slice s' p' e') :
    applySpec (E.at s) ⟨k, name, p, e⟩ th sp d = applySpec (E.at s') ⟨k, name, p', e'⟩ th sp d := by
  unfold applySpec
  have hl : (E.at s).lib = (E.at s').lib := rfl
  rw [hl]
  split
  · cases hr : sp.repl with
    | lit x => rfl
    | today => rfl
    | fmt raw segs => rfl
    | badFmt x => rfl
    | unknownCallable => rfl
    | _ => exact applyCallable_src E s s' k name p e p' e' th _ h
  · rfl

/-! ### the renderer on a tree is the position-free renderer on its erasure -/

/-- the thunks built from a node's arguments are those built from the erased arguments as soon as the three accessors
    agree -/
theorem argThunks_erase (E : XE) (s : Str) (c : Sls) (args : Option (List Arg))
    (h1 : argsEachO (E.at s) c args = argsEachOX E c (eraseArgs s args))
    (h2 : ∀ k, singleAtO (E.at s) c k args = singleAtOX E c k (eraseArgs s args))
    (h3 : ∀ k, contentsAtO (E.at s) c k args = contentsAtOX E c k (eraseArgs s args))
    (body bodyEq : R Str) (bn : Bool) (m : R (List (List Str))) :
    argThunks (E.at s) c args body bodyEq bn m =
      { noArgd := (eraseArgs s args).isNone, n := ((eraseArgs s args).getD []).length,
        absent := absentAtX ((eraseArgs s args).getD []), each := argsEachOX E c (eraseArgs s args),
        single := fun k => singleAtOX E c k (eraseArgs s args), contents := fun k => contentsAtOX E c k (eraseArgs s args),
        body := body, bodyEq := bodyEq, bodyNone := bn, matrix := m } := by
  rw [argThunks, h1, funext h2, funext h3]
  cases args with
  | none => rfl
  | some l => simp only [eraseArgs, Option.isNone_some, Option.getD_some, eraseArgList_map, absentAtX_erase, List.length_map]

mutual
theorem agree_node (E : XE) (s : Str) : ∀ (n : Node) (c : Sls), renderNode (E.at s) c n = renderXNode E c (erase s n)
  | .chars _ _ _ ch, c => by rw [renderNode, erase, renderXNode]
  | .comment _ _ _ cm post, c => by rw [renderNode, erase, renderXNode]; rfl
  | .group _ _ _ o cl body, c => by
    rw [renderNode, erase, renderXNode]
    exact R.bind_congr (agree_body E s body c) (fun _ => rfl)
  | .mac p e _ name post args, c => by
    rw [renderNode_mac, erase, renderXNode, macThunks, agree_argsCatO E s args c,
      argThunks_erase E s c args (agree_argsEachO E s args c) (fun k => agree_singleAtO E s args k c)
        (fun k => agree_contentsAtO E s args k c)]
    exact applySpec_src E s [] .mac name p e 0 0 _ _ _ (fun h => nomatch h)
  | .env p e _ name args body, c => by
    have hn : body.isNone = (eraseBody s body).isNone := by cases body <;> rfl
    rw [renderNode_env, erase, renderXNode, envThunks, agree_body E s body c, agree_body E s body c.enterEq,
      agree_matrixBody E s body c, hn,
      argThunks_erase E s c args (agree_argsEachO E s args c) (fun k => agree_singleAtO E s args k c)
        (fun k => agree_contentsAtO E s args k c)]
    exact applySpec_src E s (slice s p e) .env name p e 0 _ _ _ _ (fun _ => (slice_whole _).symm)
  | .specials p e _ ch args, c => by
    rw [renderNode_specials, erase, renderXNode, show (E.at s).db = E.db from rfl]
    cases lookupFirst ch E.db.specials with
    | none => rfl
    | some sp =>
      dsimp only
      rw [macThunks, agree_argsCatO E s args c,
        argThunks_erase E s c args (agree_argsEachO E s args c) (fun k => agree_singleAtO E s args k c)
          (fun k => agree_contentsAtO E s args k c)]
      exact applySpec_src E s [] .specials ch p e 0 0 _ _ _ (fun h => nomatch h)
  | .math p e _ display o cl body, c => by
    rw [renderNode, erase, renderXNode, agree_body E s body c.enterEq]
    exact mathText_src E s (slice s p e) false display o cl p e 0 _ _ (slice_whole _).symm
theorem agree_body (E : XE) (s : Str) : ∀ (b : Option (List Node)) (c : Sls),
    renderBody (E.at s) c b = renderXBody E c (eraseBody s b)
  | none, c => by rw [renderBody, eraseBody, renderXBody]
  | some ns, c => by
    rw [renderBody, eraseBody, renderXBody]
    exact agree_list E s ns c none []
theorem agree_list (E : XE) (s : Str) : ∀ (ns : List Node) (c : Sls) (prev : Option Node) (acc : Str),
    renderList (E.at s) c prev acc ns = renderXList E c (prev.map (erase s)) acc (eraseNodes s ns)
  | [], c, prev, acc => by rw [renderList, eraseNodes, renderXList]
  | n :: ns, c, prev, acc => by
    rw [renderList, eraseNodes, renderXList, preOfX_erase]
    refine R.bind_congr rfl (fun pre => R.bind_congr (agree_node E s n c) (fun t => ?_))
    exact agree_list E s ns c (some n) _
theorem agree_contents (E : XE) (s : Str) : ∀ (a : Arg) (c : Sls), groupContents (E.at s) c a = groupContentsX E c (eraseArg s a)
  | .absent, c => by rw [groupContents, eraseArg, groupContentsX]
  | .list _ _ ns, c => by
    rw [groupContents, eraseArg, groupContentsX]
    exact agree_list E s ns c none []
  | .node n, c => by
    -- a group loses its braces; any other node is rendered as it is
    have h := agree_node E s n c
    cases n with
    | group p e ps o cl body => exact agree_body E s body c
    | _ => exact h
theorem agree_single (E : XE) (s : Str) : ∀ (a : Arg) (c : Sls), singleArg (E.at s) c a = singleArgX E c (eraseArg s a)
  | .absent, c => by rw [singleArg, eraseArg, singleArgX]
  | .list _ _ ns, c => by rw [singleArg, eraseArg, singleArgX]
  | .node n, c => by rw [singleArg, eraseArg, singleArgX]; exact agree_node E s n c
theorem agree_argsCat (E : XE) (s : Str) : ∀ (l : List Arg) (c : Sls), argsCat (E.at s) c l = argsCatX E c (eraseArgList s l)
  | [], c => by rw [argsCat, eraseArgList, argsCatX]
  | a :: l, c => by
    rw [argsCat, eraseArgList, argsCatX]
    exact R.bind_congr (agree_contents E s a c) (fun t => R.bind_congr (agree_argsCat E s l c) (fun _ => rfl))
theorem agree_argsEach (E : XE) (s : Str) : ∀ (l : List Arg) (c : Sls), argsEach (E.at s) c l = argsEachX E c (eraseArgList s l)
  | [], c => by rw [argsEach, eraseArgList, argsEachX]
  | a :: l, c => by
    rw [argsEach, eraseArgList, argsEachX]
    exact R.bind_congr (agree_contents E s a c) (fun t => R.bind_congr (agree_argsEach E s l c) (fun _ => rfl))
theorem agree_singleAt (E : XE) (s : Str) : ∀ (l : List Arg) (k : Nat) (c : Sls),
    singleAt (E.at s) c k l = singleAtX E c k (eraseArgList s l)
  | [], k, c => by rw [singleAt, eraseArgList, singleAtX]
  | a :: l, 0, c => by rw [singleAt, eraseArgList, singleAtX]; exact agree_single E s a c
  | a :: l, k + 1, c => by rw [singleAt, eraseArgList, singleAtX]; exact agree_singleAt E s l k c
theorem agree_contentsAt (E : XE) (s : Str) : ∀ (l : List Arg) (k : Nat) (c : Sls),
    contentsAt (E.at s) c k l = contentsAtX E c k (eraseArgList s l)
  | [], k, c => by rw [contentsAt, eraseArgList, contentsAtX]
  | a :: l, 0, c => by rw [contentsAt, eraseArgList, contentsAtX]; exact agree_contents E s a c
  | a :: l, k + 1, c => by rw [contentsAt, eraseArgList, contentsAtX]; exact agree_contentsAt E s l k c
theorem agree_argsCatO (E : XE) (s : Str) : ∀ (a : Option (List Arg)) (c : Sls), argsCatO (E.at s) c a = argsCatOX E c (eraseArgs s a)
  | none, c => by rw [argsCatO, eraseArgs, argsCatOX]
  | some l, c => by rw [argsCatO, eraseArgs, argsCatOX]; exact agree_argsCat E s l c
theorem agree_argsEachO (E : XE) (s : Str) : ∀ (a : Option (List Arg)) (c : Sls), argsEachO (E.at s) c a = argsEachOX E c (eraseArgs s a)
  | none, c => by rw [argsEachO, eraseArgs, argsEachOX]
  | some l, c => by rw [argsEachO, eraseArgs, argsEachOX]; exact agree_argsEach E s l c
theorem agree_singleAtO (E : XE) (s : Str) : ∀ (a : Option (List Arg)) (k : Nat) (c : Sls),
    singleAtO (E.at s) c k a = singleAtOX E c k (eraseArgs s a)
  | none, k, c => by rw [singleAtO, eraseArgs, singleAtOX]
  | some l, k, c => by rw [singleAtO, eraseArgs, singleAtOX]; exact agree_singleAt E s l k c
theorem agree_contentsAtO (E : XE) (s : Str) : ∀ (a : Option (List Arg)) (k : Nat) (c : Sls),
    contentsAtO (E.at s) c k a = contentsAtOX E c k (eraseArgs s a)
  | none, k, c => by rw [contentsAtO, eraseArgs, contentsAtOX]
  | some l, k, c => by rw [contentsAtO, eraseArgs, contentsAtOX]; exact agree_contentsAt E s l k c
theorem agree_matrixBody (E : XE) (s : Str) : ∀ (b : Option (List Node)) (c : Sls),
    matrixBody (E.at s) c b = matrixBodyX E c (eraseBody s b)
  | none, c => by rw [matrixBody, eraseBody, matrixBodyX]
  | some ns, c => by
    rw [matrixBody, eraseBody, matrixBodyX]
    exact agree_matrixLoop E s ns c none none [] []
theorem agree_matrixLoop (E : XE) (s : Str) : ∀ (ns : List Node) (c : Sls) (prev : Option Node) (cell : Option Str)
    (row : List Str) (rows : List (List Str)),
    matrixLoop (E.at s) c prev cell row rows ns = matrixLoopX E c (prev.map (erase s)) cell row rows (eraseNodes s ns)
  | [], c, prev, cell, row, rows => by rw [matrixLoop, eraseNodes, matrixLoopX]
  | n :: ns, c, prev, cell, row, rows => by
    rw [matrixLoop, eraseNodes, matrixLoopX, isSpecialsNamedX_erase, isMacroNamedX_erase, preOfX_erase]
    split
    · exact agree_matrixLoop E s ns c none none _ rows
    · split
      · exact agree_matrixLoop E s ns c none none [] _
      · refine R.bind_congr rfl (fun pre => R.bind_congr (agree_node E s n c) (fun t => ?_))
        exact agree_matrixLoop E s ns c (some n) _ row rows
end

/-- `render` (a fresh converter object on a node list over the source `s`) is the position-free renderer on the
    erasure of the list -/
theorem render_eq_renderX (opts : Opts) (db : TextDb) (ctx : Ctx) (lib : Lib) (s : Str) (ns : List Node) :
    render opts db ctx lib s ns = renderX ⟨opts, db, ctx, lib⟩ (eraseNodes s ns) := by
  unfold render renderX
  rw [show renderList ⟨opts, db, ctx, lib, s⟩ (parseSls opts.sls) none [] ns = _ from
    agree_list ⟨opts, db, ctx, lib⟩ s ns _ none []]
  rfl

/-- **C03, step 3 (position independence of the renderer).**  For every option set, all databases and library
    oracles: two node lists — possibly parsed from two different sources — with the same exact position-free tree
    (`erase`: characters of all chars nodes, post-spaces, comments, delimiters, argument lists with their `None` slots,
    source slices of formulas and environments) render to the same text (or raise the same exception). -/
theorem C03_render_erase_congr (opts : Opts) (db : TextDb) (ctx : Ctx) (lib : Lib) (s s' : Str) (ns ns' : List Node)
    (h : eraseNodes s ns = eraseNodes s' ns') :
    render opts db ctx lib s ns = render opts db ctx lib s' ns' := by
  rw [render_eq_renderX, render_eq_renderX, h]

/-- in particular `latex_to_text` of the source of a core document is the position-free renderer on the exact tree the
    document was written with (steps 1–3 combined) -/
theorem latexToText_exact (opts : Opts) (db : TextDb) (ctx : Ctx) (lib : Lib) (d : List Doc.Item) (h : Doc.Core ctx d = true) :
    latexToTextWith opts db ctx lib (Doc.unparse d) = renderX ⟨opts, db, ctx, lib⟩ (exactOf ctx d) := by
  obtain ⟨a, b, ns, hp, hx⟩ := C03_exact_roundtrip ctx d h
  unfold latexToTextWith
  rw [hp]
  simp only
  rw [render_eq_renderX, hx]

/-! ### non-vacuity -/

/-- the same tree at two different positions in two different sources: `$x$` parsed from `$x$` and from `ab$x$` -/
example (opts : Opts) (lib : Lib) :
    render opts Gen.defaultTextDb Gen.defaultCtx lib "$x$".toList [.math 0 3 {} false ['$'] ['$'] (some [.chars 1 2 {} ['x']])] =
    render opts Gen.defaultTextDb Gen.defaultCtx lib "ab$x$".toList
      [.math 2 5 { inMath := true } false ['$'] ['$'] (some [.chars 3 4 { inMath := true } ['x']])] :=
  C03_render_erase_congr opts _ _ lib _ _ _ _ (by rfl)

/-- **positions cannot be forgotten altogether**: under `math_mode='verbatim'` a formula renders as the slice of the
    source it spans, so two trees that differ only in positions render differently (`$x$` read at `[0,3)` and at `[3,6)`
    of `$x$$y$`) — which is why `erase` keeps the source slice of formulas and environments -/
theorem C03_render_positions_matter :
    render { mathMode := .verbatim } Gen.defaultTextDb Gen.defaultCtx C03.idLib "$x$$y$".toList
        [.math 0 3 {} false ['$'] ['$'] (some [.chars 1 2 {} ['x']])] = .ok "$x$".toList ∧
    render { mathMode := .verbatim } Gen.defaultTextDb Gen.defaultCtx C03.idLib "$x$$y$".toList
        [.math 3 6 {} false ['$'] ['$'] (some [.chars 1 2 {} ['x']])] = .ok "$y$".toList :=
  ⟨C12.ok_of_isOkText (by decide +kernel), C12.ok_of_isOkText (by decide +kernel)⟩

#print axioms C03_render_erase_congr
#print axioms latexToText_exact

end Pylx.L2T.C03S
