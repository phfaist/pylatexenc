/-
  C06 (totality): the shape of the tolerant result from C05, termination from C06.
-/
import PylxProofs.C05
import PylxProofs.C06
namespace Pylx

/-- the tolerant parse returns a node list ending inside the input: the shape from C05, fuel exhaustion excluded
    by `C06_no_fuel` -/
theorem C06_total_list (ctx : Ctx) (hc : ctx.Closed) (s : Str) (f : PSFields) (hf : StartOk' ctx f) :
    ∃ p e ns pos, parseTop { tol := true, ctx := ctx, s := s } f = .ok (.list p e ns) pos ∧ pos ≤ s.length :=
  (C05_tolerant_total ctx hc s f hf (fuelFor s)).resolve_right
    (C06_no_fuel { tol := true, ctx := ctx, s := s } f hf.mathDelims)

/-- **C06 (totality).**  For every closed-world context, every input string and every start state of the walker
    (`StartOk'`: the context's specials, non-empty math delimiters, macros enabled or environments disabled — which
    the walker's default state satisfies), tolerant parsing with the model's own fuel returns a result: no parse
    error, no other exception, no fuel exhaustion. -/
theorem C06_total (ctx : Ctx) (hc : ctx.Closed) (s : Str) (f : PSFields) (hf : StartOk' ctx f) :
    ∃ r pos, parseTop { tol := true, ctx := ctx, s := s } f = .ok r pos := by
  obtain ⟨p, e, ns, pos, h, _⟩ := C06_total_list ctx hc s f hf
  exact ⟨_, pos, h⟩

/-- the default state of the default context satisfies the hypotheses -/
example : StartOk' Gen.defaultCtx { specials := Gen.defaultCtx.specials.map (·.1) } :=
  { hasCtx := rfl, specials := rfl, mathDelims := by decide, groupDelims := by decide,
    comment := by decide, normal := rfl, esc := Or.inl rfl }

end Pylx
