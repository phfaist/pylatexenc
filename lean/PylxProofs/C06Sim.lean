/-
  C06Sim — two runs of the parser model on the same input with the same context, the second with at least as
  much fuel and at least as tolerant as the first: the second returns what the first returned, for every result
  of the first that is settled (`Settled`).  In the same mode that is every result but `.fuel`; beside a strict
  run it is what lies on a path to success, because the tolerant flag is consulted only where an error is raised.

  * `run_mono`  (same mode, more fuel): more fuel never changes a result that is not `.fuel`;
  * `C06_agree` (same fuel, strict and tolerant): whenever the strict parser succeeds, the tolerant parser
    computes the identical result.
-/
import PylxProofs.StepLemmas
namespace Pylx

/-- the results of the first run that bind the second; `same`: the two runs count as having the same mode -/
def Settled (same : Prop) : Ret → Prop
  | .ok _ _ => True
  | .loopEnd e => same ∨ e.err = none
  | .perr _ => same
  | .crash _ => same
  | .fuel => False

def SettledRaw (same : Prop) : Raw → Prop
  | .eos _ => True
  | .ret r => Settled same r

def Follows (same : Prop) (a b : Ret) : Prop := Settled same a → b = a
def FollowsRaw (same : Prop) (a b : Raw) : Prop := SettledRaw same a → b = a

/-- the second mode is the first, or the first is strict and errors do not count -/
def Modes (same : Prop) (tol tol' : Bool) : Prop := same ∧ tol' = tol ∨ ¬ same ∧ tol = false

section follows
variable {same : Prop} {tol tol' : Bool} {ctx : Ctx} {s : Str} {rec1 rec2 : Task → Ret}
  {f : PSFields} {stop : StopTok} {child : ChildPS} {st : LoopSt} {t : Token} {pos : Nat}

theorem Follows.refl (a : Ret) : Follows same a a := fun _ => rfl
theorem FollowsRaw.refl (a : Raw) : FollowsRaw same a a := fun _ => rfl
theorem FollowsRaw.ret {a b : Ret} (h : Follows same a b) : FollowsRaw same (.ret a) (.ret b) :=
  fun g => congrArg Raw.ret (h g)

theorem settled_finish_err {tk : Option Token} {e : PErr}
    (h : Settled same (loopFinish f st tk (some e))) : same := by
  rw [loopFinish_eq] at h
  exact h.elim id (fun h => nomatch h)

/-- where the model asks for the mode, the strict branch `b` is an error -/
theorem Follows.ite_tol (hm : Modes same tol tol') {a a' b : Ret} (ha : Follows same a a')
    (hb : Settled same b → same) : Follows same (if tol then a else b) (if tol' then a' else b) := by
  rcases hm with ⟨_, rfl⟩ | ⟨hns, rfl⟩
  · split
    · exact ha
    · exact Follows.refl b
  · exact fun g => absurd (hb g) hns

theorem peekTok_modes (hm : Modes same tol tol') (ps : PState) (s : Str) (p : Nat) :
    peekTok tol' ps s p = peekTok tol ps s p ∨ ¬ same ∧ ∃ w ep t r, peekTok tol ps s p = .err w ep t r := by
  rcases hm with ⟨_, rfl⟩ | ⟨hns, rfl⟩
  · exact Or.inl rfl
  · unfold peekTok
    cases peekImpl ps s p with
    | tok t => exact Or.inl rfl
    | eos fs => exact Or.inl rfl
    | err w ep t r => exact Or.inr ⟨hns, w, ep, t, r, rfl⟩

theorem afterChild_follows (hrec : ∀ t, Follows same (rec1 t) (rec2 t)) {noneOk : Bool} {r1 r2 : Ret}
    (h : Follows same r1 r2) :
    Follows same (afterChild rec1 f stop child st noneOk r1) (afterChild rec2 f stop child st noneOk r2) := by
  cases r1 with
  | ok res p =>
    rw [h trivial]
    cases res with
    | node n => exact hrec _
    | none =>
      unfold afterChild
      cases noneOk
      · exact Follows.refl _
      · exact hrec _
    | list _ _ _ => exact Follows.refl _
    | args _ _ _ => exact Follows.refl _
  | perr e => intro g; rw [h (settled_finish_err g)]; rfl
  | loopEnd e => intro g; rw [h (Or.inl g)]; rfl
  | crash k => intro g; rw [h g]; rfl
  | fuel => intro g; cases g

theorem loopDispatch_follows (hm : Modes same tol tol') (hrec : ∀ t, Follows same (rec1 t) (rec2 t)) :
    Follows same (loopDispatch ⟨tol, ctx, s⟩ rec1 f stop child st t)
      (loopDispatch ⟨tol', ctx, s⟩ rec2 f stop child st t) := by
  unfold loopDispatch
  cases t.kind <;> dsimp only
  case braceClose | endEnv | char => exact Follows.refl _
  case comment => exact hrec _
  case braceOpen => exact afterChild_follows hrec (hrec _)
  case «macro» =>
    cases ctx.macroSpec t.arg <;> dsimp only
    · exact Follows.ite_tol hm (hrec _) settled_finish_err
    · exact afterChild_follows hrec (hrec _)
  case beginEnv =>
    cases ctx.envSpec t.arg <;> dsimp only
    · exact Follows.ite_tol hm (hrec _) settled_finish_err
    · exact afterChild_follows hrec (hrec _)
  case specials =>
    cases lookupFirst t.arg ctx.specials <;> dsimp only
    · exact Follows.refl _
    · exact afterChild_follows hrec (hrec _)
  case mathInline | mathDisplay =>
    split
    · exact afterChild_follows hrec (hrec _)
    · exact Follows.refl _

theorem loopRead_modes (hm : Modes same tol tol') (f : PSFields) (st : LoopSt) :
    loopRead ⟨tol', ctx, s⟩ f st = loopRead ⟨tol, ctx, s⟩ f st ∨
      ¬ same ∧ ∃ e, loopRead ⟨tol, ctx, s⟩ f st = .inr (loopFinish f st none (some e)) := by
  unfold loopRead
  dsimp only
  rcases peekTok_modes hm (mkPS f) s st.pos with h | ⟨hns, w, ep, t, r, h⟩
  · rw [h]; exact Or.inl rfl
  · rw [h]; exact Or.inr ⟨hns, _, rfl⟩

theorem loopStep_follows (hm : Modes same tol tol') (hrec : ∀ t, Follows same (rec1 t) (rec2 t)) :
    Follows same (loopStep ⟨tol, ctx, s⟩ rec1 f stop child st) (loopStep ⟨tol', ctx, s⟩ rec2 f stop child st) := by
  unfold loopStep
  rcases loopRead_modes hm f st with h | ⟨hns, e, h⟩
  · rw [h]
    cases loopRead ⟨tol, ctx, s⟩ f st with
    | inr r => exact Follows.refl _
    | inl t =>
      dsimp only
      split
      · exact Follows.refl _
      · split
        · exact hrec _
        · exact loopDispatch_follows hm hrec
  · rw [h]; exact fun g => absurd (settled_finish_err g) hns

theorem retOfLoop_follows {r1 r2 : Ret} (h : Follows same r1 r2) {k : LoopEnd → Raw}
    (hk : ∀ e, SettledRaw same (k e) → same ∨ e.err = none) : FollowsRaw same (retOfLoop r1 k) (retOfLoop r2 k) := by
  cases r1 with
  | loopEnd e => intro g; rw [h (hk e g)]
  | ok res p => intro g; rw [h trivial]
  | perr e => intro g; rw [h g]
  | crash c => intro g; rw [h g]
  | fuel => intro g; cases g

theorem rawGeneral_follows (hrec : ∀ t, Follows same (rec1 t) (rec2 t)) {require : Bool} :
    FollowsRaw same (rawGeneral rec1 stop require child f pos) (rawGeneral rec2 stop require child f pos) := by
  unfold rawGeneral
  refine retOfLoop_follows (hrec _) (fun e g => ?_)
  cases he : e.err with
  | none => exact Or.inr rfl
  | some pe => rw [he] at g; exact Or.inl g

theorem bindOk_follows {r1 r2 : Ret} (h : Follows same r1 r2) {k1 k2 : Res → Nat → Raw}
    (hk : ∀ res p, FollowsRaw same (k1 res p) (k2 res p)) : FollowsRaw same (bindOk r1 k1) (bindOk r2 k2) := by
  cases r1 with
  | ok res p => rw [h trivial]; exact hk res p
  | _ => intro g; rw [h g]; rfl

theorem rawGroupTok_follows (hrec : ∀ t, Follows same (rec1 t) (rec2 t)) {delims : GroupDelims}
    {optional allowPre : Bool} {g : PSFields} :
    FollowsRaw same (rawGroupTok rec1 delims optional allowPre f g t)
      (rawGroupTok rec2 delims optional allowPre f g t) := by
  unfold rawGroupTok
  split
  · cases groupCloser delims g <;> dsimp only
    · exact FollowsRaw.refl _
    · exact bindOk_follows (hrec _) (fun _ _ => FollowsRaw.refl _)
  · exact FollowsRaw.refl _

theorem rawGroup_follows (hm : Modes same tol tol') (hrec : ∀ t, Follows same (rec1 t) (rec2 t))
    {delims : GroupDelims} {optional allowPre : Bool} :
    FollowsRaw same (rawGroup ⟨tol, ctx, s⟩ rec1 delims optional allowPre f pos)
      (rawGroup ⟨tol', ctx, s⟩ rec2 delims optional allowPre f pos) := by
  unfold rawGroup
  cases groupState delims f with
  | none => exact FollowsRaw.refl _
  | some g =>
    dsimp only
    rcases peekTok_modes hm (mkPS g) s pos with h | ⟨hns, w, ep, t, r, h⟩
    · rw [h]
      cases peekTok tol (mkPS g) s pos <;> dsimp only
      · exact rawGroupTok_follows hrec
      · exact FollowsRaw.refl _
      · exact FollowsRaw.refl _
    · rw [h]; exact fun g => absurd g hns

theorem rawMathTok_follows (hrec : ∀ t, Follows same (rec1 t) (rec2 t)) {delim : Str} :
    FollowsRaw same (rawMathTok rec1 delim f t) (rawMathTok rec2 delim f t) := by
  unfold rawMathTok
  split
  · cases (mkPS (mathFields f t.arg)).t.expectClose <;> dsimp only
    · exact FollowsRaw.refl _
    · exact bindOk_follows (hrec _) (fun _ _ => FollowsRaw.refl _)
  · exact FollowsRaw.refl _

theorem rawMath_follows (hm : Modes same tol tol') (hrec : ∀ t, Follows same (rec1 t) (rec2 t))
    {delim : Str} :
    FollowsRaw same (rawMath ⟨tol, ctx, s⟩ rec1 delim f pos) (rawMath ⟨tol', ctx, s⟩ rec2 delim f pos) := by
  unfold rawMath
  dsimp only
  rcases peekTok_modes hm (mkPS f) s pos with h | ⟨hns, w, ep, t, r, h⟩
  · rw [h]
    cases peekTok tol (mkPS f) s pos <;> dsimp only
    · exact rawMathTok_follows hrec
    · exact FollowsRaw.refl _
    · exact FollowsRaw.refl _
  · rw [h]; exact fun g => absurd g hns

/-- the legacy verbatim parsers read the input only: for them the two environments are the same -/
theorem rawLegacyVerbEnv_follows (hrec : ∀ t, Follows same (rec1 t) (rec2 t)) {name : Str} {optArg : Bool} :
    FollowsRaw same (rawLegacyVerbEnv ⟨tol, ctx, s⟩ rec1 name optArg f pos)
      (rawLegacyVerbEnv ⟨tol', ctx, s⟩ rec2 name optArg f pos) := by
  unfold rawLegacyVerbEnv
  dsimp only
  split
  · exact FollowsRaw.refl _
  · split
    · exact FollowsRaw.refl _
    · exact bindOk_follows (hrec _) (fun _ _ => FollowsRaw.refl _)

theorem argsLoop_follows (hm : Modes same tol tol') (hrec : ∀ t, Follows same (rec1 t) (rec2 t)) (f : PSFields) :
    ∀ (l : List ArgSpec) (acc : List Arg) (pos : Nat),
      Follows same (argsLoop ⟨tol, ctx, s⟩ rec1 f l acc pos) (argsLoop ⟨tol', ctx, s⟩ rec2 f l acc pos)
  | [], acc, pos => by rw [argsLoop_nil, argsLoop_nil]; exact Follows.refl _
  | a :: rest, acc, pos => by
    unfold argsLoop
    dsimp only
    rcases peekTok_modes hm (mkPS f) s pos with h | ⟨hns, w, ep, t, r, h⟩
    · rw [h]
      split
      · exact Follows.refl _
      · have h2 := hrec (.pc (argParser a.kind) (applyDelta f a.delta) pos)
        generalize rec1 (.pc (argParser a.kind) (applyDelta f a.delta) pos) = r1 at h2 ⊢
        cases r1 with
        | ok res p => rw [h2 trivial]; exact argsLoop_follows hm hrec f rest _ p
        | _ => intro g; rw [h2 g]
    · rw [h]; exact fun g => absurd g hns

theorem exprOnTok_follows (hm : Modes same tol tol') (hrec : ∀ t, Follows same (rec1 t) (rec2 t))
    {allowPre : Bool} {skipped : List Node} :
    Follows same (exprOnTok ⟨tol, ctx, s⟩ rec1 allowPre skipped f t)
      (exprOnTok ⟨tol', ctx, s⟩ rec2 allowPre skipped f t) := by
  unfold exprOnTok
  cases t.kind <;> dsimp only
  case comment =>
    split
    · exact hrec _
    · exact Follows.ite_tol hm (hrec _) id
  case braceOpen =>
    have h2 := hrec (.pc (.group (.auto t.arg) false false) f t.pos)
    generalize rec1 (.pc (.group (.auto t.arg) false false) f t.pos) = r1 at h2 ⊢
    cases r1 with
    | ok res p => rw [h2 trivial]; exact Follows.refl _
    | _ => intro g; rw [h2 g]
  all_goals exact Follows.refl _

theorem exprTok_follows (hm : Modes same tol tol') (hrec : ∀ t, Follows same (rec1 t) (rec2 t))
    {allowPre : Bool} {skipped : List Node} :
    Follows same (exprTok ⟨tol, ctx, s⟩ rec1 allowPre skipped f t)
      (exprTok ⟨tol', ctx, s⟩ rec2 allowPre skipped f t) := by
  unfold exprTok
  dsimp only
  split
  · split
    · exact Follows.ite_tol hm (Follows.refl _) id
    · exact Follows.refl _
  · split
    · exact Follows.refl _
    · split
      · split
        · exact hrec _
        · exact Follows.ite_tol hm (hrec _) id
      · exact exprOnTok_follows hm hrec

theorem exprStep_follows (hm : Modes same tol tol') (hrec : ∀ t, Follows same (rec1 t) (rec2 t))
    {allowPre : Bool} {skipped : List Node} :
    Follows same (exprStep ⟨tol, ctx, s⟩ rec1 allowPre skipped f pos)
      (exprStep ⟨tol', ctx, s⟩ rec2 allowPre skipped f pos) := by
  unfold exprStep
  dsimp only
  generalize mkPS (PSFields.normalize { f with enEnvs := false }) = ps
  rcases peekTok_modes hm ps s pos with h | ⟨hns, w, ep, t, r, h⟩
  · rw [h]
    cases peekTok tol ps s pos <;> dsimp only
    · exact exprTok_follows hm hrec
    · exact Follows.ite_tol hm (Follows.refl _) id
    · exact Follows.refl _
  · rw [h]; exact fun g => absurd g hns

theorem rawMarker_follows (hm : Modes same tol tol') {c : Char} {fullList allowPre : Bool} :
    FollowsRaw same (rawMarker ⟨tol, ctx, s⟩ c fullList allowPre f pos)
      (rawMarker ⟨tol', ctx, s⟩ c fullList allowPre f pos) := by
  unfold rawMarker
  dsimp only
  rcases peekTok_modes hm (mkPS f) s pos with h | ⟨hns, w, ep, t, r, h⟩
  · rw [h]; exact FollowsRaw.refl _
  · rw [h]; exact fun g => absurd g hns

theorem rawParse_follows (hm : Modes same tol tol') (hrec : ∀ t, Follows same (rec1 t) (rec2 t)) (p : Parser) :
    FollowsRaw same (rawParse ⟨tol, ctx, s⟩ rec1 p f pos) (rawParse ⟨tol', ctx, s⟩ rec2 p f pos) := by
  cases p with
  | general stop require child => exact rawGeneral_follows hrec
  | group d o a => exact rawGroup_follows hm hrec
  | math d => exact rawMath_follows hm hrec
  | envBody n => exact bindOk_follows (hrec _) (fun _ _ => FollowsRaw.refl _)
  | macroCall t a => exact bindOk_follows (hrec _) (fun _ _ => FollowsRaw.refl _)
  | specialsCall t a => exact bindOk_follows (hrec _) (fun _ _ => FollowsRaw.refl _)
  | envCall t a bm =>
    exact bindOk_follows (hrec _) (fun _ _ => bindOk_follows (hrec _) (fun _ _ => FollowsRaw.refl _))
  | arguments a =>
    cases a with
    | std l => exact FollowsRaw.ret (argsLoop_follows hm hrec f l [] pos)
    | legacyVerb => exact FollowsRaw.refl _
    | legacyVerbEnv name optArg => exact rawLegacyVerbEnv_follows hrec
    | unknown => exact FollowsRaw.refl _
  | expression ap => exact FollowsRaw.ret (hrec _)
  | marker c fl ap => exact rawMarker_follows hm
  | verbatim d => exact FollowsRaw.refl _

/-- `parse_content` turns a parse error into a result in tolerant mode only -/
theorem parseContent_follows (hm : Modes same tol tol') {a b : Raw} (h : FollowsRaw same a b) :
    Follows same (parseContent tol a) (parseContent tol' b) := by
  refine parseContent_elim (motive := fun x => Follows same x (parseContent tol' b)) ?_ ?_ ?_
  · intro p e _
    rw [h (e ▸ trivial), e]; rfl
  · intro e ea
    rcases hm with ⟨hs, rfl⟩ | ⟨hns, rfl⟩
    · rw [h (ea ▸ hs), ea]; exact Follows.refl _
    · exact fun g => absurd g hns
  · intro r ea hne g
    rw [h (ea ▸ g), ea, parseContent_ret hne]

theorem step_follows (hm : Modes same tol tol') (hrec : ∀ t, Follows same (rec1 t) (rec2 t)) (t : Task) :
    Follows same (step ⟨tol, ctx, s⟩ rec1 t) (step ⟨tol', ctx, s⟩ rec2 t) := by
  cases t with
  | pc p f pos => exact parseContent_follows hm (rawParse_follows hm hrec p)
  | loop f stop child st => exact loopStep_follows hm hrec
  | expr ap skipped f pos => exact exprStep_follows hm hrec

theorem run_follows (hm : Modes same tol tol') (k : Nat) :
    ∀ (n : Nat) (t : Task), Follows same (run ⟨tol, ctx, s⟩ n t) (run ⟨tol', ctx, s⟩ (n + k) t) :=
  run_rel (R := fun _ => Follows same) k (fun _ g => False.elim g) (fun _ _ => step_follows hm)

end follows

theorem run_mono (env : Env) (n m : Nat) (t : Task) (h : run env n t ≠ .fuel) (hnm : n ≤ m) :
    run env m t = run env n t := by
  obtain ⟨k, rfl⟩ := Nat.exists_eq_add_of_le hnm
  refine run_follows (same := True) (Or.inl ⟨trivial, rfl⟩) k n t ?_
  cases hr : run env n t with
  | fuel => exact absurd hr h
  | loopEnd e => exact Or.inl trivial
  | _ => trivial

private def exCtx06 : Ctx := { macros := [("a".toList, .std [⟨.m, .none⟩])] }

private def Ret.isOk : Ret → Bool
  | .ok _ _ => true
  | _ => false

private def Ret.isFuel : Ret → Bool
  | .fuel => true
  | _ => false

/-- `\a{b}` parses with fuel 10 but not with fuel 9 -/
example : (run { tol := false, ctx := exCtx06, s := "\\a{b}".toList } 10 (topTask {})).isOk = true
    ∧ (run { tol := false, ctx := exCtx06, s := "\\a{b}".toList } 9 (topTask {})).isFuel = true := by decide +kernel

/-- the hypothesis of `run_mono` holds on that input at fuel 10, and the conclusion transports the result to any larger fuel -/
example : run { tol := false, ctx := exCtx06, s := "\\a{b}".toList } (fuelFor "\\a{b}".toList) (topTask {})
    = run { tol := false, ctx := exCtx06, s := "\\a{b}".toList } 10 (topTask {}) := by
  refine run_mono _ 10 _ _ ?_ (by decide)
  intro h
  have h2 : (run { tol := false, ctx := exCtx06, s := "\\a{b}".toList } 10 (topTask {})).isFuel = false := by decide +kernel
  rw [h] at h2
  cases h2


/-- **C06**: whenever the parse in strict mode (`tolerant_parsing=False`) succeeds, the parse of the same input in
    tolerant mode returns the identical result (nodes and end position); for every fuel, the same on both sides. -/
theorem C06_agree (ctx : Ctx) (s : Str) (f : PSFields) (n : Nat) (r : Res) (pos : Nat)
    (h : run { tol := false, ctx := ctx, s := s } n (topTask f) = .ok r pos) :
    run { tol := true, ctx := ctx, s := s } n (topTask f) = .ok r pos := by
  have h2 := run_follows (same := False) (tol' := true) (ctx := ctx) (s := s) (Or.inr ⟨id, rfl⟩) 0 n (topTask f)
  rw [h] at h2
  exact h2 trivial

/-- the hypothesis of `C06_agree` holds for `\a{b}`; the theorem yields the tolerant result -/
example : ∃ r pos, run { tol := false, ctx := exCtx06, s := "\\a{b}".toList } 12 (topTask {}) = .ok r pos
    ∧ run { tol := true, ctx := exCtx06, s := "\\a{b}".toList } 12 (topTask {}) = .ok r pos := by
  have h : (run { tol := false, ctx := exCtx06, s := "\\a{b}".toList } 12 (topTask {})).isOk = true := by decide +kernel
  cases hr : run { tol := false, ctx := exCtx06, s := "\\a{b}".toList } 12 (topTask {}) with
  | ok r pos => exact ⟨r, pos, rfl, C06_agree _ _ _ _ _ _ hr⟩
  | perr e => rw [hr] at h; cases h
  | loopEnd e => rw [hr] at h; cases h
  | crash k => rw [hr] at h; cases h
  | fuel => rw [hr] at h; cases h

/-- the hypothesis matters: on an unknown macro the strict run fails while the tolerant run succeeds -/
example : (run { tol := false, ctx := exCtx06, s := "\\zz{b}".toList } 12 (topTask {})).isOk = false
    ∧ (run { tol := true, ctx := exCtx06, s := "\\zz{b}".toList } 12 (topTask {})).isOk = true := by decide +kernel

#print axioms run_mono
#print axioms C06_agree

end Pylx
