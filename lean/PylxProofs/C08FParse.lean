/-
  C08, all strings — the exact parse of the source of a document of the encoder-output grammar, and `latex_to_text` of
  that source as the position-free renderer on the exact tree:

  * `doc_exact`: for every context satisfying the decidable `ctxOk` and `keysBad` (the default context does) and every
    well-formed, specials-safe document `d`, the tolerant parse that `latex_to_text` runs on `unI d` returns a node list
    whose exact position-free tree is `exactC d = mergeX (xW [] d)`.
  * `latexToText_doc`: `latexToTextWith opts db ctx lib (unI d) = renderX ⟨opts, db, ctx, lib⟩ (exactC d)`.
-/
import PylxProofs.C08FReach
namespace Pylx.C08.Full
open Pylx Pylx.C02 Pylx.L2T Pylx.L2T.C03S Pylx.C13.Full

theorem doc_exact_strict {ctx : Ctx} (hctx : ctxOk ctx = true) (hkb : keysBad badChars (Doc.ctxKeys ctx) = true) (d : List CItem)
    (hwf : cwfI ctx false none none d = true) (hsf : safeI badChars d = true) :
    ∃ a b ns pos, Doc.parseStrict ctx (unI d) = .ok (.list a b ns) pos ∧ eraseNodes (unI d) ns = exactC d := by
  obtain ⟨a, b, ns, pos, T, hp, hx, hok⟩ := doc_gen hctx badChars d hwf
  rw [hok.exact hkb hsf] at hx
  exact ⟨a, b, ns, pos, hp, hx⟩

/-- **the exact parse** (the tolerant parse `latex_to_text` runs): no error, no recovery, and the exact position-free tree
    of the result is `exactC d` -/
theorem doc_exact {ctx : Ctx} (hctx : ctxOk ctx = true) (hkb : keysBad badChars (Doc.ctxKeys ctx) = true) (d : List CItem)
    (hwf : cwfI ctx false none none d = true) (hsf : safeI badChars d = true) :
    ∃ a b ns pos, parseTop { tol := true, ctx := ctx, s := unI d } (L2T.startFields ctx) = .ok (.list a b ns) pos ∧
      eraseNodes (unI d) ns = exactC d := by
  obtain ⟨a, b, ns, pos, hp, hx⟩ := doc_exact_strict hctx hkb d hwf hsf
  exact ⟨a, b, ns, pos, C06_agree_top ctx (unI d) (Doc.startFields ctx) _ _ hp, hx⟩

/-- `latex_to_text` of the source of a document is the position-free renderer on its exact tree -/
theorem latexToText_doc (opts : Opts) (db : TextDb) (lib : Lib) {ctx : Ctx} (hctx : ctxOk ctx = true)
    (hkb : keysBad badChars (Doc.ctxKeys ctx) = true) (d : List CItem)
    (hwf : cwfI ctx false none none d = true) (hsf : safeI badChars d = true) :
    latexToTextWith opts db ctx lib (unI d) = renderX ⟨opts, db, ctx, lib⟩ (exactC d) := by
  obtain ⟨a, b, ns, pos, hp, hx⟩ := doc_exact hctx hkb d hwf hsf
  unfold latexToTextWith
  rw [hp]
  simp only
  rw [render_eq_renderX, hx]

theorem default_keysBad : keysBad badChars (Doc.ctxKeys Gen.defaultCtx) = true := by decide +kernel

/-! ### non-vacuity -/

/-- `\'e~ a{\i}`, a paragraph break, `$x$` -/
def exD : List CItem :=
  [.mac ['\''] [] [.tok 'e'], .ch '~', .ch ' ', .ch 'a', .grp [.mac ['i'] [] []], .ch '\n', .ch '\n', .math [.ch 'x']]

/-- the hypotheses of `doc_exact` on a concrete document, and its exact tree -/
theorem exD_hyps : cwfI Gen.defaultCtx false none none exD = true ∧ safeI badChars exD = true ∧
    showXList (exactC exD) =
      showXList [.mac ['\''] [] (some [.node (.chars ['e'])]), .specials ['~'] (some []), .chars [' ', 'a'],
        .group ['{'] ['}'] (some [.mac ['i'] [] (some [])]), .specials ['\n', '\n'] (some []),
        .math ['$', 'x', '$'] false ['$'] ['$'] (some [.chars ['x']])] := by
  refine ⟨by decide +kernel, by decide +kernel, by decide +kernel⟩

/-- `doc_exact` instantiated on that document with the default context -/
example : ∃ a b ns pos, parseTop ⟨true, Gen.defaultCtx, unI exD⟩ (L2T.startFields Gen.defaultCtx) = .ok (.list a b ns) pos ∧
    eraseNodes (unI exD) ns = exactC exD :=
  doc_exact C13.defaultCtx_ok default_keysBad exD exD_hyps.1 exD_hyps.2.1

#print axioms doc_exact
#print axioms latexToText_doc

end Pylx.C08.Full
