/-
  C03SX — the *exact* position-free tree of a node list (`XNode`, `erase`), the exact tree a document is written with
  (`exactOf`), the collector's bookkeeping for the exact round trip, and the projection `forget` of exact trees to the
  shapes of `Pylx/Doc.lean`.

  `erase s` forgets positions and parsing states of a node tree parsed from the source `s` and keeps everything the
  renderer `Pylx.L2T` looks at: the characters of *every* chars node (whitespace-only ones included), comment text and
  post-space, macro post-space, delimiters, argument lists with their `none` slots and — for math and environment
  nodes, the only nodes whose positions the renderer uses (`math_mode='verbatim'`) — the source slice the node spans.
-/
import PylxProofs.C02Args
import PylxProofs.C03
namespace Pylx.L2T.C03S
open Pylx Pylx.Doc Pylx.C02

/-! ### exact position-free trees -/

mutual
inductive XNode where
  | chars (c : Str)
  | comment (c post : Str)
  | group (dopen dclose : Str) (body : Option (List XNode))
  | mac (name post : Str) (args : Option (List XArg))
  /-- `verb` = the source slice of the node -/
  | env (verb name : Str) (args : Option (List XArg)) (body : Option (List XNode))
  | specials (c : Str) (args : Option (List XArg))
  /-- `verb` = the source slice of the node -/
  | math (verb : Str) (display : Bool) (dopen dclose : Str) (body : Option (List XNode))
inductive XArg where
  | absent
  | node (n : XNode)
  | list (ns : List XNode)
end

instance : Inhabited XNode := ⟨.chars []⟩
instance : Inhabited XArg := ⟨.absent⟩

mutual
/-- forget positions and parsing states (`s` = the source the positions refer to) -/
def erase (s : Str) : Node → XNode
  | .chars _ _ _ c => .chars c
  | .comment _ _ _ c p => .comment c p
  | .group _ _ _ o c b => .group o c (eraseBody s b)
  | .mac _ _ _ n p a => .mac n p (eraseArgs s a)
  | .env p e _ n a b => .env (slice s p e) n (eraseArgs s a) (eraseBody s b)
  | .specials _ _ _ c a => .specials c (eraseArgs s a)
  | .math p e _ d o c b => .math (slice s p e) d o c (eraseBody s b)
def eraseBody (s : Str) : Option (List Node) → Option (List XNode)
  | none => none
  | some ns => some (eraseNodes s ns)
def eraseNodes (s : Str) : List Node → List XNode
  | [] => []
  | n :: ns => erase s n :: eraseNodes s ns
def eraseArgs (s : Str) : Option (List Arg) → Option (List XArg)
  | none => none
  | some l => some (eraseArgList s l)
def eraseArgList (s : Str) : List Arg → List XArg
  | [] => []
  | a :: l => eraseArg s a :: eraseArgList s l
def eraseArg (s : Str) : Arg → XArg
  | .absent => .absent
  | .node n => .node (erase s n)
  | .list _ _ ns => .list (eraseNodes s ns)
end

def XNode.isChars : XNode → Bool
  | .chars _ => true
  | _ => false

/-- merge adjacent chars nodes (the collector never produces two chars nodes in a row) -/
def mergeX : List XNode → List XNode
  | [] => []
  | .chars a :: tl =>
    match mergeX tl with
    | .chars b :: r => .chars (a ++ b) :: r
    | r => .chars a :: r
  | x :: tl => x :: mergeX tl

mutual
/-- the exact nodes a derivation is written with, item by item (before the merging of adjacent chars nodes);
    `prev` = the tail of the preceding item when that was a comment.  Mirror of `Doc.treeRaw` that keeps whitespace,
    post-spaces and `none` slots. -/
def exactRaw (ctx : Ctx) : Option Str → List Item → List XNode
  | _, [] => []
  | _, .T t :: tl => .chars t :: exactRaw ctx none tl
  | prev, .W w :: tl =>
    match prev with
    | some _ => exactRaw ctx none tl          -- whitespace after a comment's newline is the comment's post-space
    | none => .chars w :: exactRaw ctx none tl
  | prev, .P w :: tl =>
    (if parSpec ctx then XNode.specials ['\n', '\n'] (some []) else .chars (prev.getD [] ++ w)) :: exactRaw ctx none tl
  | _, .G b :: tl => .group ['{'] ['}'] (some (mergeX (exactRaw ctx none b))) :: exactRaw ctx none tl
  | _, .M name post args :: tl => .mac name post (some (exactArgs ctx args)) :: exactRaw ctx none tl
  | _, .E name args body :: tl =>
    .env (beginStr name ++ (unparseArgs args ++ (unparseItems body ++ endStr name))) name (some (exactArgs ctx args))
      (some (mergeX (exactRaw ctx none body))) :: exactRaw ctx none tl
  | _, .F k b :: tl =>
    .math (k.opener ++ (unparseItems b ++ k.closer)) k.display k.opener k.closer (some (mergeX (exactRaw ctx none b))) ::
      exactRaw ctx none tl
  | _, .C text tail :: tl => .comment text (C03.commentPost tail tl) :: exactRaw ctx (some tail) tl
  | _, .S name args :: tl => .specials name (some (exactArgs ctx args)) :: exactRaw ctx none tl
  | _, .V _ text :: tl => .mac "verb".toList [] (some [.node (.chars text)]) :: exactRaw ctx none tl
  | _, .VE name _ _ _ :: tl => .env [] name none none :: exactRaw ctx none tl     -- outside the fragment
def exactArgs (ctx : Ctx) : List ArgVal → List XArg
  | [] => []
  | .absent :: tl => .absent :: exactArgs ctx tl
  | .star :: tl => .node (.chars ['*']) :: exactArgs ctx tl
  | .marker c :: tl => .list [.chars [c]] :: exactArgs ctx tl
  | .br b :: tl => .node (.group ['['] [']'] (some (mergeX (exactRaw ctx none b)))) :: exactArgs ctx tl
  | .grp b :: tl => .node (.group ['{'] ['}'] (some (mergeX (exactRaw ctx none b)))) :: exactArgs ctx tl
  | .tok c :: tl => .node (.chars [c]) :: exactArgs ctx tl
  | .del o c b :: tl => .node (.group [o] [c] (some (mergeX (exactRaw ctx none b)))) :: exactArgs ctx tl
  | .verb _ _ _ :: tl => .absent :: exactArgs ctx tl                               -- outside the fragment
end

/-- **the exact tree a document is written with** -/
def exactOf (ctx : Ctx) (d : List Item) : List XNode := mergeX (exactRaw ctx none d)

/-! ### `mergeX` -/

def consX : XNode → List XNode → List XNode
  | .chars a, .chars b :: r => .chars (a ++ b) :: r
  | x, r => x :: r

theorem mergeX_cons (x : XNode) (tl : List XNode) : mergeX (x :: tl) = consX x (mergeX tl) := by
  cases x with
  | chars a =>
    simp only [mergeX]
    generalize mergeX tl = M
    cases M with
    | nil => rfl
    | cons y r => cases y <;> rfl
  | _ => simp only [mergeX, consX]

theorem consX_chars_chars (a b : Str) (X : List XNode) :
    consX (.chars (a ++ b)) X = consX (.chars a) (consX (.chars b) X) := by
  cases X with
  | nil => rfl
  | cons y r =>
    cases y with
    | chars c => simp only [consX, List.append_assoc]
    | _ => rfl

theorem mergeX_consX (x : XNode) (M l2 : List XNode) :
    mergeX (consX x M ++ l2) = consX x (mergeX (M ++ l2)) := by
  cases x with
  | chars a =>
    cases M with
    | nil => simp only [consX, List.cons_append, List.nil_append, mergeX_cons]
    | cons y r =>
      cases y with
      | chars b =>
        simp only [consX, List.cons_append, mergeX_cons]
        exact consX_chars_chars a b _
      | _ => simp only [consX, List.cons_append, mergeX_cons]
  | _ => simp only [consX, List.cons_append, mergeX_cons]

theorem mergeX_merge_append (l1 l2 : List XNode) : mergeX (mergeX l1 ++ l2) = mergeX (l1 ++ l2) := by
  induction l1 with
  | nil => rfl
  | cons x tl ih => rw [mergeX_cons, mergeX_consX, ih, List.cons_append, mergeX_cons]

theorem mergeX_append_left {a b : List XNode} (h : mergeX a = mergeX b) (l : List XNode) :
    mergeX (a ++ l) = mergeX (b ++ l) := by
  rw [← mergeX_merge_append a, ← mergeX_merge_append b, h]

theorem mergeX_append_right (l : List XNode) {a b : List XNode} (h : mergeX a = mergeX b) :
    mergeX (l ++ a) = mergeX (l ++ b) := by
  induction l with
  | nil => exact h
  | cons x l ih => rw [List.cons_append, List.cons_append, mergeX_cons, mergeX_cons, ih]

theorem mergeX_idem (l : List XNode) : mergeX (mergeX l) = mergeX l := by
  have := mergeX_merge_append l []
  simpa using this

/-- a node that is not a chars node is a barrier for the merging -/
theorem mergeX_nonchars (x : XNode) (hx : x.isChars = false) (Z : List XNode) : mergeX (x :: Z) = x :: mergeX Z := by
  rw [mergeX_cons]
  cases x <;> first | rfl | cases hx

theorem mergeX_chars_nonchars (a : Str) (x : XNode) (hx : x.isChars = false) (Z : List XNode) :
    mergeX (.chars a :: x :: Z) = .chars a :: x :: mergeX Z := by
  rw [mergeX_cons, mergeX_nonchars x hx]
  cases x <;> first | rfl | cases hx

/-! ### exact trees of collector states -/

theorem eraseNodes_append (s : Str) (a b : List Node) : eraseNodes s (a ++ b) = eraseNodes s a ++ eraseNodes s b := by
  induction a with
  | nil => rfl
  | cons x a ih => simp only [List.cons_append, eraseNodes, ih]

/-- the pending characters as a node -/
def pendX (pd : Str) : List XNode := if pd.isEmpty then [] else [.chars pd]

theorem pendX_ne {w : Str} (h : w.isEmpty = false) : pendX w = [.chars w] := by
  unfold pendX; rw [h]; rfl

theorem mergeX_pendX (pd : Str) : mergeX (pendX pd) = pendX pd := by
  unfold pendX
  split <;> rfl

/-- the nodes a collector state stands for: nodes pushed so far, then the pending characters -/
def shX (s : Str) (st : LoopSt) : List XNode := eraseNodes s st.acc ++ pendX st.pend

/-- the accumulated nodes are a barrier for the merging: no two adjacent chars nodes, and the last node is not a chars
    node (pending characters never merge into an accumulated node) -/
def Canon (s : Str) (st : LoopSt) : Prop :=
  ∀ Z, mergeX (eraseNodes s st.acc ++ Z) = eraseNodes s st.acc ++ mergeX Z

theorem canon_start (s : Str) (pos : Nat) : Canon s { pos := pos } := fun _ => rfl

theorem canon_shX {s : Str} {st : LoopSt} (h : Canon s st) : mergeX (shX s st) = shX s st := by
  unfold shX
  rw [h, mergeX_pendX]

theorem shX_flush (s : Str) (f : PSFields) (st : LoopSt) :
    eraseNodes s (st.flush f).acc = shX s st ∧ (st.flush f).pend = [] ∧ (st.flush f).pos = st.pos := by
  unfold LoopSt.flush
  by_cases h : st.pend.isEmpty = true
  · rw [if_pos h]
    refine ⟨?_, List.isEmpty_iff.mp h, rfl⟩
    unfold shX pendX; rw [if_pos h, List.append_nil]
  · rw [if_neg h]
    refine ⟨?_, rfl, rfl⟩
    show eraseNodes s (st.acc ++ [_]) = _
    rw [eraseNodes_append]; unfold shX pendX; rw [if_neg h]; rfl

theorem pendX_append (pd t : Str) (ht : t ≠ []) :
    mergeX (pendX (pd ++ t)) = mergeX (pendX pd ++ [.chars t]) := by
  unfold pendX
  cases pd with
  | nil =>
    cases t with
    | nil => exact absurd rfl ht
    | cons c t => rfl
  | cons a pd => rfl

theorem pendX_append' (a b : Str) : mergeX (pendX (a ++ b)) = mergeX (pendX a ++ pendX b) := by
  cases b with
  | nil => simp [pendX]
  | cons c b =>
    rw [pendX_append a (c :: b) (by simp)]
    rfl

/-- flushing in front of a non-char token, exactly: the pending characters and the token's leading whitespace become
    one chars node -/
theorem erase_flushBefore (s : Str) (f : PSFields) (st : LoopSt) (t : Token) :
    eraseNodes s (st.flushBefore f t).acc = eraseNodes s st.acc ++ pendX (st.pend ++ t.pre) ∧
      (st.flushBefore f t).pend = [] := by
  unfold LoopSt.flushBefore
  by_cases h : st.pend.isEmpty = true
  · have h1 : (!st.pend.isEmpty) = false := by rw [h]; rfl
    have hp : st.pend = [] := List.isEmpty_iff.mp h
    rw [h1]
    simp only [Bool.false_eq_true, if_false]
    by_cases h2 : t.pre.isEmpty = true
    · have h3 : (!t.pre.isEmpty) = false := by rw [h2]; rfl
      rw [h3]
      simp only [Bool.false_eq_true, if_false]
      refine ⟨?_, hp⟩
      rw [hp, List.nil_append]
      unfold pendX; rw [if_pos h2, List.append_nil]
    · have h3 : (!t.pre.isEmpty) = true := by
        cases hh : t.pre.isEmpty with
        | true => exact absurd hh h2
        | false => rfl
      rw [h3]
      simp only [if_true]
      refine ⟨?_, hp⟩
      rw [eraseNodes_append, hp, List.nil_append]
      unfold pendX; rw [if_neg h2]
      rfl
  · have h1 : (!st.pend.isEmpty) = true := by
      cases hh : st.pend.isEmpty with
      | true => exact absurd hh h
      | false => rfl
    rw [h1]
    simp only [if_true]
    have := shX_flush s f ({ st with pend := st.pend ++ t.pre } : LoopSt)
    refine ⟨?_, this.2.1⟩
    rw [this.1]
    rfl

theorem shX_flushBefore (s : Str) (f : PSFields) (st : LoopSt) (t : Token) :
    mergeX (eraseNodes s (st.flushBefore f t).acc) = mergeX (shX s st ++ pendX t.pre) := by
  rw [(erase_flushBefore s f st t).1]
  show _ = mergeX ((eraseNodes s st.acc ++ pendX st.pend) ++ pendX t.pre)
  rw [List.append_assoc]
  exact mergeX_append_right _ (pendX_append' _ _)

/-- pushing characters -/
theorem shX_push (s : Str) (st : LoopSt) (cs : Str) (p q : Nat) :
    mergeX (shX s ({ (st.push cs p) with pos := q } : LoopSt)) = mergeX (shX s st ++ pendX cs) := by
  show mergeX (eraseNodes s st.acc ++ pendX (st.pend ++ cs)) = mergeX ((eraseNodes s st.acc ++ pendX st.pend) ++ pendX cs)
  rw [List.append_assoc]
  exact mergeX_append_right _ (pendX_append' _ _)

theorem canon_push {s : Str} {st : LoopSt} (h : Canon s st) (cs : Str) (p q : Nat) :
    Canon s ({ (st.push cs p) with pos := q } : LoopSt) := h

/-- after a node that is not a chars node has been pushed the state is canonical again -/
theorem canon_dispatch {s : Str} {f : PSFields} {st : LoopSt} (h : Canon s st) (t : Token) (nd : Node) (p : Nat)
    (hnd : (erase s nd).isChars = false) :
    Canon s ({ (st.flushBefore f t) with pos := p, acc := (st.flushBefore f t).acc ++ [nd] } : LoopSt) := by
  intro Z
  show mergeX (eraseNodes s ((st.flushBefore f t).acc ++ [nd]) ++ Z) = eraseNodes s ((st.flushBefore f t).acc ++ [nd]) ++ mergeX Z
  rw [eraseNodes_append, (erase_flushBefore s f st t).1]
  simp only [eraseNodes, List.append_assoc, List.cons_append, List.nil_append]
  rw [h]
  congr 1
  unfold pendX
  split
  · exact mergeX_nonchars _ hnd Z
  · exact mergeX_chars_nonchars _ _ hnd Z

/-! ### reaching a later collector state -/

/-- from `st` the collector gets to some `st'`, `n` characters further, having produced the exact nodes `tr` (up to the
    merging of adjacent chars nodes), whatever comes afterwards; a canonical state stays canonical -/
def ReachesX (env : Pylx.Env) (f : PSFields) (stop : StopTok) (child : ChildPS) (st : LoopSt) (tr : List XNode) (n : Nat) : Prop :=
  ∃ st' : LoopSt, st'.pos = st.pos + n ∧ mergeX (shX env.s st') = mergeX (shX env.s st ++ tr) ∧
    (Canon env.s st → Canon env.s st') ∧
    ∀ R, Ev env (.loop f stop child st') R → Ev env (.loop f stop child st) R

theorem ReachesX.refl (env : Pylx.Env) (f : PSFields) (stop : StopTok) (child : ChildPS) (st : LoopSt) :
    ReachesX env f stop child st [] 0 :=
  ⟨st, rfl, by rw [List.append_nil], fun h => h, fun _ h => h⟩

theorem ReachesX.trans {env : Pylx.Env} {f : PSFields} {stop : StopTok} {child : ChildPS} {st : LoopSt}
    {tr1 tr2 : List XNode} {n1 n2 : Nat} (h1 : ReachesX env f stop child st tr1 n1)
    (h2 : ∀ st1 : LoopSt, st1.pos = st.pos + n1 → ReachesX env f stop child st1 tr2 n2) :
    ReachesX env f stop child st (tr1 ++ tr2) (n1 + n2) := by
  obtain ⟨st1, hp1, hs1, hc1, hk1⟩ := h1
  obtain ⟨st2, hp2, hs2, hc2, hk2⟩ := h2 st1 hp1
  refine ⟨st2, by omega, ?_, fun h => hc2 (hc1 h), fun R h => hk1 R (hk2 R h)⟩
  rw [hs2, ← List.append_assoc]
  exact mergeX_append_left hs1 tr2

theorem ReachesX.congr {env : Pylx.Env} {f : PSFields} {stop : StopTok} {child : ChildPS} {st : LoopSt} {tr tr' : List XNode} {n : Nat}
    (h : mergeX tr = mergeX tr') (hr : ReachesX env f stop child st tr n) : ReachesX env f stop child st tr' n := by
  obtain ⟨st', h1, h2, hc, h3⟩ := hr
  exact ⟨st', h1, by rw [h2]; exact mergeX_append_right _ h, hc, h3⟩

section generic
variable {env : Pylx.Env} {f : PSFields} {stop : StopTok} {child : ChildPS} {st : LoopSt}

/-- a `char` token: its leading whitespace and its characters become pending characters -/
theorem reachX_charTok (htol : env.tol = false) {tk : Token} (hpk : peekImpl (mkPS f) env.s st.pos = .tok tk)
    (hkind : tk.kind = .char) (hpos : st.pos ≤ tk.posEnd) :
    ReachesX env f stop child st (pendX tk.pre ++ pendX tk.arg) (tk.posEnd - st.pos) := by
  refine ⟨{ (st.push (tk.pre ++ tk.arg) (tk.pos - tk.pre.length)) with pos := tk.posEnd }, ?_, ?_, ?_, ?_⟩
  · show tk.posEnd = _; omega
  · rw [shX_push]
    exact mergeX_append_right _ (pendX_append' _ _)
  · intro h
    exact canon_push h _ _ _
  · intro R h
    refine Ev.of_tail (fun rec => ?_) h
    show loopStep env rec _ stop child st = _
    rw [loopStep_tok htol hpk, stop_test_char stop _ (Or.inl hkind)]
    have : (tk.kind == TokKind.char) = true := by rw [hkind]; rfl
    rw [this]
    rfl

/-- a token that makes the collector start a sub-parse (or push a node directly) and go on behind it -/
theorem reachX_dispatch (htol : env.tol = false) {tk : Token} {nd : Node} {x : XNode} {p : Nat}
    (hpk : peekImpl (mkPS f) env.s st.pos = .tok tk) (hstop : stop.test tk = false) (hkind : (tk.kind == TokKind.char) = false)
    (hpos : st.pos ≤ p)
    (hd : ∀ st0 : LoopSt, st0.pos = tk.posEnd → ∃ N, ∀ k, N ≤ k →
      loopDispatch env (run env k) f stop child st0 { tk with pre := [] } =
        run env k (.loop f stop child { st0 with pos := p, acc := st0.acc ++ [nd] }))
    (hx : erase env.s nd = x) (hnc : x.isChars = false) :
    ReachesX env f stop child st (pendX tk.pre ++ [x]) (p - st.pos) := by
  have hf1 := shX_flushBefore env.s f st tk
  have hf2 := (erase_flushBefore env.s f st tk).2
  obtain ⟨N, hN⟩ := hd { (st.flushBefore f tk) with pos := tk.posEnd } rfl
  subst hx
  refine ⟨{ (st.flushBefore f tk) with pos := p, acc := (st.flushBefore f tk).acc ++ [nd] },
    by show p = st.pos + (p - st.pos); omega, ?_, ?_, ?_⟩
  · show mergeX (eraseNodes env.s ((st.flushBefore f tk).acc ++ [nd]) ++ pendX (st.flushBefore f tk).pend) = _
    rw [eraseNodes_append, hf2]
    simp only [eraseNodes, pendX, List.isEmpty_nil, if_true, List.append_nil]
    rw [← List.append_assoc]
    exact mergeX_append_left hf1 _
  · intro h
    exact canon_dispatch h tk nd p hnc
  · intro R h
    obtain ⟨n2, h2⟩ := h
    refine Ev.of_step ⟨max N n2, fun k hk => ?_⟩
    show loopStep env (run env k) _ stop child st = R
    rw [loopStep_tok htol hpk, hstop, hkind]
    simp only [Bool.false_eq_true, if_false]
    rw [hN k (by omega)]
    exact h2 k (by omega)

/-- the collector in front of the token it was asked to stop at -/
theorem loopX_stop (htol : env.tol = false) {tk : Token} (hpk : peekImpl (mkPS f) env.s st.pos = .tok tk)
    (hs : stop.test tk = true) :
    ∃ e : LoopEnd, Ev env (.loop f stop child st) (.loopEnd e) ∧
      mergeX (eraseNodes env.s e.nodes) = mergeX (shX env.s st ++ pendX tk.pre) ∧
      (Canon env.s st → mergeX (eraseNodes env.s e.nodes) = eraseNodes env.s e.nodes) ∧
      e.err = none ∧ e.stopTok = some tk := by
  let st1 : LoopSt := { (st.push tk.pre (tk.pos - tk.pre.length)) with pos := tk.pos }
  refine ⟨{ nodes := (st1.flush f).acc, pos := (st1.flush f).pos, stopTok := some tk, err := none },
    Ev.of_const (fun rec => ?_), ?_, ?_, rfl, rfl⟩
  · show loopStep env rec _ _ child st = _
    rw [loopStep_tok htol hpk, hs]
    simp only [if_true]
    unfold loopFinish
    rfl
  · show mergeX (eraseNodes env.s (st1.flush f).acc) = _
    rw [(shX_flush env.s f st1).1]
    exact shX_push env.s st tk.pre _ _
  · intro h
    show mergeX (eraseNodes env.s (st1.flush f).acc) = eraseNodes env.s (st1.flush f).acc
    rw [(shX_flush env.s f st1).1]
    exact canon_shX (canon_push h _ _ _)

/-- the collector at the end of the input -/
theorem loopX_eos (htol : env.tol = false) (f : PSFields) {st : LoopSt} (hd : env.s.drop st.pos = []) :
    ∃ e : LoopEnd, Ev env (.loop f stop child st) (.loopEnd e) ∧
      eraseNodes env.s e.nodes = shX env.s st ∧ e.err = none ∧ e.stopTok = none ∧ e.pos = st.pos := by
  have hpk := peek_eos (mkPS f) hd
  refine ⟨{ nodes := (st.flush f).acc, pos := (st.flush f).pos, stopTok := none, err := none },
    Ev.of_const (fun rec => ?_), (shX_flush env.s f st).1, rfl, rfl, (shX_flush env.s f st).2.2⟩
  show loopStep env rec _ _ child st = _
  rw [loopStep_eos htol hpk]
  unfold loopFinish
  rfl

/-- the collector in front of whitespace that runs to the end of the input -/
theorem loopX_eos_ws (htol : env.tol = false) (f : PSFields) {st : LoopSt} {w : Str} (hd : env.s.drop st.pos = w)
    (hw : isWs w = true) (hnl : countNl w < 2) :
    ∃ e : LoopEnd, Ev env (.loop f .none child st) (.loopEnd e) ∧
      mergeX (eraseNodes env.s e.nodes) = mergeX (shX env.s st ++ pendX w) ∧
      (Canon env.s st → mergeX (eraseNodes env.s e.nodes) = eraseNodes env.s e.nodes) ∧
      e.err = none ∧ e.stopTok = none ∧ e.pos = st.pos + w.length := by
  cases w with
  | nil =>
    obtain ⟨e, h1, h2, h3, h4, h5⟩ := loopX_eos (stop := .none) (child := child) htol f hd
    refine ⟨e, h1, by rw [h2]; simp [pendX], ?_, h3, h4, by simpa using h5⟩
    intro hc
    rw [h2]
    exact canon_shX hc
  | cons c w =>
    have hpk : peekImpl (mkPS f) env.s st.pos = .eos (c :: w) := peekImpl_ws_eos hd hw hnl
    let st2 : LoopSt := { (st.push ((c :: w) ++ []) (st.pos + (c :: w).length - (c :: w).length)) with pos := st.pos + (c :: w).length }
    have hd2 : env.s.drop st2.pos = [] := by
      show env.s.drop (st.pos + (c :: w).length) = []
      have := drop_add_of_drop (a := c :: w) (rest := []) (by rw [hd, List.append_nil])
      exact this
    obtain ⟨e, h1, h2, h3, h4, h5⟩ := loopX_eos (stop := .none) (child := child) htol f hd2
    refine ⟨e, ?_, ?_, ?_, h3, h4, h5⟩
    · refine Ev.of_tail (fun rec => ?_) h1
      show loopStep env rec _ _ child st = _
      unfold loopStep loopRead
      rw [htol, peekTok_false, hpk]
      rfl
    · rw [h2]
      have := shX_push env.s st ((c :: w) ++ []) (st.pos + (c :: w).length - (c :: w).length) (st.pos + (c :: w).length)
      have e : pendX ((c :: w) ++ []) = pendX (c :: w) := by rw [List.append_nil]
      rw [e] at this
      exact this
    · intro hc
      rw [h2]
      exact canon_shX (canon_push hc _ _ _)

end generic

/-! ### from exact trees to shapes -/

mutual
/-- what `Doc.shapeOf` keeps of an exact tree: post-spaces and source slices go, a missing argument list of a specials
    node reads as the empty one, bodies are normalised -/
def forget : XNode → Shape
  | .chars c => .chars c
  | .comment c _ => .comment c
  | .group o c b => .group o c (forgetBody b)
  | .mac n _ a => .mac n (forgetArgs a)
  | .env _ n a b => .env n (forgetArgs a) (forgetBody b)
  | .specials c a => .specials c ((forgetArgs a).getD [])
  | .math _ d o c b => .math d o c (forgetBody b)
def forgetBody : Option (List XNode) → Option (List Shape)
  | none => none
  | some l => some (normList (forgetNodes l))
def forgetNodes : List XNode → List Shape
  | [] => []
  | x :: l => forget x :: forgetNodes l
def forgetArgs : Option (List XArg) → Option (List ArgShape)
  | none => none
  | some l => some (forgetArgList l)
def forgetArgList : List XArg → List ArgShape
  | [] => []
  | a :: l => forgetArg a :: forgetArgList l
def forgetArg : XArg → ArgShape
  | .absent => .absent
  | .node n => .one (forget n)
  | .list l => .list (forgetNodes l)
end

mutual
theorem forget_erase (s : Str) : ∀ n : Node, forget (erase s n) = shapeOf n
  | .chars _ _ _ _ => rfl
  | .comment _ _ _ _ _ => rfl
  | .group _ _ _ _ _ b => by simp only [erase, forget, shapeOf, forgetBody_erase s b]
  | .mac _ _ _ _ _ a => by simp only [erase, forget, shapeOf, forgetArgs_erase s a]
  | .env _ _ _ _ a b => by simp only [erase, forget, shapeOf, forgetArgs_erase s a, forgetBody_erase s b]
  | .specials _ _ _ _ a => by simp only [erase, forget, shapeOf, forgetArgs_erase s a]
  | .math _ _ _ _ _ _ b => by simp only [erase, forget, shapeOf, forgetBody_erase s b]
theorem forgetBody_erase (s : Str) : ∀ b : Option (List Node), forgetBody (eraseBody s b) = shapeOfBody b
  | none => rfl
  | some ns => by simp only [eraseBody, forgetBody, shapeOfBody, forgetNodes_erase s ns]
theorem forgetNodes_erase (s : Str) : ∀ ns : List Node, forgetNodes (eraseNodes s ns) = shapeOfNodes ns
  | [] => rfl
  | n :: ns => by simp only [eraseNodes, forgetNodes, shapeOfNodes, forget_erase s n, forgetNodes_erase s ns]
theorem forgetArgs_erase (s : Str) : ∀ a : Option (List Arg), forgetArgs (eraseArgs s a) = shapeOfArgs a
  | none => rfl
  | some l => by simp only [eraseArgs, forgetArgs, shapeOfArgs, forgetArgList_erase s l]
theorem forgetArgList_erase (s : Str) : ∀ l : List Arg, forgetArgList (eraseArgList s l) = shapeOfArgList l
  | [] => rfl
  | a :: l => by simp only [eraseArgList, forgetArgList, shapeOfArgList, forgetArg_erase s a, forgetArgList_erase s l]
theorem forgetArg_erase (s : Str) : ∀ a : Arg, forgetArg (eraseArg s a) = shapeOfArg a
  | .absent => rfl
  | .node n => by simp only [eraseArg, forgetArg, shapeOfArg, forget_erase s n]
  | .list _ _ ns => by simp only [eraseArg, forgetArg, shapeOfArg, forgetNodes_erase s ns]
end

theorem forgetNodes_append (a b : List XNode) : forgetNodes (a ++ b) = forgetNodes a ++ forgetNodes b := by
  induction a with
  | nil => rfl
  | cons x a ih => simp only [List.cons_append, forgetNodes, ih]

theorem forgetNodes_consX (x : XNode) (M : List XNode) : forgetNodes (consX x M) = consSh (forget x) (forgetNodes M) := by
  cases x with
  | chars a =>
    cases M with
    | nil => rfl
    | cons y r => cases y <;> rfl
  | _ => rfl

/-- merging adjacent chars nodes commutes with the projection -/
theorem forgetNodes_mergeX (l : List XNode) : forgetNodes (mergeX l) = mergeChars (forgetNodes l) := by
  induction l with
  | nil => rfl
  | cons x tl ih => rw [mergeX_cons, forgetNodes_consX, ih, forgetNodes, mergeChars_cons]

theorem normList_forgetNodes_mergeX (l : List XNode) : normList (forgetNodes (mergeX l)) = normList (forgetNodes l) := by
  rw [forgetNodes_mergeX]
  apply normList_congr
  have := mergeChars_merge_append (forgetNodes l) []
  rwa [List.append_nil, List.append_nil] at this

theorem forgetNodes_pendX (w : Str) : forgetNodes (pendX w) = pendSh w := by
  unfold pendX pendSh
  split <;> rfl

theorem forgetNodes_shX (s : Str) (st : LoopSt) : forgetNodes (shX s st) = sh st := by
  unfold shX sh
  rw [forgetNodes_append, forgetNodes_erase, forgetNodes_pendX]

/-- what the collector does for exact trees it does for their shapes -/
theorem ReachesX.forget {env : Pylx.Env} {f : PSFields} {stop : StopTok} {child : ChildPS} {st : LoopSt} {tr : List XNode}
    {n : Nat} (h : ReachesX env f stop child st tr n) : Reaches env f stop child st (forgetNodes tr) n := by
  obtain ⟨st', hp, hs, _, hk⟩ := h
  refine ⟨st', hp, ?_, hk⟩
  have := congrArg forgetNodes hs
  rwa [forgetNodes_mergeX, forgetNodes_mergeX, forgetNodes_append, forgetNodes_shX, forgetNodes_shX] at this

/-! ### exact trees without a formula -/

mutual
/-- no math node at any depth -/
def mathFree : XNode → Bool
  | .chars _ => true
  | .comment _ _ => true
  | .group _ _ b => mathFreeB b
  | .mac _ _ a => mathFreeAs a
  | .env _ _ a b => mathFreeAs a && mathFreeB b
  | .specials _ a => mathFreeAs a
  | .math _ _ _ _ _ => false
def mathFreeB : Option (List XNode) → Bool
  | none => true
  | some l => mathFreeL l
def mathFreeL : List XNode → Bool
  | [] => true
  | x :: l => mathFree x && mathFreeL l
def mathFreeAs : Option (List XArg) → Bool
  | none => true
  | some l => mathFreeAL l
def mathFreeAL : List XArg → Bool
  | [] => true
  | a :: l => mathFreeA a && mathFreeAL l
def mathFreeA : XArg → Bool
  | .absent => true
  | .node n => mathFree n
  | .list l => mathFreeL l
end

theorem mathFreeL_append (a b : List XNode) : mathFreeL (a ++ b) = (mathFreeL a && mathFreeL b) := by
  induction a with
  | nil => simp [mathFreeL]
  | cons x a ih => simp only [List.cons_append, mathFreeL, ih, Bool.and_assoc]

theorem mathFreeL_consX (x : XNode) (M : List XNode) : mathFreeL (consX x M) = (mathFree x && mathFreeL M) := by
  cases x with
  | chars a =>
    cases M with
    | nil => rfl
    | cons y r => cases y <;> rfl
  | _ => rfl

theorem mathFreeL_mergeX (l : List XNode) : mathFreeL (mergeX l) = mathFreeL l := by
  induction l with
  | nil => rfl
  | cons x tl ih => rw [mergeX_cons, mathFreeL_consX, ih, mathFreeL]

theorem mathFreeL_pendX (w : Str) : mathFreeL (pendX w) = true := by
  unfold pendX
  split <;> rfl

/-- a body: the collector reaches the stop token; the nodes are exactly the merged exact nodes -/
theorem bodyX_runs {env : Pylx.Env} {f : PSFields} {stop : StopTok} {child : ChildPS} {pos n : Nat} {tr : List XNode} {tk : Token}
    (htol : env.tol = false) (hr : ReachesX env f stop child { pos := pos } tr n)
    (hpk : peekImpl (mkPS f) env.s (pos + n) = .tok tk) (hs : stop.test tk = true) (hsome : stop.isSome = true) :
    ∃ a b ns, Ev env (.pc (.general stop true child) f pos) (.ok (.list a b ns) tk.posEnd) ∧
      eraseNodes env.s ns = mergeX (tr ++ pendX tk.pre) := by
  obtain ⟨st', hp, hs', hc, hk⟩ := hr
  have hp' : st'.pos = pos + n := hp
  obtain ⟨e, he, hsh, hcan, herr, hst⟩ := loopX_stop (child := child) htol (st := st') (by rw [hp']; exact hpk) hs
  have := general_of_loop_stop htol (hk _ he) herr hst hsome
  refine ⟨_, _, e.nodes, this, ?_⟩
  rw [← hcan (hc (canon_start env.s pos)), hsh]
  have : mergeX (shX env.s st') = mergeX tr := by rw [hs']; rfl
  exact mergeX_append_left this _

/-! ### source slices -/

theorem slice_of_drop {s : Str} {p : Nat} {A R : Str} (h : s.drop p = A ++ R) : slice s p (p + A.length) = A :=
  slice_of_prefix s A p ⟨R, h.symm⟩

/-- two positions in front of the same non-empty tail -/
theorem pos_of_drops {s : Str} {a b : Nat} {B w T : Str} (ha : s.drop a = B ++ T) (hb : s.drop b = w ++ T) (hT : T ≠ []) :
    a + B.length = b + w.length := by
  have h1 : (s.drop a).length = (B ++ T).length := by rw [ha]
  have h2 : (s.drop b).length = (w ++ T).length := by rw [hb]
  simp only [List.length_drop, List.length_append] at h1 h2
  have : 0 < T.length := List.length_pos_iff.mpr hT
  omega

end Pylx.L2T.C03S
