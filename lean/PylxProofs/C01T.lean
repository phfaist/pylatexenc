/-
  C01T — C01, tolerant clause: whatever nodes the tolerant parser returns on an arbitrary string are inside
  the input, and the children of every node (arguments before body, in document order) lie inside its span
  without overlapping.  Theorems about `Pylx.run` / `Pylx.parseTop` with `tol := true`, for every amount of fuel.

  What the tolerant clause adds to the strict one (C01.lean) are the recovery paths: every `PErr` the model
  constructs carries recovery nodes that are chained between the position where the failing parser was
  started and the position `parse_content` moves the reader to (`recoverPos`).
-/
import PylxProofs.C01TLoop
namespace Pylx

section resT
variable {s : Str}

theorem argResT_none {pos pos' : Nat} (h : pos ≤ pos') : ArgResT s pos pos' .none :=
  ⟨Chain.nil h, allNT_nil _⟩

theorem argResT_emptyList {pos pos' : Nat} (p e : Option Nat) (h : pos ≤ pos') : ArgResT s pos pos' (.list p e []) :=
  ⟨Chain.nil h, allNT_nil _⟩

theorem argResT_node {n : Node} {pos pos' : Nat} (h1 : pos ≤ n.pos) (h2 : n.posEnd ≤ pos') (h3 : AllNT s [n]) :
    ArgResT s pos pos' (.node n) :=
  ⟨Chain.single h1 (allNT_single.mp h3).1.1 h2, h3⟩

theorem ArgResT.weaken {a b a' b' : Nat} {res : Res} (h : ArgResT s a b res) (ha : a' ≤ a) (hb : b ≤ b') :
    ArgResT s a' b' res :=
  ⟨h.1.weaken ha hb, h.2⟩

theorem body_chainT {res : Res} {a b : Nat} (h : ArgResT s a b res) :
    Chain ((bodyOf res).getD []) a b ∧ AllNT s ((bodyOf res).getD []) := by
  cases res with
  | list p e ns => exact h
  | _ => exact ⟨Chain.nil h.1.le, allNT_nil _⟩

/-- a sub-parse that did not return `ok`: by its contract it is no parse error, so it is passed on as it is -/
theorem rawPostT_other {p p' : Parser} {pos pos' : Nat} {r : Ret} (h : PostT s p' pos' r)
    (hne : ∀ res q, r ≠ .ok res q) : RawSat true (PostT s p pos) (.ret r) := by
  cases r with
  | ok res q => exact absurd rfl (hne res q)
  | perr e => exact h.elim
  | _ => trivial

theorem allNT_around {n : Node} {res : Res} {a b : Nat} (hc : n.children = (bodyOf res).getD []) (hp : n.pos ≤ a)
    (hb : ArgResT s a b res) (he : n.posEnd = b) (hle : n.pos ≤ n.posEnd) (hin : n.posEnd ≤ s.length) : AllNT s [n] := by
  obtain ⟨b1, b2⟩ := body_chainT hb
  rw [allNT_single, hc]
  exact ⟨⟨hle, hin, hc ▸ b1.weaken hp (Nat.le_of_eq he.symm)⟩, b2⟩

end resT

section parsersT
variable {env : Env} {cs : Str} {rec : Task → Ret}

theorem rawGeneral_postT (ih : ∀ t, GoodT env.s cs t (rec t)) {stop : StopTok} {require : Bool} {child : ChildPS}
    {f : PSFields} {pos : Nat} (hf : FOk cs f) (hc : ChildOk cs child) (hpos : pos ≤ env.s.length) :
    RawSat true (PostT env.s (.general stop require child) pos) (rawGeneral rec stop require child f pos) := by
  have hl := ih (.loop f stop child { pos := pos }) hf hc pos pos
    (LInvT.ofFlushed (Chain.nil (Nat.le_refl _)) (allNT_nil _) rfl rfl (Nat.le_refl _) hpos)
  have hnl : ∀ e q, rec (.loop f stop child { pos := pos }) = .loopEnd e → q ≤ env.s.length → e.pos ≤ q →
      PostT env.s (.general stop require child) pos (.ok (listOf e.nodes (some pos) (some pos)) q) := by
    intro e q hr hq1 hq2
    rw [hr] at hl
    have hle := hl.1.le
    exact ⟨by omega, hq1, hl.1.weaken (Nat.le_refl _) hq2, hl.2.1⟩
  have hend : ∀ e, rec (.loop f stop child { pos := pos }) = .loopEnd e → e.pos ≤ env.s.length := by
    intro e hr; rw [hr] at hl; exact hl.2.2.1
  apply rawGeneral_elim
  · intro e _ hr _; exact hnl e e.pos hr (hend e hr) (Nat.le_refl _)
  · intro e hr _ _ _ _; exact hnl e e.pos hr (hend e hr) (Nat.le_refl _)
  · intro e t hr _ hst
    have h4 := hend e hr
    rw [hr] at hl
    obtain ⟨h5, h6⟩ := hl.2.2.2 t hst
    refine hnl e _ hr ?_ ?_ <;> split <;> omega
  · intro e hr _ _ _; exact hnl e e.pos hr (hend e hr) (Nat.le_refl _)
  · intro _; trivial
  · intro _ _ _; trivial

theorem rawGroup_postT (htol : env.tol = true) (ih : ∀ t, GoodT env.s cs t (rec t)) {d : GroupDelims} {opt ap : Bool}
    {f : PSFields} {pos : Nat} (hf : FOk cs f) (hpos : pos ≤ env.s.length) :
    RawSat true (PostT env.s (.group d opt ap) pos) (rawGroup env rec d opt ap f pos) := by
  have hnone : PostT env.s (.group d opt ap) pos (.ok .none pos) := ⟨Nat.le_refl _, hpos, argResT_none (Nat.le_refl _)⟩
  apply rawGroup_elim
  · intro _ _; trivial
  · intro _ _ _ _; exact hnone
  · intro _ _ _ _ _ _ _ h; exact nomatch htol.symm.trans h
  · intro g t hg hpk
    rw [htol] at hpk
    have hgf := hf.groupState hg
    have ht := tokInfoT_of_peek hgf hpk
    have h1 := ht.pos_eq
    have h2 := ht.le
    have h3 := ht.in_range
    have hmv := moveToToken_of_pos_eq ht.pos_eq
    have := fun c => ih (.pc (.general (.braceClose c) true (.group d.opener g f)) g t.posEnd) hgf h3 ⟨hgf, hf⟩
    apply rawGroupTok_elim
    · intro _ _ _; trivial
    · intro c res p _ _ hr
      have := this c
      rw [hr] at this
      obtain ⟨h4, h5, h6⟩ := this
      exact ⟨by omega, h5, argResT_node (by show pos ≤ t.pos; omega) (Nat.le_refl _)
        (allNT_around rfl h2 h6 rfl (by show t.pos ≤ p; omega) h5)⟩
    · intro c _ _ hne; exact rawPostT_other (this c) hne
    · intro _ _; rw [← moveToToken_true, hmv]; exact hnone
    · intro _ _
      show PostT env.s _ pos (.ok (.list (some t.pos) (some t.pos) []) (moveToToken t true))
      rw [hmv]
      exact ⟨Nat.le_refl _, hpos, argResT_emptyList _ _ (Nat.le_refl _)⟩

theorem rawMath_postT (htol : env.tol = true) (ih : ∀ t, GoodT env.s cs t (rec t)) {d : Str}
    {f : PSFields} {pos : Nat} (hf : FOk cs f) (hpos : pos ≤ env.s.length) :
    RawSat true (PostT env.s (.math d) pos) (rawMath env rec d f pos) := by
  apply rawMath_elim
  · intro _ _; exact ⟨Nat.le_refl _, hpos, argResT_none (Nat.le_refl _)⟩
  · intro _ _ _ _ _ h; exact nomatch htol.symm.trans h
  · intro t hpk
    rw [htol] at hpk
    have ht := tokInfoT_of_peek hf hpk
    have h1 := ht.pos_eq
    have h2 := ht.le
    have h3 := ht.in_range
    have := fun c => ih (.pc (.general (.mathClose (t.kind == .mathDisplay) c) true .same) (mathFields f t.arg) t.posEnd)
      (hf.mathFields _) h3 trivial
    apply rawMathTok_elim
    · intro _ _ _; trivial
    · intro cd res p _ _ hr
      have := this cd.1
      rw [hr] at this
      obtain ⟨h4, h5, h6⟩ := this
      exact ⟨by omega, h5, argResT_node (by show pos ≤ t.pos; omega) (Nat.le_refl _)
        (allNT_around rfl h2 h6 rfl (by show t.pos ≤ p; omega) h5)⟩
    · intro cd _ _ hne; exact rawPostT_other (this cd.1) hne
    · intro _
      show PostT env.s _ pos (.ok (.list (some t.pos) (some t.pos) []) (moveToToken t true))
      rw [moveToToken_of_pos_eq ht.pos_eq]
      exact ⟨Nat.le_refl _, hpos, argResT_emptyList _ _ (Nat.le_refl _)⟩

theorem rawEnvBody_postT (ih : ∀ t, GoodT env.s cs t (rec t)) {name : Str}
    {f : PSFields} {pos : Nat} (hf : FOk cs f) (hpos : pos ≤ env.s.length) :
    RawSat true (PostT env.s (.envBody name) pos) (rawEnvBody rec name f pos) := by
  have := ih (.pc (.general (.endEnv name) true .same) f pos) hf hpos trivial
  apply rawEnvBody_elim
  · intro p hr; rw [hr] at this; exact ⟨this.1, this.2.1, argResT_emptyList _ _ this.1⟩
  · intro res p hr _; rw [hr] at this; exact this
  · exact rawPostT_other this

theorem rawCall_postT (ih : ∀ t, GoodT env.s cs t (rec t)) {P : Parser} {mk : Nat → Option (List Arg) → Node} {a : ArgsP}
    {f : PSFields} {pos tpos : Nat} (hP : ∀ q res, ArgResT env.s tpos q res → ResGoodT env.s P pos q res)
    (hf : FOk cs f) (hpos : pos ≤ env.s.length) (htp : tpos ≤ pos)
    (hmk : ∀ e args, (mk e args).pos = tpos ∧ (mk e args).posEnd = e ∧ (mk e args).children = argNodes args) :
    RawSat true (PostT env.s P pos) (rawCall rec mk a f pos) := by
  have := ih (.pc (.arguments a) f pos) hf hpos trivial
  apply rawCall_elim
  · intro res p hr
    rw [hr] at this
    obtain ⟨h4, h5, h7, h8⟩ := this
    obtain ⟨m1, m2, m3⟩ := hmk p (argsOf res)
    refine ⟨h4, h5, hP _ _ (argResT_node (Nat.le_of_eq m1.symm) (Nat.le_of_eq m2) ?_)⟩
    rw [allNT_single, m3]
    exact ⟨⟨by omega, by rw [m2]; exact h5, by rw [m3, m1, m2]; exact h7.weaken htp (Nat.le_refl _)⟩, h8⟩
  · exact rawPostT_other this

theorem rawEnvCall_postT (ih : ∀ t, GoodT env.s cs t (rec t)) {t : Token} {a : ArgsP} {bm : Bool}
    {f : PSFields} {pos : Nat} (hf : FOk cs f) (hpos : pos ≤ env.s.length) (htp : t.pos ≤ pos) :
    RawSat true (PostT env.s (.envCall t a bm) pos) (rawEnvCall rec t a bm f pos) := by
  have ha := ih (.pc (.arguments a) f pos) hf hpos trivial
  have hbf : FOk cs (if bm = true then applyDelta f .enterMath else f) := by
    split
    · exact hf.applyDelta _
    · exact hf
  have hb := fun p => ih (.pc (.envBody t.arg) (if bm = true then applyDelta f .enterMath else f) p) hbf
  apply rawEnvCall_elim
  · intro ares p bres p2 hr hr2
    rw [hr] at ha
    obtain ⟨h4, h5, h7, h8⟩ := ha
    have hb := hb p h5 trivial
    rw [hr2] at hb
    obtain ⟨g4, g5, g6⟩ := hb
    obtain ⟨b1, b2⟩ := body_chainT g6
    refine ⟨by omega, g5, argResT_node (Nat.le_refl _) (Nat.le_refl _) ?_⟩
    rw [allNT_single]
    refine ⟨⟨by show t.pos ≤ p2; omega, g5, ?_⟩, ?_⟩
    · show Chain (argNodes (argsOf ares) ++ (bodyOf bres).getD []) t.pos p2
      exact (h7.weaken htp (Nat.le_refl _)).append b1
    · show AllNT _ (argNodes (argsOf ares) ++ (bodyOf bres).getD [])
      exact allNT_append.mpr ⟨h8, b2⟩
  · exact rawPostT_other ha
  · intro ares p hr
    rw [hr] at ha
    exact rawPostT_other (hb p ha.2.1 trivial)

theorem argsNone_postT {a : ArgsP} {pos : Nat} (hpos : pos ≤ env.s.length) :
    PostT env.s (.arguments a) pos (.ok .none pos) :=
  ⟨Nat.le_refl _, hpos, Chain.nil (Nat.le_refl _), allNT_nil _⟩

theorem rawLegacyVerb_postT {f : PSFields} {pos : Nat} {a : ArgsP} (hpos : pos ≤ env.s.length) :
    RawSat true (PostT env.s (.arguments a) pos) (rawLegacyVerb env f pos) := by
  apply rawLegacyVerb_elim
  · intro _ _ _; exact argsNone_postT hpos
  · intro _ _ _ _ _; exact argsNone_postT hpos
  · intro p d e hp hd he
    have hlt := getElem?_lt _ _ _ hd
    obtain ⟨h1, h2⟩ := findCharFrom_spec _ _ _ _ he
    exact ⟨by omega, by omega, Chain.single (by show pos ≤ p + 1; omega) h1 (by show e ≤ e + 1; omega),
      allNT_chars _ _ _ _ h1 (by omega)⟩

theorem legacyFinish_postT {name : Str} {f : PSFields} {pos p : Nat} {pre : List Arg} {a : ArgsP}
    (hpos : pos ≤ env.s.length) (hp : pos ≤ p) (hch : Chain (pre.flatMap Arg.nodes) pos p)
    (hok : AllNT env.s (pre.flatMap Arg.nodes)) :
    RawSat true (PostT env.s (.arguments a) pos) (legacyVerbEnvFinish env name f pos pre p) := by
  apply legacyVerbEnvFinish_elim
  · intro _; exact argsNone_postT hpos
  · intro e he
    obtain ⟨h1, h2⟩ := findStrFrom_spec _ _ _ _ he
    refine ⟨by omega, h2, ?_, ?_⟩
    · show Chain ((pre ++ [Arg.node (Node.chars p e (psInfo f) (slice env.s p e))]).flatMap Arg.nodes) pos e
      rw [List.flatMap_append]
      exact hch.append (Chain.single (Nat.le_refl _) h1 (Nat.le_refl _))
    · show AllNT _ ((pre ++ [Arg.node (Node.chars p e (psInfo f) (slice env.s p e))]).flatMap Arg.nodes)
      rw [List.flatMap_append]
      exact allNT_append.mpr ⟨hok, allNT_chars _ _ _ _ h1 h2⟩

theorem rawLegacyVerbEnv_postT (ih : ∀ t, GoodT env.s cs t (rec t)) {name : Str} {optArg : Bool}
    {f : PSFields} {pos : Nat} {a : ArgsP} (hf : FOk cs f) (hpos : pos ≤ env.s.length) :
    RawSat true (PostT env.s (.arguments a) pos) (rawLegacyVerbEnv env rec name optArg f pos) := by
  have hnil : ∀ l : List Arg, l.flatMap Arg.nodes = [] → RawSat true (PostT env.s (.arguments a) pos)
      (legacyVerbEnvFinish env name f pos l pos) := by
    intro l hl
    exact legacyFinish_postT hpos (Nat.le_refl _) (by rw [hl]; exact Chain.nil (Nat.le_refl _))
      (by rw [hl]; exact allNT_nil _)
  have := ih (.pc (.group (.pair ['['] [']']) true false) f pos) hf hpos trivial
  apply rawLegacyVerbEnv_elim
  · intro _; exact hnil _ rfl
  · intro _ _; exact hnil _ rfl
  · intro n p _ hr
    rw [hr] at this
    obtain ⟨h4, h5, h6, h7⟩ := this
    have h6 : Chain [n] pos p := h6
    cases h6 with
    | cons c1 c2 c3 => exact legacyFinish_postT hpos (by omega) (Chain.single c1 c2 (Nat.le_refl _)) h7
  · intro _ _ _ _ _; exact hnil _ rfl
  · intro _; exact rawPostT_other this

theorem argResT_of_argParser {s : Str} (k : ArgKind) {pos pos' : Nat} {res : Res}
    (h : ResGoodT s (argParser k) pos pos' res) : ArgResT s pos pos' res := by
  cases k <;> exact h

theorem argsLoop_postT (ih : ∀ t, GoodT env.s cs t (rec t)) {f : PSFields} (hf : FOk cs f)
    (a : ArgsP) (pos0 : Nat) :
    ∀ (l : List ArgSpec) (acc : List Arg) (pos : Nat), pos0 ≤ pos → pos ≤ env.s.length →
      Chain (acc.flatMap Arg.nodes) pos0 pos → AllNT env.s (acc.flatMap Arg.nodes) →
      RawSat true (PostT env.s (.arguments a) pos0) (.ret (argsLoop env rec f l acc pos)) := by
  intro l
  induction l with
  | nil =>
    intro acc pos h1 h2 h3 h4
    rw [argsLoop_nil]
    exact ⟨h1, h2, h3, h4⟩
  | cons x rest ihl =>
    intro acc pos h1 h2 h3 h4
    have := ih (.pc (argParser x.kind) (applyDelta f x.delta) pos) (hf.applyDelta _) h2 (argParser_ppre _ _ _)
    refine argsLoop_cons_elim (motive := fun r => RawSat true (PostT env.s (.arguments a) pos0) (.ret r)) ?_ ?_ ?_
    · intro _ _ _ _ _ _; exact ⟨h1, h2, Chain.nil h1, allNT_nil _⟩
    · intro res p hr
      rw [hr] at this
      obtain ⟨g1, g2, g3⟩ := this
      obtain ⟨g4, g5⟩ := argResT_of_argParser x.kind g3
      refine ihl _ p (by omega) g2 ?_ ?_
      · rw [List.flatMap_append, List.flatMap_singleton]
        exact h3.append g4
      · rw [List.flatMap_append, List.flatMap_singleton]
        exact allNT_append.mpr ⟨h4, g5⟩
    · exact rawPostT_other this

theorem rawArguments_postT (ih : ∀ t, GoodT env.s cs t (rec t)) {a : ArgsP}
    {f : PSFields} {pos : Nat} (hf : FOk cs f) (hpos : pos ≤ env.s.length) :
    RawSat true (PostT env.s (.arguments a) pos) (rawArguments env rec a f pos) := by
  cases a with
  | std l => exact argsLoop_postT ih hf _ pos l [] pos (Nat.le_refl _) hpos (Chain.nil (Nat.le_refl _)) (allNT_nil _)
  | legacyVerb => exact rawLegacyVerb_postT hpos
  | legacyVerbEnv name optArg => exact rawLegacyVerbEnv_postT ih hf hpos
  | unknown => trivial

end parsersT

section singleT
variable {env : Env} {cs : Str} {rec : Task → Ret}

theorem SkOkT.mono {sk : List Node} {pos0 pos pos1 : Nat} (h : SkOkT sk pos0 pos) (hle : pos ≤ pos1) :
    SkOkT sk pos0 pos1 := by
  intro n hn
  obtain ⟨a, b, c, d⟩ := h n hn
  exact ⟨a, b, by omega, d⟩

theorem SkOkT.snoc {sk : List Node} {pos0 pos : Nat} {x : Node} (h : SkOkT sk pos0 pos)
    (hx : pos0 ≤ x.pos ∧ x.pos ≤ x.posEnd ∧ x.posEnd ≤ pos ∧ x.children = []) : SkOkT (sk ++ [x]) pos0 pos := by
  intro n hn
  rcases List.mem_append.mp hn with hn | hn
  · exact h n hn
  · rw [List.mem_singleton.mp hn]; exact hx

theorem skOkT_nil (pos0 pos : Nat) : SkOkT [] pos0 pos := by
  intro n hn; cases hn

theorem exprFinish_T {s : Str} (f : PSFields) {sk : List Node} {pos0 pos : Nat} (hsk : SkOkT sk pos0 pos)
    (h0 : pos0 ≤ pos) (hp : pos ≤ s.length) : ExprPostT s pos0 (exprFinish f sk pos) := by
  rcases List.eq_nil_or_concat sk with hnil | ⟨ys, n, hys⟩
  · rw [hnil, exprFinish_nil]
    exact ⟨h0, hp, argResT_node h0 (Nat.le_refl _) (allNT_leaf rfl (Nat.le_refl _) hp)⟩
  · rw [List.concat_eq_append] at hys
    obtain ⟨a, b, c, d⟩ := hsk n (by rw [hys]; exact List.mem_append_right _ List.mem_cons_self)
    rw [hys, exprFinish_snoc]
    exact ⟨h0, hp, argResT_node a c (allNT_leaf d b (by omega))⟩

theorem leafT {s : Str} {pos0 pos : Nat} {t : Token} (ht : TokInfoT s pos t) (h0 : pos0 ≤ pos)
    (x : Node) (hp : x.pos = t.pos) (he : x.posEnd = t.posEnd) (hc : x.children = []) :
    pos0 ≤ t.posEnd ∧ t.posEnd ≤ s.length ∧ ArgResT s pos0 t.posEnd (.node x) := by
  have h1 := ht.pos_eq
  have h2 := ht.le
  have h3 := ht.in_range
  exact ⟨by omega, h3, argResT_node (by rw [hp]; omega) (Nat.le_of_eq he)
    (allNT_leaf hc (by rw [hp, he]; exact h2) (he ▸ h3))⟩

theorem exprOnTok_postT (ih : ∀ t, GoodT env.s cs t (rec t)) {ap : Bool} {sk : List Node}
    {f : PSFields} {pos0 pos : Nat} {t : Token} (hf : FOk cs f) (ht : TokInfoT env.s pos t) (hpre : t.pre = [])
    (h0 : pos0 ≤ pos) (hsk : SkOkT sk pos0 pos) :
    ExprPostT env.s pos0 (exprOnTok env rec ap sk f t) := by
  have h1 : t.pos = pos := by have := ht.pos_eq; rw [hpre, List.length_nil] at this; exact this
  have h2 := ht.le
  have h3 := ht.in_range
  apply exprOnTok_elim
  · intro _ _
    exact ih (.expr ap _ f t.posEnd) hf h3 pos0 (by omega)
      ((hsk.mono (by omega)).snoc ⟨by show pos0 ≤ t.pos; omega, h2, Nat.le_refl _, rfl⟩)
  · intro _ _ _; exact ih (.expr ap sk f t.posEnd) hf h3 pos0 (by omega) (hsk.mono (by omega))
  · intro _ _ _
    exact ⟨by show pos0 ≤ t.posEnd; omega, h3, argResT_none (by show pos0 ≤ t.posEnd; omega)⟩
  · intro n p _ hr
    have := ih (.pc (.group (.auto t.arg) false false) f t.pos) hf (by omega) trivial
    rw [hr] at this
    rw [exprFinish_snoc]
    exact ⟨by have := this.1; omega, this.2.1, ArgResT.weaken this.2.2 (by omega) (Nat.le_refl _)⟩
  · intro _ hne
    have := ih (.pc (.group (.auto t.arg) false false) f t.pos) hf (by omega) trivial
    cases hr : rec (.pc (.group (.auto t.arg) false false) f t.pos) with
    | ok res q => exact absurd hr (hne res q)
    | perr e => rw [hr] at this; exact this.elim
    | _ => trivial
  · intro _
    show pos0 ≤ moveToToken t true ∧ moveToToken t true ≤ env.s.length ∧
      ArgResT env.s pos0 (moveToToken t true) (.node (Node.chars t.pos t.pos (psInfo f) []))
    rw [moveToToken_of_pos_eq ht.pos_eq, ← h1]
    exact ⟨by omega, by omega, argResT_node (by show pos0 ≤ t.pos; omega) (Nat.le_refl _)
      (allNT_chars _ _ _ _ (Nat.le_refl _) (by omega))⟩
  · intro _; rw [exprFinish_snoc]; exact leafT ht h0 _ rfl rfl rfl
  · intro _
    show pos0 ≤ t.posEnd ∧ t.posEnd ≤ env.s.length ∧ ArgResT env.s pos0 t.posEnd (.node _)
    refine leafT ht h0 _ ?_ ?_ ?_ <;> (split <;> rfl)
  · intro _ _; trivial

theorem exprTok_postT (ih : ∀ t, GoodT env.s cs t (rec t)) {ap : Bool} {sk : List Node}
    {f : PSFields} {pos0 pos : Nat} {t : Token} (hf : FOk cs f) (ht : TokInfoT env.s pos t)
    (h0 : pos0 ≤ pos) (hsk : SkOkT sk pos0 pos) :
    ExprPostT env.s pos0 (exprTok env rec ap sk f t) := by
  have h1 := ht.pos_eq
  have h2 := ht.le
  have h3 := ht.in_range
  have hleaf : ∀ x : Node, x.pos = t.pos → x.posEnd = t.posEnd → x.children = [] →
      ExprPostT env.s pos0 (exprFinish f (sk ++ [x]) t.posEnd) :=
    fun x hp he hc => by rw [exprFinish_snoc]; exact leafT ht h0 x hp he hc
  apply exprTok_elim
  · intro _ _ _; exact hleaf _ rfl rfl rfl
  · intro _ _ _
    exact ⟨by show pos0 ≤ t.posEnd; omega, h3, argResT_none (by show pos0 ≤ t.posEnd; omega)⟩
  · intro _ _; exact hleaf _ rfl rfl rfl
  · intro _; exact hleaf _ rfl rfl rfl
  · intro _ _ _ _
    exact ih (.expr ap _ f t.pos) hf (by omega) pos0 (by omega)
      ((hsk.mono (by omega)).snoc ⟨by show pos0 ≤ t.pos - _; omega, by show t.pos - _ ≤ t.pos; omega,
        Nat.le_refl _, rfl⟩)
  · intro _ _ _ _ _; exact ih (.expr ap sk f t.posEnd) hf h3 pos0 (by omega) (hsk.mono (by omega))
  · intro _ _ _ _ _
    exact ⟨by show pos0 ≤ t.posEnd; omega, h3, argResT_none (by show pos0 ≤ t.posEnd; omega)⟩
  · intro _ _ hpre; exact exprOnTok_postT ih hf ht hpre h0 hsk

theorem exprStep_goodT (htol : env.tol = true) (ih : ∀ t, GoodT env.s cs t (rec t)) (ap : Bool) (sk : List Node)
    (f : PSFields) (pos : Nat) : GoodT env.s cs (.expr ap sk f pos) (exprStep env rec ap sk f pos) := by
  intro hf hpos pos0 h0 hsk
  apply exprStep_elim
  · intro _ _ _ _ _ _; exact ⟨h0, hpos, argResT_none h0⟩
  · intro _; exact exprFinish_T f hsk h0 hpos
  · intro _; exact ⟨h0, hpos, argResT_none h0⟩
  · intro t hpk
    rw [htol] at hpk
    exact exprTok_postT ih hf (tokInfoT_of_peek hf.noEnvs hpk) h0 hsk

theorem rawMarker_postT (htol : env.tol = true) {c : Char} {fl ap : Bool} {f : PSFields} {pos : Nat}
    (hf : FOk cs f) (hpos : pos ≤ env.s.length) :
    RawSat true (PostT env.s (.marker c fl ap) pos) (rawMarker env c fl ap f pos) := by
  have hnone : PostT env.s (.marker c fl ap) pos (.ok .none pos) :=
    ⟨Nat.le_refl _, hpos, argResT_none (Nat.le_refl _)⟩
  apply rawMarker_elim
  · intro _ _; exact hnone
  · intro _ _ _ _ _ _; exact hnone
  · intro t hpk _ _ _
    rw [htol] at hpk
    have ht := tokInfoT_of_peek hf hpk
    have h1 := ht.pos_eq
    have h2 := ht.le
    have h3 := ht.in_range
    have hn : AllNT env.s [Node.chars t.pos t.posEnd (psInfo f) [c]] := allNT_chars _ _ _ _ h2 h3
    have hch : Chain [Node.chars t.pos t.posEnd (psInfo f) [c]] pos t.posEnd :=
      Chain.single (by show pos ≤ t.pos; omega) h2 (Nat.le_refl _)
    refine ⟨by omega, h3, ?_⟩
    cases fl
    · exact ⟨hch, hn⟩
    · exact ⟨hch, hn⟩
  · intro _ _ _ _; exact hnone
  · intro _ _; exact hnone

theorem rawVerbatim_postT {delims : Option (Char × Char)} {f : PSFields} {pos : Nat} (hpos : pos ≤ env.s.length) :
    RawSat true (PostT env.s (.verbatim delims) pos) (rawVerbatim env delims f pos) := by
  have hsp := spaceRun_length_le env.s pos
  apply rawVerbatim_elim
  · intro p hp _; exact ⟨by omega, by omega, argResT_none (by omega)⟩
  · intro p first hp hfirst _
    have hlt := getElem?_lt _ _ _ hfirst
    exact ⟨by show pos ≤ p + 1; omega, by show p + 1 ≤ _; omega, argResT_none (by show pos ≤ p + 1; omega)⟩
  · intro p first o c e hp hfirst _ he
    have hlt := getElem?_lt _ _ _ hfirst
    obtain ⟨g1, g2⟩ := verbScan_spec _ _ _ _ _ _ he
    rw [List.length_drop] at g2
    refine ⟨by omega, by omega, argResT_node (by show pos ≤ p; omega) (Nat.le_refl _) ?_⟩
    rw [allNT_single]
    exact ⟨⟨by show p ≤ e + 1; omega, by show e + 1 ≤ _; omega,
      Chain.single (by show p ≤ p + 1; omega) g1 (by show e ≤ e + 1; omega)⟩, allNT_chars _ _ _ _ g1 (by omega)⟩
  · intro p first o c hp hfirst _ _
    have hlt := getElem?_lt _ _ _ hfirst
    exact ⟨hpos, Nat.le_refl _, argResT_node (by show pos ≤ p + 1; omega) (Nat.le_refl _)
      (allNT_chars _ _ _ _ (by omega) (Nat.le_refl _))⟩

end singleT

section mainT
variable {env : Env} {cs : Str}

theorem step_goodT (htol : env.tol = true) {rec : Task → Ret} (ih : ∀ t, GoodT env.s cs t (rec t)) :
    ∀ t, GoodT env.s cs t (step env rec t) := by
  intro t
  cases t with
  | loop f stop child st => exact loopStep_goodT htol ih f stop child st
  | expr ap sk f pos => exact exprStep_goodT htol ih ap sk f pos
  | pc p f pos =>
    intro hf hpos hpre
    show RawSat env.tol (PostT env.s p pos) (rawParse env rec p f pos)
    rw [htol]
    cases p with
    | general stop require child => exact rawGeneral_postT ih hf hpre hpos
    | group d o a => exact rawGroup_postT htol ih hf hpos
    | math d => exact rawMath_postT htol ih hf hpos
    | envBody n => exact rawEnvBody_postT ih hf hpos
    | macroCall t a => exact rawCall_postT ih (fun _ _ h => h) hf hpos hpre (fun e args => ⟨rfl, rfl, rfl⟩)
    | specialsCall t a => exact rawCall_postT ih (fun _ _ h => h) hf hpos hpre (fun e args => ⟨rfl, rfl, rfl⟩)
    | envCall t a bm => exact rawEnvCall_postT ih hf hpos hpre
    | arguments a => exact rawArguments_postT ih hf hpos
    | expression ap =>
      have := ih (.expr ap [] f pos) hf hpos pos (Nat.le_refl _) (skOkT_nil _ _)
      show RawSat true (PostT env.s _ pos) (.ret (rec (.expr ap [] f pos)))
      cases hr : rec (.expr ap [] f pos) with
      | ok res p' => rw [hr] at this; exact this
      | perr e => rw [hr] at this; exact this
      | _ => trivial
    | marker c fl ap => exact rawMarker_postT htol hf hpos
    | verbatim d => exact rawVerbatim_postT hpos

theorem goodT_fuel (s cs : Str) : ∀ t, GoodT s cs t .fuel := by
  intro t
  cases t with
  | pc p f pos => intro _ _ _; trivial
  | loop f stop child st => intro _ _ _ _ _; trivial
  | expr ap sk f pos => intro _ _ _ _ _; trivial

theorem run_goodT (htol : env.tol = true) : ∀ n t, GoodT env.s cs t (run env n t) :=
  run_inv (goodT_fuel _ _) (fun _ => step_goodT htol)

end mainT

/-- **C01 (tolerant), strongest form.**  The only fact about the starting state that the proof uses is that its
    math delimiters are non-empty strings.  The reader ends inside the input, the top-level nodes are chained
    (in document order, without overlap) between the start and the final reader position, and every node of
    the tree is inside the input with its children chained inside its span. -/
theorem C01_tolerant_of_delims (ctx : Ctx) (s : Str) (f : PSFields) (hd : DelimsOk f) (n : Nat)
    (p e : Option Nat) (ns : List Node) (pos : Nat)
    (h : run { tol := true, ctx := ctx, s := s } n (topTask f) = .ok (.list p e ns) pos) :
    (∀ x ∈ subnodesList ns, NodeNested s x) ∧ Chain ns 0 pos ∧ pos ≤ s.length := by
  have := run_goodT (env := { tol := true, ctx := ctx, s := s }) (cs := f.commentStart) rfl n (topTask f)
    ⟨rfl, hd⟩ (Nat.zero_le _) trivial
  rw [h] at this
  obtain ⟨_, h2, h3, h4⟩ := this
  exact ⟨h4, h3, h2⟩

/-- **C01 (tolerant).**  For every amount of fuel and every input: every node of the tree the tolerant parser
    returns lies inside the input (`pos ≤ posEnd ≤ len`) and its children (arguments before body, in document
    order) lie inside its span without overlapping; the top-level nodes are chained inside the input. -/
theorem C01_tolerant (ctx : Ctx) (s : Str) (f : PSFields) (hf : StartOk ctx f) (n : Nat)
    (p e : Option Nat) (ns : List Node) (pos : Nat)
    (h : run { tol := true, ctx := ctx, s := s } n (topTask f) = .ok (.list p e ns) pos) :
    (∀ x ∈ subnodesList ns, NodeNested s x) ∧ Chain ns 0 s.length :=
  have h' := C01_tolerant_of_delims ctx s f hf.mathDelims n p e ns pos h
  ⟨h'.1, h'.2.1.weaken (Nat.le_refl _) h'.2.2⟩

/-- **C01 (tolerant, top).**  The instance for `parseTop` (fuel `fuelFor s`). -/
theorem C01_tolerant_top (ctx : Ctx) (s : Str) (f : PSFields) (hf : StartOk ctx f)
    (p e : Option Nat) (ns : List Node) (pos : Nat)
    (h : parseTop { tol := true, ctx := ctx, s := s } f = .ok (.list p e ns) pos) :
    (∀ x ∈ subnodesList ns, NodeNested s x) ∧ Chain ns 0 s.length :=
  C01_tolerant ctx s f hf (fuelFor s) p e ns pos h

/-- **C01 (nesting, both modes).**  The in-range / nesting part of C01 holds for the result of a parse in
    either mode. -/
theorem C01_nested (tol : Bool) (ctx : Ctx) (s : Str) (f : PSFields) (hf : StartOk ctx f) (n : Nat)
    (p e : Option Nat) (ns : List Node) (pos : Nat)
    (h : run { tol := tol, ctx := ctx, s := s } n (topTask f) = .ok (.list p e ns) pos) :
    (∀ x ∈ subnodesList ns, NodeNested s x) ∧ Chain ns 0 s.length := by
  cases tol with
  | true => exact C01_tolerant ctx s f hf n p e ns pos h
  | false =>
    obtain ⟨h1, _, h3⟩ := C01_strict ctx s f hf n p e ns pos h
    exact ⟨fun x hx => ⟨(h3 x hx).1, (h3 x hx).2.1, (h3 x hx).2.2.1⟩, h1.toChain (Nat.le_refl _) (Nat.le_refl _)⟩

/-- the results of sub-parses satisfy the same statement (every `parse_content` call of a tolerant run):
    the contract `GoodT` holds for every task and every amount of fuel -/
theorem C01_tolerant_contract (ctx : Ctx) (s : Str) (cs : Str) (n : Nat) (t : Task) :
    GoodT s cs t (run { tol := true, ctx := ctx, s := s } n t) :=
  run_goodT (env := { tol := true, ctx := ctx, s := s }) rfl n t

def c01tExFields : PSFields := { specials := Gen.defaultCtx.specials.map (·.1) }

/-- the walker's default state for the default context satisfies the hypothesis -/
example : StartOk Gen.defaultCtx c01tExFields :=
  { hasCtx := rfl, specials := rfl, mathDelims := by decide, groupDelims := by decide,
    comment := by decide, normal := rfl }

/-- a tolerant parse with the default context that goes through two recoveries: `\textbf` followed by `$`
    (expression error, recovery node spanning the math delimiter, reader moved past it) inside an optional
    argument `[` … that is never closed (required stop condition not met, partial list kept); the result is one
    macro node `\sqrt` spanning the whole input: the hypotheses of `C01_tolerant_top` are satisfiable -/
example : ∃ p e ns, parseTop { tol := true, ctx := Gen.defaultCtx, s := "\\sqrt[x \\textbf $ y".toList } c01tExFields
    = .ok (.list p e ns) 19 ∧ ns.length = 1 :=
  isOkList_spec (by decide)

/-- a small context without a fallback for unknown macros -/
def c01tSmallCtx : Ctx := { macros := [("textbf".toList, .std [{ kind := .m }])] }

example : StartOk c01tSmallCtx {} :=
  { hasCtx := rfl, specials := rfl, mathDelims := by decide, groupDelims := by decide,
    comment := by decide, normal := rfl }

/-- the unknown macro `\unk` is skipped (gap in the node list), `\textbf` meets a closing brace (recovery:
    empty chars node, reader rewound to the brace), the stray brace ends the parse (recovery: reader moved past
    it): two top-level nodes, final reader position 14; with explicit fuel (hypothesis of `C01_tolerant`) -/
example : ∃ p e ns, run { tol := true, ctx := c01tSmallCtx, s := "a\\unk \\textbf}".toList } 12 (topTask {})
    = .ok (.list p e ns) 14 ∧ ns.length = 2 :=
  isOkList_spec (by decide)

end Pylx
