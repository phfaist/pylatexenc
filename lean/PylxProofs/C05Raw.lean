/-
  C05Raw — every parser's own `parse()` keeps the C05 contract; the step and fuel induction.
-/
import PylxProofs.C05Loop
namespace Pylx

variable {env : Env} {rec : Task → Ret}

attribute [local instance] TokKind.lawfulBEq

theorem ErrOk.simple {what : ErrWhat} {p rp : Nat} (hp : p ≤ env.s.length) (hrp : rp ≤ env.s.length) :
    ErrOk env { what := what, pos := some p, rpos := rp } :=
  ⟨⟨p, rfl, hp⟩, hrp, (fun _ h => nomatch h), (fun _ h => nomatch h), trivial⟩

theorem notFoundErr_ok {t : Token} (hloc : TokLoc env t) : ErrOk env (notFoundErr t) :=
  ⟨⟨t.pos, rfl, hloc.pos_len⟩, hloc.end_le, fun t' h => by cases h; exact hloc.pos_len, (fun _ h => nomatch h), trivial⟩

/-- an error that can only arise in strict mode, where recovery plays no part -/
theorem RawGood.strictErr {p : Parser} {e : PErr} (he : ErrOk env e) (htol : env.tol = false) :
    RawGood env p (.ret (.perr e)) :=
  ⟨he, fun h => nomatch htol.symm.trans h⟩

theorem tokErr_raw {p : Parser} {f : PSFields} (hf : FOk5 env f) {pos : Nat} (hpos : pos ≤ env.s.length)
    {w : TokErr} {ep : Nat} {t : Token} {r : Nat}
    (hpk : peekTok env.tol (mkPS f) env.s pos = .err w ep t r) :
    RawGood env p (.ret (.perr { what := tokErrWhat w, pos := some ep, rpos := pos })) :=
  .strictErr (.simple (peekTok_err_le hf.tables hpk) hpos) (peekTok_err_strict hpk)

/-! ### general nodes -/

theorem rawGeneral_good (hrec : RecOk env rec) {stop : StopTok} {req : Bool} {child : ChildPS} {f : PSFields}
    {pos : Nat} (hf : FOk5 env f) (hpos : pos ≤ env.s.length) (hch : ChildOk5 env f child) :
    RawGood env (.general stop req child) (rawGeneral rec stop req child f pos) := by
  have hl := hrec.loop (stop := stop) hf hch (st := { pos := pos })
    ⟨hpos, (fun p h => nomatch h), (fun n h => nomatch h)⟩
  apply rawGeneral_elim
  · intro e pe hr he
    rw [hr] at hl
    exact ⟨⟨hl.2.2.1 pe he, hl.1, (fun _ h => nomatch h), (fun _ h => nomatch h), trivial⟩, fun _ => trivial⟩
  · intro e hr _ _ _ _
    rw [hr] at hl
    refine ⟨⟨?_, hl.1, (fun _ h => nomatch h), (fun _ h => nomatch h), trivial⟩, fun _ => trivial⟩
    cases hn : e.nodes with
    | nil => exact ⟨pos, rfl, hpos⟩
    | cons n ns => exact ⟨n.pos, rfl, hl.2.1 n (by rw [hn]; exact List.mem_cons_self)⟩
  · intro e t hr _ hs
    rw [hr] at hl
    refine ⟨trivial, trivial, ?_⟩
    split
    · exact hl.2.2.2 t hs
    · exact hl.1
  · intro e hr _ _ _
    rw [hr] at hl
    exact ⟨trivial, trivial, hl.1⟩
  · intro _; trivial
  · intro _ hne hnf
    cases hr : rec (.loop f stop child { pos := pos }) with
    | loopEnd e => exact absurd hr (hne e)
    | fuel => exact absurd hr hnf
    | _ => rw [hr] at hl; exact hl.elim

/-! ### delimited group -/

theorem groupState_cases (d : GroupDelims) {f : PSFields} (hf : FOk5 env f)
    (hop : ∀ o, d = .auto o → f.groupDelims.any (fun x => x.1 == o) = true) :
    ∃ g, groupState d f = some g ∧ FOk5 env g ∧ ChildOk5 env g (.group d.opener g f) ∧
      (d.isAuto = true → g = f) ∧ ∃ c, groupCloser d g = some c := by
  cases d with
  | auto o =>
    have h := hop o rfl
    refine ⟨f, ?_, hf, ⟨rfl, hf, SameBut.refl f, h, fun a _ ha => ha⟩, fun _ => rfl, ?_⟩
    · unfold groupState
      simp only [mkPS_groupByOpen, h, if_true]
    · unfold groupCloser
      simp only [mkPS_groupByOpen]
      exact lookupLast_some_of_any _ _ h
  | pair o c =>
    by_cases hcont : f.groupDelims.contains (o, c) = true
    · refine ⟨f, ?_, hf, ⟨rfl, hf, SameBut.refl f, ?_, fun a _ ha => ha⟩, (fun h => nomatch h), c, rfl⟩
      · unfold groupState
        simp only [hcont, if_true]
      · have hm := List.contains_iff_mem.mp hcont
        exact List.any_eq_true.mpr ⟨(o, c), hm, by simp [GroupDelims.opener]⟩
    · refine ⟨{ f with groupDelims := f.groupDelims ++ [(o, c)] }, ?_, hf.upd f.inMath f.mathDelim _,
        ⟨rfl, hf, rfl, ?_, ?_⟩, (fun h => nomatch h), c, rfl⟩
      · unfold groupState
        simp only [hcont, if_false, Bool.false_eq_true]
      · simp [GroupDelims.opener, List.any_append]
      · intro a hne ha
        simp only [List.any_append, Bool.or_eq_true] at ha
        rcases ha with ha | ha
        · exact ha
        · exfalso
          simp only [GroupDelims.opener, List.any_cons, List.any_nil, Bool.or_false] at ha hne
          have : o = a := by simpa using ha
          rw [this] at hne
          simp at hne

theorem rawGroupTok_good (hrec : RecOk env rec) {d : GroupDelims} {opt ap : Bool} {f g : PSFields} {t : Token}
    (hg : FOk5 env g) (hch : ChildOk5 env g (.group d.opener g f)) {c : Str} (hcl : groupCloser d g = some c)
    (hloc : TokLoc env t)
    (hcond : env.tol = true → d.isAuto = true → opt = false → GroupOpens d ap t) :
    RawGood env (.group d opt ap) (rawGroupTok rec d opt ap f g t) := by
  have hbody := fun c => hrec.pc (p := .general (.braceClose c) true (.group d.opener g f)) hg hloc.end_le hch
  apply rawGroupTok_elim
  · intro _ _ h; rw [hcl] at h; cases h
  · intro c res p _ _ hr
    have := hbody c
    rw [hr] at this
    exact ⟨fun _ _ => trivial, ⟨hloc.pos_len, this.2.2⟩, this.2.2⟩
  · intro c _ _ hne; exact .other (hbody c) hne
  · intro _ hopt
    refine ⟨(fun _ h => nomatch hopt.symm.trans h), trivial, ?_⟩
    have := hloc.pos_len
    show t.pos - t.pre.length ≤ _
    omega
  · intro hn _
    exact ⟨notFoundErr_ok hloc, fun htol hauto hopt' => absurd (hcond htol hauto hopt') hn⟩

theorem rawGroup_good (hrec : RecOk env rec) {d : GroupDelims} {opt ap : Bool} {f : PSFields} {pos : Nat}
    (hf : FOk5 env f) (hpos : pos ≤ env.s.length) (hp : PPre5 env (.group d opt ap) f pos) :
    RawGood env (.group d opt ap) (rawGroup env rec d opt ap f pos) := by
  have hp' : ∀ o, d = .auto o →
      f.groupDelims.any (fun d => d.1 == o) = true ∧ NonSpaceAt env.s pos ∧
      (env.tol = true → ∃ t, peekImpl (mkPS f) env.s pos = .tok t ∧ t.kind = .braceOpen ∧ t.arg = o ∧ t.pre = []) := hp
  obtain ⟨g, hgs, hg, hch, hgf, c, hcl⟩ := groupState_cases d hf (fun o ho => (hp' o ho).1)
  apply rawGroup_elim
  · intro _ h; rw [hgs] at h; cases h
  · intro g' fs hg' hpk
    cases hgs.symm.trans hg'
    -- an automatic group is only asked for at its opening delimiter, which is not the end of the input
    refine ⟨fun hauto _ => ?_, hpos⟩
    cases d with
    | auto o =>
      cases hgf rfl
      exact absurd (peekTok_eos hpk) (peekImpl_not_eos (hp' o rfl).2.1 fs)
    | pair o c => cases hauto
  · intro g' w ep t r hg' hpk _
    cases hgs.symm.trans hg'
    exact tokErr_raw hg hpos hpk
  · intro g' t hg' hpk
    cases hgs.symm.trans hg'
    apply rawGroupTok_good hrec hg hch hcl (.ofSpan (span_of_peekTok _ _ hg.tables _ _ _ hpk))
    intro htol hauto _
    cases d with
    | pair o c => cases hauto
    | auto o =>
      cases hgf rfl
      -- in tolerant mode the collector has seen the opening delimiter at this very position
      obtain ⟨t', ht', hk, ha, hpre⟩ := (hp' o rfl).2.2 htol
      cases (peekTok_of_impl (tol := env.tol) ht').symm.trans hpk
      exact ⟨fun _ => hpre, hk, ha⟩

/-! ### math -/

theorem rawMath_good (hrec : RecOk env rec) {d : Str} {f : PSFields} {pos : Nat}
    (hf : FOk5 env f) (hpos : pos ≤ env.s.length) (hp : PPre5 env (.math d) f pos) :
    RawGood env (.math d) (rawMath env rec d f pos) := by
  obtain ⟨hany, hre⟩ : (byOpenOf f).any (fun x => x.1 == d) = true ∧
      (env.tol = true → ∃ t, peekImpl (mkPS f) env.s pos = .tok t ∧
          (t.kind = .mathInline ∨ t.kind = .mathDisplay) ∧ t.arg = d ∧ t.pre = []) := hp
  apply rawMath_elim
  · intro _ _; exact ⟨trivial, hpos⟩
  · intro w ep t r hpk _; exact tokErr_raw hf hpos hpk
  · intro t hpk
    have hloc : TokLoc env t := .ofSpan (span_of_peekTok _ _ hf.tables _ _ _ hpk)
    have hbody := fun c => hrec.pc (p := .general (.mathClose (t.kind == .mathDisplay) c) true .same)
      (hf.mathFields t.arg) hloc.end_le trivial
    apply rawMathTok_elim
    · intro _ hop hnone
      obtain ⟨cd, hcd⟩ := lookupLast_some_of_any _ _ (hop.2.2 ▸ hany)
      rw [expectClose_mathFields, hcd] at hnone
      cases hnone
    · intro cd res p _ _ hr
      have := hbody cd.1
      rw [hr] at this
      exact ⟨trivial, ⟨hloc.pos_len, this.2.2⟩, this.2.2⟩
    · intro cd _ _ hne; exact .other (hbody cd.1) hne
    · intro hn
      refine ⟨notFoundErr_ok hloc, fun htol => (hn ?_).elim⟩
      obtain ⟨t', ht', hk, ha, hpre⟩ := hre htol
      cases (peekTok_of_impl (tol := env.tol) ht').symm.trans hpk
      exact ⟨hpre, hk, ha⟩

/-! ### environment body, calls -/

theorem rawEnvBody_good (hrec : RecOk env rec) {name : Str} {f : PSFields} {pos : Nat}
    (hf : FOk5 env f) (hpos : pos ≤ env.s.length) :
    RawGood env (.envBody name) (rawEnvBody rec name f pos) := by
  unfold rawEnvBody
  apply bindOk_good (q := .general (.endEnv name) true .same) (hrec.pc hf hpos trivial)
  intro res p _ hin hp
  cases res with
  | none => exact ⟨trivial, trivial, hp⟩
  | node n => exact ⟨trivial, hin, hp⟩
  | list a b c => exact ⟨trivial, trivial, hp⟩
  | args a b c => exact ⟨trivial, trivial, hp⟩

theorem rawCall_good (hrec : RecOk env rec) {p : Parser} (hshape : ∀ n, ResShape p (.node n))
    {mk : Nat → Option (List Arg) → Node} {a : ArgsP} {f : PSFields} {pos : Nat}
    (hf : FOk5 env f) (hpos : pos ≤ env.s.length) (ha : a.Known)
    (hmk : ∀ e args, e ≤ env.s.length → NodeIn env (mk e args)) :
    RawGood env p (rawCall rec mk a f pos) := by
  unfold rawCall
  apply bindOk_good (q := .arguments a) (hrec.pc hf hpos ha)
  intro res q _ _ hq
  exact ⟨hshape _, hmk _ _ hq, hq⟩

theorem rawEnvCall_good (hrec : RecOk env rec) {t : Token} {a : ArgsP} {bm : Bool} {f : PSFields} {pos : Nat}
    (hf : FOk5 env f) (hpos : pos ≤ env.s.length) (ha : a.Known) (ht : t.pos ≤ env.s.length) :
    RawGood env (.envCall t a bm) (rawEnvCall rec t a bm f pos) := by
  unfold rawEnvCall
  apply bindOk_good (q := .arguments a) (hrec.pc hf hpos ha)
  intro ares p _ _ hp
  dsimp only
  have hbf : FOk5 env (if bm then applyDelta f .enterMath else f) := by
    split
    · exact hf.applyDelta _
    · exact hf
  apply bindOk_good (q := .envBody t.arg) (hrec.pc hbf hp trivial)
  intro bres p2 _ _ hp2
  exact ⟨trivial, ⟨ht, hp2⟩, hp2⟩

/-! ### arguments -/

theorem rawLegacyVerb_good {a : ArgsP} {f : PSFields} {pos : Nat} (hpos : pos ≤ env.s.length) :
    RawGood env (.arguments a) (rawLegacyVerb env f pos) := by
  have hsp := spaceRun_length_le env.s pos
  apply rawLegacyVerb_elim
  · intro p hp _; exact ⟨ErrOk.simple (by omega) hpos, fun _ => trivial⟩
  · intro p _ hp _ _; exact ⟨ErrOk.simple (by omega) hpos, fun _ => trivial⟩
  · intro p d e _ _ he
    have := (findCharFrom_spec _ _ _ _ he).2
    exact ⟨trivial, trivial, by omega⟩

theorem legacyVerbEnvFinish_good {a : ArgsP} {name : Str} {f : PSFields} {pos : Nat} {pre : List Arg} {p : Nat}
    (hpos : pos ≤ env.s.length) (hp : p ≤ env.s.length) :
    RawGood env (.arguments a) (legacyVerbEnvFinish env name f pos pre p) := by
  apply legacyVerbEnvFinish_elim
  · intro _; exact ⟨ErrOk.simple hp hpos, fun _ => trivial⟩
  · intro e he; exact ⟨trivial, trivial, findStrFrom_le _ _ _ _ he⟩

theorem rawLegacyVerbEnv_good (hrec : RecOk env rec) {a : ArgsP} {name : Str} {optArg : Bool} {f : PSFields} {pos : Nat}
    (hf : FOk5 env f) (hpos : pos ≤ env.s.length) :
    RawGood env (.arguments a) (rawLegacyVerbEnv env rec name optArg f pos) := by
  have hopt := hrec.pc (p := .group (.pair ['['] [']']) true false) hf hpos (fun o ho => nomatch ho)
  apply rawLegacyVerbEnv_elim
  · intro _; exact legacyVerbEnvFinish_good hpos hpos
  · intro _ _; exact legacyVerbEnvFinish_good hpos hpos
  · intro n p _ hr
    rw [hr] at hopt
    exact legacyVerbEnvFinish_good hpos hopt.2.1.2
  · intro _ _ _ _ _; exact legacyVerbEnvFinish_good hpos hpos
  · intro _; exact .other hopt

theorem argParser_pre (k : ArgKind) (f : PSFields) (pos : Nat) : PPre5 env (argParser k) f pos := by
  cases k <;> first | trivial | exact (fun o ho => nomatch ho)

theorem argsLoop_good (hrec : RecOk env rec) {a0 : ArgsP} {f : PSFields} (hf : FOk5 env f) :
    ∀ (l : List ArgSpec) (acc : List Arg) (pos : Nat), pos ≤ env.s.length →
      GoodPc env (.arguments a0) (argsLoop env rec f l acc pos) := by
  intro l
  induction l with
  | nil => intro acc pos hpos; rw [argsLoop_nil]; exact ⟨trivial, trivial, hpos⟩
  | cons a rest ih =>
    intro acc pos hpos
    have hr := hrec.pc (p := argParser a.kind) (hf.applyDelta a.delta) hpos (argParser_pre _ _ _)
    apply argsLoop_cons_elim
    · intro w ep _ _ hpk htol; exact ⟨htol, ErrOk.simple (peekTok_err_le hf.tables hpk) hpos⟩
    · intro res p hres; rw [hres] at hr; exact ih _ _ hr.2.2
    · exact hr.transfer

theorem rawArguments_good (hrec : RecOk env rec) {a : ArgsP} {f : PSFields} {pos : Nat}
    (hf : FOk5 env f) (hpos : pos ≤ env.s.length) (ha : a.Known) :
    RawGood env (.arguments a) (rawArguments env rec a f pos) := by
  cases a with
  | std l => exact RawGood.ofPc (argsLoop_good hrec hf l [] pos hpos)
  | legacyVerb => exact rawLegacyVerb_good hpos
  | legacyVerbEnv name optArg => exact rawLegacyVerbEnv_good hrec hf hpos
  | unknown => exact ha.elim

/-! ### expression -/

theorem nodesIn_append {sk : List Node} (hsk : ∀ n ∈ sk, NodeIn env n) {m : Node} (hm : NodeIn env m) :
    ∀ n ∈ sk ++ [m], NodeIn env n := by
  intro n hn
  rcases List.mem_append.mp hn with h | h
  · exact hsk n h
  · rw [List.mem_singleton.mp h]; exact hm

theorem exprFinish_good {f : PSFields} {nodes : List Node} {pos : Nat} (hpos : pos ≤ env.s.length)
    (hn : ∀ n ∈ nodes, NodeIn env n) : GoodExpr env (exprFinish f nodes pos) := by
  unfold exprFinish
  split
  · rename_i n hl
    exact ⟨hn n (List.mem_of_getLast? hl), hpos⟩
  · exact ⟨⟨hpos, hpos⟩, hpos⟩

/-- the expression ends with a node made from the token `t` -/
theorem exprFinish_tok {f : PSFields} {sk : List Node} (hsk : ∀ n ∈ sk, NodeIn env n) {t : Token} (hloc : TokLoc env t)
    {x : Node} (hp : x.pos = t.pos) (he : x.posEnd = t.posEnd) : GoodExpr env (exprFinish f (sk ++ [x]) t.posEnd) :=
  exprFinish_good hloc.end_le (nodesIn_append hsk ⟨hp ▸ hloc.pos_len, he ▸ hloc.end_le⟩)

theorem exprOnTok_good (hrec : RecOk env rec) {ap : Bool} {sk : List Node} {f : PSFields} {t : Token}
    (hf : FOk5 env f) (hsk : ∀ n ∈ sk, NodeIn env n) (hloc : TokLoc env t) {p0 : Nat}
    (hpk : t.kind ≠ .char → peekImpl (mkPS ({ f with enEnvs := false } : PSFields).normalize) env.s p0 = .tok t)
    (hnm : t.kind ≠ .macro) (hns : t.kind ≠ .specials) :
    GoodExpr env (exprOnTok env rec ap sk f t) := by
  have hgrp : t.kind = .braceOpen → GoodPc env (.group (.auto t.arg) false false)
      (rec (.pc (.group (.auto t.arg) false false) f t.pos)) := by
    intro hk
    have hpk' := hpk (by rw [hk]; decide)
    have hop := braceOpen_opener hpk' hk
    rw [ef_groupDelims] at hop
    refine hrec.pc (p := .group (.auto t.arg) false false) hf hloc.pos_len (fun o ho => ?_)
    cases ho
    exact ⟨hop, nonSpaceAt_of_tok hpk' (Or.inl hk),
      fun htol => ⟨_, reread_braceOpen_expr (hf.esc htol) hpk' hk, hk, rfl, rfl⟩⟩
  apply exprOnTok_elim
  · intro _ _; exact hrec.expr hf hloc.end_le (nodesIn_append hsk ⟨hloc.pos_len, hloc.end_le⟩)
  · intro _ _ _; exact hrec.expr hf hloc.end_le hsk
  · intro _ _ _; exact ErrOk.simple hloc.pos_len hloc.end_le
  · intro n p hk hres
    have hr := hgrp hk
    rw [hres] at hr
    exact exprFinish_good hr.2.2 (nodesIn_append hsk hr.2.1)
  · intro hk hne
    have hr := hgrp hk
    cases hres : rec (.pc (.group (.auto t.arg) false false) f t.pos) with
    | ok res p => exact absurd hres (hne res p)
    | perr e => rw [hres] at hr; exact hr.2
    | loopEnd e => rw [hres] at hr; exact hr.elim
    | crash k => rw [hres] at hr; exact hr.elim
    | fuel => trivial
  · intro _
    exact ⟨⟨t.pos, rfl, hloc.pos_len⟩, hloc.pos_len, fun t' h => by cases h; exact hloc.pos_len,
      (fun _ h => nomatch h), ⟨hloc.pos_len, hloc.pos_len⟩⟩
  · intro _; exact exprFinish_tok hsk hloc rfl rfl
  · intro _
    refine ⟨⟨t.pos, rfl, hloc.pos_len⟩, hloc.end_le, (fun _ h => nomatch h), fun t' h => by cases h; exact hloc.end_le, ?_⟩
    dsimp only
    split <;> exact ⟨hloc.pos_len, hloc.end_le⟩
  · intro _ h
    -- the reader hands the expression parser no environment token, and a group parser returns a node
    rcases h with (hk | hk | hk | hk) | ⟨hk, res, p, hres, hnn⟩
    · exact absurd hk hnm
    · exact absurd hk hns
    · exact absurd hk (no_env_tok (ef_enEnvs f) (hpk (by rw [hk]; decide))).1
    · exact absurd hk (no_env_tok (ef_enEnvs f) (hpk (by rw [hk]; decide))).2
    · have hr := hgrp hk
      rw [hres] at hr
      cases res with
      | node n => exact absurd rfl (hnn n)
      | _ => exact (hr.1 rfl rfl).elim

theorem exprTok_good (hrec : RecOk env rec) {ap : Bool} {sk : List Node} {f : PSFields} {t : Token}
    (hf : FOk5 env f) (hsk : ∀ n ∈ sk, NodeIn env n) (hloc : TokLoc env t) {p0 : Nat}
    (hpk : t.kind ≠ .char → peekImpl (mkPS ({ f with enEnvs := false } : PSFields).normalize) env.s p0 = .tok t) :
    GoodExpr env (exprTok env rec ap sk f t) := by
  have hpl := hloc.pos_len
  have hel := hloc.end_le
  apply exprTok_elim
  · intro _ _ _; exact exprFinish_tok hsk hloc rfl rfl
  · intro _ _ _; exact ErrOk.simple hpl hel
  · intro _ _; exact exprFinish_tok hsk hloc rfl rfl
  · intro _; exact exprFinish_tok hsk hloc rfl rfl
  · intro _ _ _ _
    refine hrec.expr hf hpl (nodesIn_append hsk ⟨?_, hpl⟩)
    show t.pos - t.pre.length ≤ _
    omega
  · intro _ _ _ _ _; exact hrec.expr hf hel hsk
  · intro _ _ _ _ _; exact ErrOk.simple (by omega) hel
  · intro hnm hns _; exact exprOnTok_good hrec hf hsk hloc hpk hnm hns

theorem exprStep_good5 (hrec : RecOk env rec) {ap : Bool} {sk : List Node} {f : PSFields} {pos : Nat}
    (hf : FOk5 env f) (hpos : pos ≤ env.s.length) (hsk : ∀ n ∈ sk, NodeIn env n) :
    GoodExpr env (exprStep env rec ap sk f pos) := by
  have hef : FOk5 env (({ f with enEnvs := false } : PSFields).normalize) :=
    FOk5.normalize ⟨hf.hasCtx, hf.specials, hf.delims, fun _ => Or.inr rfl⟩
  apply exprStep_elim
  · intro _ _ _ _ hpk _; exact ErrOk.simple (peekTok_err_le hef.tables hpk) hpos
  · intro _; exact exprFinish_good hpos hsk
  · intro _; exact ErrOk.simple hpos hpos
  · intro t hpk
    exact exprTok_good hrec hf hsk (.ofSpan (span_of_peekTok _ _ hef.tables _ _ _ hpk))
      (fun hk => peekTok_nonchar hpk hk)

/-! ### marker, verbatim -/

theorem rawMarker_good {c : Char} {fl ap : Bool} {f : PSFields} {pos : Nat}
    (hf : FOk5 env f) (hpos : pos ≤ env.s.length) :
    RawGood env (.marker c fl ap) (rawMarker env c fl ap f pos) := by
  apply rawMarker_elim
  · intro _ _; exact ⟨trivial, trivial, hpos⟩
  · intro _ _ _ _ hpk _; exact tokErr_raw hf hpos hpk
  · intro t hpk _ _ _
    have hloc : TokLoc env t := .ofSpan (span_of_peekTok _ _ hf.tables _ _ _ hpk)
    refine ⟨trivial, ?_, hloc.end_le⟩
    split
    · trivial
    · exact ⟨hloc.pos_len, hloc.end_le⟩
  · intro _ _ _ _; exact ⟨trivial, hpos⟩
  · intro _ _; exact ⟨trivial, trivial, hpos⟩

theorem rawVerbatim_good {delims : Option (Char × Char)} {f : PSFields} {pos : Nat}
    (hpos : pos ≤ env.s.length) :
    RawGood env (.verbatim delims) (rawVerbatim env delims f pos) := by
  have hsp := spaceRun_length_le env.s pos
  apply rawVerbatim_elim
  · intro p hp _; exact ⟨trivial, by omega⟩
  · intro p first hp hfirst _
    have hlt := getElem?_lt _ _ _ hfirst
    exact ⟨ErrOk.simple (by omega) (by omega), fun _ => trivial⟩
  · intro p first o c e hp hfirst _ hv
    have hlt := getElem?_lt _ _ _ hfirst
    have := verbScan_lt _ _ _ _ _ _ hv
    rw [List.length_drop] at this
    exact ⟨trivial, ⟨by show p ≤ _; omega, by show e + 1 ≤ _; omega⟩, by omega⟩
  · intro p first o c hp hfirst _ _
    have hlt := getElem?_lt _ _ _ hfirst
    exact ⟨⟨⟨_, rfl, Nat.le_refl _⟩, Nat.le_refl _, (fun _ h => nomatch h), (fun _ h => nomatch h),
      ⟨by show p + 1 ≤ _; omega, Nat.le_refl _⟩⟩, fun _ => trivial⟩

/-! ### the step and the induction on fuel -/

theorem RawGood.ofExpr {ap : Bool} {r : Ret} (h : GoodExpr env r) : RawGood env (.expression ap) (.ret r) := by
  cases r with
  | ok res q => exact ⟨trivial, h.1, h.2⟩
  | perr e => exact ⟨h, fun _ => trivial⟩
  | loopEnd e => exact h
  | crash k => exact h
  | fuel => trivial

theorem rawParse_good (hrec : RecOk env rec) {p : Parser} {f : PSFields} {pos : Nat}
    (hf : FOk5 env f) (hpos : pos ≤ env.s.length) (hp : PPre5 env p f pos) :
    RawGood env p (rawParse env rec p f pos) := by
  cases p with
  | general stop req child => exact rawGeneral_good hrec hf hpos hp
  | group d o a => exact rawGroup_good hrec hf hpos hp
  | math d => exact rawMath_good hrec hf hpos hp
  | envBody n => exact rawEnvBody_good hrec hf hpos
  | macroCall t a =>
    exact rawCall_good (p := .macroCall t a) hrec (fun _ => trivial) hf hpos hp.1 (fun e _ he => ⟨hp.2, he⟩)
  | specialsCall t a =>
    exact rawCall_good (p := .specialsCall t a) hrec (fun _ => trivial) hf hpos hp.1 (fun e _ he => ⟨hp.2, he⟩)
  | envCall t a bm => exact rawEnvCall_good hrec hf hpos hp.1 hp.2
  | arguments a => exact rawArguments_good hrec hf hpos hp
  | expression ap => exact RawGood.ofExpr (hrec.expr hf hpos (fun n h => nomatch h))
  | marker c fl ap => exact rawMarker_good hf hpos
  | verbatim d => exact rawVerbatim_good hpos

theorem step_good5 (hc : env.ctx.Closed) (hrec : RecOk env rec) : RecOk env (step env rec) := by
  intro t hpre
  cases t with
  | pc p f pos =>
    obtain ⟨hf, hpos, hp⟩ := hpre
    exact parseContent_good (rawParse_good hrec hf hpos hp)
  | loop f stop child st =>
    obtain ⟨hf, hch, hst⟩ := hpre
    exact loopStep_good5 hc hrec hf hch hst
  | expr ap sk f pos =>
    obtain ⟨hf, hpos, hsk⟩ := hpre
    exact exprStep_good5 hrec hf hpos hsk

theorem run_good5 (hc : env.ctx.Closed) : ∀ n, RecOk env (run env n) :=
  run_inv (P := fun t r => Pre env t → Good5 env t r) (fun t _ => by cases t <;> trivial) (fun _ => step_good5 hc)

end Pylx
