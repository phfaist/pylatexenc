/-
  C08 for ALL strings — **`C08_full_proved : C08_full`**: every string over the invertible alphabet without a paragraph
  break other than exactly `"\n\n"` (`ParClean`) round-trips — `latexToText` of the encoder's output is the string again —
  under each of the four brace-protection schemes and both whitespace policies.

  Route:

  1. encoder: `C08_encode_chunks` — the output is the concatenation of the per-character chunks;
  2. every chunk is the source of a document `docOf pr c` of the encoder-output grammar that is well formed whatever
     follows, specials-safe and (space and newline apart) solid — kernel evaluation over the alphabet (`C08FChk[A-D]`, assembled in `C08FChk`),
     the wrapped form `{r}` of a chunk `r` through `r` (`Good.wrap`: a brace group is transparent for the renderer);
     concatenations of such documents are well formed and safe (`C13.Full.cwfI_append`, `safeI_append`);
  3. parser: `latexToText_doc` (exact prefix lemma `reach_gen` through `doc_gen` + `C06_agree_top` + `render_eq_renderX`) — `latex_to_text`
     of the source of such a document is the position-free renderer on its exact tree `mergeX (xW [] d)`;
  4. renderer: merging chars nodes does not change the text (`renderXList_mergeX`), the exact tree of the concatenation
     is the concatenation of the chunks' exact trees interleaved with the nodes of the whitespace runs (`xW_solid`), the
     loop is a homomorphism on it (`render_app`: both policies switch `between-macro-and-chars` on, so no text is put
     between two nodes; `_is_bare_macro_node` does not raise on the last node of a chunk — kernel-checked), every chunk's
     exact tree renders to its character from a fresh converter state and leaves it fresh (kernel evaluation), and the
     whitespace runs of a `ParClean` string render to themselves (`render_wsX`, `par_fact`);
  5. induction over the string.
-/
import PylxProofs.C08FRender
import PylxProofs.C08FChk
namespace Pylx.C08.Full
open Pylx Pylx.EncB Pylx.L2T Pylx.L2T.C03S Pylx.C13.Full

/-! ### what the kernel check says -/

theorem stEmpty_spec {st : St} (h : stEmpty st = true) : st = {} := by
  cases st with
  | mk a b c =>
    simp only [stEmpty, Bool.and_eq_true, Option.isNone_iff_eq_none] at h
    obtain ⟨⟨rfl, rfl⟩, rfl⟩ := h
    rfl

theorem rendersTo_spec {pol : SlsSpec} {ns : List XNode} {t : Str} (h : rendersTo pol ns t = true) :
    renderXList (xe pol) (parseSls pol) none [] ns {} = .ok (t, {}) := by
  unfold rendersTo at h
  split at h
  · rename_i r st heq
    simp only [Bool.and_eq_true, beq_iff_eq] at h
    rw [heq, h.1, stEmpty_spec h.2]
  · cases h

theorem lastOr_none (L : List XNode) : lastOr none L = L.getLast? := by
  unfold lastOr
  cases L.getLast? <;> rfl

theorem bareOk_spec {pol : SlsSpec} {ns : List XNode} (h : bareOk pol ns = true) :
    ∃ b, isBareX (xe pol) (lastOr none ns) = .ok b := by
  unfold bareOk at h
  rw [lastOr_none]
  split at h
  · rename_i b heq
    exact ⟨b, heq⟩
  · cases h

/-- the facts about the document of one chunk -/
structure Good (c : Char) (u : Str) (d : List CItem) : Prop where
  un : unI d = u
  wf : cwfI Gen.defaultCtx false none none d = true
  safe : safeI badChars d = true
  sol : solid d = true
  ren : ∀ pol ∈ policies, renderXList (xe pol) (parseSls pol) none [] (xW [] d) {} = .ok ([c], {})
  bare : ∀ pol ∈ policies, ∃ b, isBareX (xe pol) (lastOr none (xW [] d)) = .ok b

theorem docChk_spec {c : Char} {u : Str} (h : docChk c u = true) : ∃ d, chunkDoc u = some d ∧ Good c u d := by
  unfold docChk at h
  split at h
  · rename_i d heq
    simp only [Bool.and_eq_true, beq_iff_eq, List.all_eq_true] at h
    obtain ⟨⟨⟨⟨h1, h2⟩, h3⟩, h4⟩, h5⟩ := h
    exact ⟨d, heq, h1, h2, h3, h4, fun pol hp => rendersTo_spec (h5 pol hp).1, fun pol hp => bareOk_spec (h5 pol hp).2⟩
  · cases h

theorem policy_flags {pol : SlsSpec} (h : pol ∈ policies) : (parseSls pol).mc = true ∧ (parseSls pol).lc = true := by
  simp only [policies, List.mem_cons, List.not_mem_nil, or_false] at h
  rcases h with rfl | rfl <;> exact ⟨rfl, rfl⟩

/-- the wrapped form of a good chunk: a brace group is transparent for the renderer and is no bare macro -/
theorem Good.wrap {c : Char} {r : Str} {d : List CItem} (h : Good c r d) : Good c ('{' :: r ++ ['}']) [.grp d] where
  un := by simp [unI, h.un]
  wf := by
    have := cwfI_app Gen.defaultCtx false none (fc := some '}') [] (by simp [cwfI]) (Or.inl rfl) d h.wf
    simpa [cwfI] using this
  safe := by rw [safeI_grp, h.safe, safeI_nil]; rfl
  sol := rfl
  ren := fun pol hpol => by
    have hx : xW [] [.grp d] = [XNode.group ['{'] ['}'] (some (mergeX (xW [] d)))] := by
      rw [xW_grp, wsX_nil, xW_nil, wsX_nil]; rfl
    have hb : renderXNode (xe pol) (parseSls pol) (.group ['{'] ['}'] (some (mergeX (xW [] d)))) {} = .ok ([c], {}) := by
      rw [renderXNode, renderXBody, renderXList_mergeX _ _ (policy_flags hpol).2, bind_ok (h.ren pol hpol)]
      rfl
    rw [hx, renderXList_cons_ok _ _ _ _ _ _ _ _ _ _ (preOfX_none _ _ _) hb, renderXList_nil]
    rfl
  bare := fun pol _ => ⟨false, by rw [xW_grp, wsX_nil, xW_nil, wsX_nil]; rfl⟩

/-- every alphabet character other than space and newline: its chunk under every scheme is the source of a good
    document (kernel evaluation over the whole alphabet) -/
theorem chunk_good (c : Char) (hc : InAlphabet c) (h10 : c ≠ '\n') (h32 : c ≠ ' ') :
    ∀ pr ∈ schemes, Good c (chunk pr c) (docOf pr c) := by
  intro pr hpr
  have hk := mem_chunks (p := chunkChk) chunks_all c.toNat hc
  have e : Char.ofNat c.toNat = c := Char.ofNat_toNat c
  have n10 : c.toNat ≠ 10 := by
    intro h; apply h10; rw [← e, h]
  have n32 : c.toNat ≠ 32 := by
    intro h; apply h32; rw [← e, h]
  have := chunkChk_spec hk n10 n32 pr hpr
  rw [e] at this
  rcases this with h | ⟨r, hu, hr, hw⟩
  · obtain ⟨d, hd, hg⟩ := docChk_spec h
    have : docOf pr c = d := by unfold docOf; rw [hd]; rfl
    rw [this]
    exact hg
  · obtain ⟨d, hd, hg⟩ := docChk_spec hr
    unfold wrapChk at hw
    rw [hd] at hw
    split at hw
    · rename_i d0 d' h1 h2
      cases h1
      have hd' : docOf pr c = [.grp d] := by unfold docOf; rw [h2, beqI_eq _ _ hw]; rfl
      rw [hd', hu]
      exact hg.wrap
    · cases hw

/-! ### space and newline -/

def isChDoc (c : Char) : List CItem → Bool
  | [.ch d] => d == c
  | _ => false

theorem isChDoc_spec {c : Char} {d : List CItem} (h : isChDoc c d = true) : d = [.ch c] := by
  match d, h with
  | [.ch x], h =>
    simp only [isChDoc, beq_iff_eq] at h
    rw [h]

theorem ws_docs : schemes.all (fun pr =>
    isChDoc ' ' (docOf pr ' ') && isChDoc '\n' (docOf pr '\n') && chunk pr ' ' == [' '] && chunk pr '\n' == ['\n']) = true := by
  decide +kernel

theorem ws_doc {pr : Prot} (hpr : pr ∈ schemes) {c : Char} (hc : c = ' ' ∨ c = '\n') :
    docOf pr c = [.ch c] ∧ chunk pr c = [c] := by
  have := List.all_eq_true.mp ws_docs pr hpr
  simp only [Bool.and_eq_true, beq_iff_eq] at this
  obtain ⟨⟨⟨h1, h2⟩, h3⟩, h4⟩ := this
  rcases hc with rfl | rfl
  · exact ⟨isChDoc_spec h1, h3⟩
  · exact ⟨isChDoc_spec h2, h4⟩

/-! ### the document of a string -/

/-- the document the encoder output for `s` is the source of: the chunk documents one after the other -/
def docs (pr : Prot) (s : Str) : List CItem := s.flatMap (docOf pr)

theorem docs_cons (pr : Prot) (c : Char) (s : Str) : docs pr (c :: s) = docOf pr c ++ docs pr s := by
  unfold docs; rw [List.flatMap_cons]

theorem safeI_append (bad : Str) : ∀ (a b : List CItem), safeI bad (a ++ b) = (safeI bad a && safeI bad b)
  | [], b => by rw [List.nil_append, safeI.eq_def bad []]; rfl
  | .ch c :: tl, b => by rw [List.cons_append, safeI_ch, safeI_ch, safeI_append bad tl b, Bool.and_assoc]
  | .grp g :: tl, b => by rw [List.cons_append, safeI_grp, safeI_grp, safeI_append bad tl b, Bool.and_assoc]
  | .mac n po args :: tl, b => by rw [List.cons_append, safeI_mac, safeI_mac, safeI_append bad tl b, Bool.and_assoc]
  | .math g :: tl, b => by rw [List.cons_append, safeI_math, safeI_math, safeI_append bad tl b, Bool.and_assoc]

/-- per character: source, well-formedness whatever follows, safety -/
theorem char_doc {pr : Prot} (hpr : pr ∈ schemes) (c : Char) (hc : InAlphabet c) :
    unI (docOf pr c) = chunk pr c ∧ cwfI Gen.defaultCtx false none none (docOf pr c) = true ∧
      safeI badChars (docOf pr c) = true := by
  by_cases hws : c = ' ' ∨ c = '\n'
  · obtain ⟨h1, h2⟩ := ws_doc hpr hws
    rw [h1, h2]
    rcases hws with rfl | rfl <;> refine ⟨by simp [unI], by decide +kernel, by decide +kernel⟩
  · have hg := chunk_good c hc (fun h => hws (Or.inr h)) (fun h => hws (Or.inl h)) pr hpr
    exact ⟨hg.un, hg.wf, hg.safe⟩

theorem docs_facts {pr : Prot} (hpr : pr ∈ schemes) : ∀ (s : Str), (∀ c ∈ s, InAlphabet c) →
    unI (docs pr s) = s.flatMap (chunk pr) ∧ cwfI Gen.defaultCtx false none none (docs pr s) = true ∧
      safeI badChars (docs pr s) = true
  | [], _ => ⟨by simp [docs, unI], by simp [docs, cwfI], by show safeI badChars [] = true; rw [safeI.eq_def]⟩
  | c :: s, h => by
    obtain ⟨h1, h2, h3⟩ := char_doc hpr c (h c (List.mem_cons_self ..))
    obtain ⟨i1, i2, i3⟩ := docs_facts hpr s (fun x hx => h x (List.mem_cons_of_mem _ hx))
    rw [docs_cons]
    refine ⟨?_, cwfI_append _ _ _ _ _ _ h2 i2, ?_⟩
    · rw [unI_append, h1, i1, List.flatMap_cons]
    · rw [safeI_append, h3, i3]; rfl

/-! ### rendering -/

theorem par_renders : policies.all (fun pol => rendersTo pol [.specials ['\n', '\n'] (some [])] ['\n', '\n']) = true := by
  decide +kernel

/-- blanks, the paragraph specials, blanks -/
theorem render_par {pol : SlsSpec} (hpol : pol ∈ policies) (A B : Str) :
    renderXList (xe pol) (parseSls pol) none [] (pendX A ++ (XNode.specials ['\n', '\n'] (some []) :: pendX B)) {} =
      .ok (A ++ '\n' :: '\n' :: B, {}) ∧
    ∃ b, isBareX (xe pol) (lastOr none (pendX A ++ (XNode.specials ['\n', '\n'] (some []) :: pendX B))) = .ok b := by
  obtain ⟨hmc, hlc⟩ := policy_flags hpol
  have hs := rendersTo_spec (List.all_eq_true.mp par_renders pol hpol)
  have h2 : renderXList (xe pol) (parseSls pol) none [] ([XNode.specials ['\n', '\n'] (some [])] ++ pendX B) {} =
      .ok (['\n', '\n'] ++ B, {}) :=
    render_app hmc hs ⟨false, rfl⟩ (render_pendX hlc B)
  refine ⟨render_app hmc (render_pendX hlc A) (bare_pendX none ⟨false, rfl⟩ A) h2, ?_⟩
  rw [lastOr_none]
  unfold pendX
  by_cases hB : B.isEmpty = true
  · rw [if_pos hB]
    exact ⟨false, by simp [isBareX]⟩
  · rw [if_neg hB]
    exact ⟨false, by simp [isBareX]⟩

/-- a whitespace run of a `ParClean` string renders to itself -/
theorem render_wsX {pol : SlsSpec} (hpol : pol ∈ policies) {w r : Str} (hw : wsOnly w) (hp : ParClean (w ++ r) = true) :
    renderXList (xe pol) (parseSls pol) none [] (wsX w) {} = .ok (w, {}) ∧
    ∃ b, isBareX (xe pol) (lastOr none (wsX w)) = .ok b := by
  obtain ⟨hmc, hlc⟩ := policy_flags hpol
  unfold wsX
  by_cases hn : countNl w < 2
  · rw [if_pos hn]
    exact ⟨render_pendX hlc w, bare_pendX none ⟨false, rfl⟩ w⟩
  · rw [if_neg hn]
    have e := par_fact w r hw hp (by omega)
    have := render_par hpol (w.take (firstNl w)) (w.drop (lastNlEnd w))
    rw [← e] at this
    exact this

/-- **the renderer on the exact tree of the document of a string**, with whitespace `w` in hand -/
theorem render_docs {pr : Prot} (hpr : pr ∈ schemes) {pol : SlsSpec} (hpol : pol ∈ policies) :
    ∀ (s : Str), (∀ c ∈ s, InAlphabet c) → ∀ (w : Str), wsOnly w → ParClean (w ++ s) = true →
      renderXList (xe pol) (parseSls pol) none [] (xW w (docs pr s)) {} = .ok (w ++ s, {})
  | [], _, w, hw, hp => by
    show renderXList _ _ none [] (xW w []) {} = _
    rw [xW_nil, List.append_nil]
    exact (render_wsX hpol hw hp).1
  | c :: s, h, w, hw, hp => by
    obtain ⟨hmc, hlc⟩ := policy_flags hpol
    have hs : ∀ x ∈ s, InAlphabet x := fun x hx => h x (List.mem_cons_of_mem _ hx)
    rw [docs_cons]
    by_cases hws : c = ' ' ∨ c = '\n'
    · rw [(ws_doc hpr hws).1]
      have hsp : isPySpace c = true := by rcases hws with rfl | rfl <;> decide
      rw [List.cons_append, List.nil_append, xW_ch_space _ _ _ hsp]
      have := render_docs hpr hpol s hs (w ++ [c]) (wsOnly_snoc hw hws) (by simpa using hp)
      simpa using this
    · have hg := chunk_good c (h c (List.mem_cons_self ..)) (fun e => hws (Or.inr e)) (fun e => hws (Or.inl e)) pr hpr
      rw [xW_solid _ _ _ hg.sol]
      have r3 := render_docs hpr hpol s hs [] wsOnly_nil (by
        have := ParClean_drop w (c :: s) hp
        exact ParClean_tail this)
      have r23 := render_app hmc (hg.ren pol hpol) (hg.bare pol hpol) r3
      obtain ⟨r1, b1⟩ := render_wsX hpol hw hp
      have := render_app hmc r1 b1 r23
      simpa using this

/-! ### the property -/

/-- `latex_to_text` of the encoder's output for `s`, as the position-free renderer on the exact tree of `docs pr s` -/
theorem toText_docs {pr : Prot} (hpr : pr ∈ schemes) (pol : SlsSpec) (s : Str) (hs : ∀ c ∈ s, InAlphabet c) :
    toText pol (s.flatMap (chunk pr)) = renderX (xe pol) (exactC (docs pr s)) := by
  obtain ⟨h1, h2, h3⟩ := docs_facts hpr s hs
  rw [← h1]
  exact latexToText_doc { sls := pol } Gen.defaultTextDb lib C13.defaultCtx_ok default_keysBad (docs pr s) h2 h3

/-- **C08, all strings — PROVED.**  Every string over the invertible alphabet whose paragraph breaks are exactly `"\n\n"`
    round-trips under each of the four brace-protection schemes and both whitespace policies. -/
theorem C08_full_proved : C08_full := by
  intro pr hpr pol hpol s hs hp
  have key : toText pol (s.flatMap (chunk pr)) = .ok s := by
    rw [toText_docs hpr pol s hs]
    unfold renderX exactC
    rw [show (xe pol).db.shapeOk = true from rfl]
    simp only [Bool.not_true, Bool.false_eq_true, if_false]
    show (match renderXList (xe pol) (parseSls pol) none [] (mergeX (xW [] (docs pr s))) {} with
      | .ok (t, _) => Out.ok t
      | .crash k => Out.crash k) = _
    rw [renderXList_mergeX (xe pol) (parseSls pol) (policy_flags hpol).2,
      render_docs hpr hpol s hs [] wsOnly_nil (by simpa using hp)]
    rfl
  unfold RoundTrips roundTrip
  rw [C08_encode_chunks, Option.map_some, key]

theorem C08_roundtrip (pr : Prot) (hpr : pr ∈ schemes) (pol : SlsSpec) (hpol : pol ∈ policies) (s : Str)
    (hs : ∀ c ∈ s, InAlphabet c) (hp : ParClean s = true) :
    roundTrip pr pol s = some (.ok s) := C08_full_proved pr hpr pol hpol s hs hp

/-! ### non-vacuity -/

set_option maxRecDepth 100000 in
/-- a string with letters, blanks, a paragraph break, accents, a dotless i before a letter, math symbols, NBSP, braces -/
example : (∀ c ∈ ("a b\n\nc".toList ++ [Char.ofNat 233, Char.ofNat 0x131, 't', Char.ofNat 0x3b1, Char.ofNat 160, '{', '~', ' ', '\n']),
      InAlphabet c) ∧
    ParClean ("a b\n\nc".toList ++ [Char.ofNat 233, Char.ofNat 0x131, 't', Char.ofNat 0x3b1, Char.ofNat 160, '{', '~', ' ', '\n']) = true := by
  constructor <;> decide +kernel

set_option maxRecDepth 100000 in
/-- the document of a chunk: `ı` under `braces` is `{\i}`, under `braces-after-macro` `\i{}` -/
example : unI (docOf .braces (Char.ofNat 0x131)) = "{\\i}".toList ∧ unI (docOf .bracesAfterMacro (Char.ofNat 0x131)) = "\\i{}".toList := by
  constructor <;> decide +kernel

#print axioms C08_full_proved

end Pylx.C08.Full
