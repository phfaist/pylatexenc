/-
  C06 — the progress argument: a task started at `pos` never runs out of fuel when given
  `4 * (len s - pos) + d` units, `d ≤ 5` depending on the kind of task.
-/
import PylxProofs.C06Adv
namespace Pylx

/-- constant part of the fuel bound, per parser: one more than the constant of what the parser starts at its own
    position (the collector loop has 2; every argument parser at most 3, `dP_argParser`), and 1 where it first reads a
    token.  The factor 4 of `need` is what the collector (2) needs to start a call parser (5) one character on. -/
def dP : Parser → Nat
  | .general .. => 3
  | .group .. => 1
  | .math _ => 1
  | .envBody _ => 4
  | .macroCall .. => 5
  | .specialsCall .. => 5
  | .envCall .. => 5
  | .arguments _ => 4
  | .expression _ => 3
  | .marker .. => 1
  | .verbatim _ => 1

/-- fuel that suffices for a task on an input of length `L` -/
def need (L : Nat) : Task → Nat
  | .pc p _ pos => 4 * (L - pos) + dP p
  | .loop _ _ _ st => 4 * (L - st.pos) + 2
  | .expr _ _ _ pos => 4 * (L - pos) + 2

theorem dP_pos (p : Parser) : 1 ≤ dP p := by cases p <;> simp [dP]

theorem need_pos (L : Nat) (t : Task) : 1 ≤ need L t := by
  cases t with
  | pc p f pos => have := dP_pos p; simp only [need]; omega
  | loop f stop child st => simp only [need]; omega
  | expr a b c d => simp only [need]; omega

def NF (r : Ret) : Prop := r ≠ .fuel
def NFRaw (raw : Raw) : Prop := raw ≠ .ret .fuel

theorem NFRaw.ret {r : Ret} (h : NF r) : NFRaw (.ret r) := fun e => h (Raw.ret.inj e)

variable {env : Env} {f : PSFields} {stop : StopTok} {child : ChildPS} {st : LoopSt} {t : Token} {pos : Nat}

theorem loopFinish_nf {a : Option Token} {b : Option PErr} : NF (loopFinish f st a b) := by
  rw [loopFinish_eq]; exact nofun

theorem parseContent_nf {tol : Bool} {raw : Raw} (h : NFRaw raw) : NF (parseContent tol raw) := by
  apply parseContent_elim
  case ret => intro r hr _ hf; exact h (hr.trans (congrArg Raw.ret hf))
  case perr => intro _ _; split <;> exact nofun
  case eos => intro _ _; exact nofun

theorem exprFinish_nf {nodes : List Node} {q : Nat} : NF (exprFinish f nodes q) := by
  unfold exprFinish
  split <;> exact nofun

theorem dP_argParser (k : ArgKind) : dP (argParser k) ≤ 3 := by
  cases k <;> simp [argParser, dP]

/-! The step, for `rec := run env n`: what is known of every run with `n` units (`run_adv`) is at hand.
    In each lemma the outcomes not named are results other than `.fuel`. -/

section step
variable {n : Nat} (hnf : ∀ t, t.Ok → need env.s.length t ≤ n → NF (run env n t))
include hnf

theorem pc_nf {P : Parser} {g : PSFields} {start : Nat} (hP : P.Ok) (hg : DelimsOk g)
    (hb : 4 * (env.s.length - start) + dP P ≤ n) : NF (run env n (.pc P g start)) :=
  hnf (.pc P g start) ⟨hP, hg⟩ hb

theorem afterChild_nf {noneOk : Bool} {r : Ret} (hch : child.Ok) (hf : DelimsOk f) (hr : NF r)
    (hq : ∀ res q, r = .ok res q → ((res = .none ∧ noneOk = true) ∨ ∃ nd, res = .node nd) →
      4 * (env.s.length - q) + 2 ≤ n) :
    NF (afterChild (run env n) f stop child st noneOk r) := by
  apply afterChild_elim
  case node => intro nd p e; exact hnf (.loop f stop child _) ⟨hch, hf⟩ (hq _ p e (Or.inr ⟨nd, rfl⟩))
  case absent => intro p e hno; exact hnf (.loop f stop child _) ⟨hch, hf⟩ (hq _ p e (Or.inl ⟨rfl, hno⟩))
  case perr => intro _ _; exact loopFinish_nf
  case fuel => intro e; exact absurd e hr
  case crash => intro _ _; exact nofun

theorem loopDispatch_nf (hch : child.Ok) (hf : DelimsOk f) (p0 : Nat) (hb : 4 * (env.s.length - p0) + 2 ≤ n + 1)
    (hst : p0 < st.pos) (hL : st.pos ≤ env.s.length) (ht : p0 ≤ t.pos)
    (hm : isMathKind t.kind = true → ¬ EosAt env.s t.pos) :
    NF (loopDispatch env (run env n) f stop child st t) := by
  have hcf := ChildPS.get_ok t hch hf
  have lp : ∀ st' : LoopSt, st'.pos = st.pos → NF (run env n (.loop f stop child st')) := fun st' h =>
    hnf (.loop f stop child st') ⟨hch, hf⟩ (by simp only [need]; rw [h]; omega)
  -- a call parser, started after the token: it may return nothing, and need not advance
  have call : ∀ (P : Parser) (b : Bool), P.Ok → dP P ≤ 5 →
      NF (afterChild (run env n) f stop child st b (run env n (.pc P (child.get f t) st.pos))) := by
    intro P b hP hd
    apply afterChild_nf hnf hch hf (pc_nf hnf hP hcf (by omega))
    intro res q hr _
    have := PQ_le (pc_ok (run_adv env n) hP hcf hr)
    omega
  apply loopDispatch_elim
  case err => intro _ _ _; exact loopFinish_nf
  case comment => intro _; exact lp _ rfl
  case skip => intro _; exact lp st rfl
  case crash => intro _ _; exact nofun
  case sub =>
    intro P start b hd
    cases hd with
    | mac _ _ => exact call _ _ trivial (Nat.le_refl 5)
    | env _ _ => exact call _ _ trivial (Nat.le_refl 5)
    | spec _ _ => exact call _ _ trivial (Nat.le_refl 5)
    | group _ =>
      -- started at the token: a node ends strictly after it
      apply afterChild_nf hnf hch hf (pc_nf hnf (P := .group _ false false) trivial hcf (by show _ + 1 ≤ n; omega))
      intro res q hr hres
      have h := pc_ok (run_adv env n) (P := .group _ false false) trivial hcf hr
      rcases hres with ⟨_, hno⟩ | ⟨nd, hnd⟩
      · cases hno
      · have := (h.2 nd hnd).1
        omega
    | math hk _ =>
      -- so does a math node, and the math parser returns nothing only at the end of the input
      apply afterChild_nf hnf hch hf (pc_nf hnf (P := .math _) trivial hcf (by show _ + 1 ≤ n; omega))
      intro res q hr hres
      have h := pc_ok (run_adv env n) (P := .math _) trivial hcf hr
      rcases hres with ⟨hno, _⟩ | ⟨nd, hnd⟩
      · exact absurd (h.2.2 hno) (hm (by rcases hk with hk | hk <;> (rw [hk]; rfl)))
      · have := h.2.1 nd hnd
        omega

theorem loopStep_nf (hch : child.Ok) (hf : DelimsOk f) (hb : 4 * (env.s.length - st.pos) + 2 ≤ n + 1) :
    NF (loopStep env (run env n) f stop child st) := by
  apply loopStep_elim
  case char =>
    intro t hlt _ _
    have lt := LTok.of_loopTok hf hlt
    have h2 := lt.adv
    have h4 := lt.in_range
    exact hnf (.loop f stop child _) ⟨hch, hf⟩ (by simp only [need]; omega)
  case dispatch =>
    intro t hlt _ _
    have lt := LTok.of_loopTok hf hlt
    have h1 := lt.pos_eq
    exact loopDispatch_nf hnf hch hf st.pos hb lt.adv lt.in_range (by show st.pos ≤ t.pos; omega) lt.math
  all_goals intros; exact loopFinish_nf

theorem rawGeneral_nf {require : Bool} (hch : child.Ok) (hf : DelimsOk f) (hb : 4 * (env.s.length - pos) + 3 ≤ n + 1) :
    NFRaw (rawGeneral (run env n) stop require child f pos) := by
  apply rawGeneral_elim
  case fuel =>
    intro h
    exact absurd h (hnf (.loop f stop child { pos := pos }) ⟨hch, hf⟩ (by simp only [need]; omega))
  all_goals intros; exact nofun

theorem rawGroup_nf {d : GroupDelims} {opt ap : Bool} (hf : DelimsOk f) (hb : 4 * (env.s.length - pos) + 1 ≤ n + 1) :
    NFRaw (rawGroup env (run env n) d opt ap f pos) := by
  apply rawGroup_elim
  case tok =>
    intro g t hgs hpk
    have hg := delimsOk_groupState hgs hf
    have ht := LTok.of_peek hg hpk
    have h2 := ht.adv
    have h4 := ht.in_range
    apply rawGroupTok_elim
    case other =>
      intro c _ _ _
      exact NFRaw.ret (pc_nf hnf (P := .general _ true (.group d.opener g f)) ⟨hg, hf⟩ hg (by show _ + 3 ≤ n; omega))
    all_goals intros; exact nofun
  all_goals intros; exact nofun

theorem rawMath_nf {delim : Str} (hf : DelimsOk f) (hb : 4 * (env.s.length - pos) + 1 ≤ n + 1) :
    NFRaw (rawMath env (run env n) delim f pos) := by
  apply rawMath_elim
  case tok =>
    intro t hpk
    have ht := LTok.of_peek hf hpk
    have h2 := ht.adv
    have h4 := ht.in_range
    apply rawMathTok_elim
    case other =>
      intro cd _ _ _
      exact NFRaw.ret (pc_nf hnf (P := .general _ true .same) trivial (delimsOk_mathFields t.arg hf)
        (by show _ + 3 ≤ n; omega))
    all_goals intros; exact nofun
  all_goals intros; exact nofun

theorem rawEnvBody_nf {name : Str} (hf : DelimsOk f) (hb : 4 * (env.s.length - pos) + 4 ≤ n + 1) :
    NFRaw (rawEnvBody (run env n) name f pos) := by
  apply rawEnvBody_elim
  case other => intro _; exact NFRaw.ret (pc_nf hnf (P := .general _ true .same) trivial hf (by show _ + 3 ≤ n; omega))
  all_goals intros; exact nofun

theorem rawCall_nf {mk : Nat → Option (List Arg) → Node} {a : ArgsP} (hf : DelimsOk f)
    (hb : 4 * (env.s.length - pos) + 5 ≤ n + 1) : NFRaw (rawCall (run env n) mk a f pos) := by
  apply rawCall_elim
  case other => intro _; exact NFRaw.ret (pc_nf hnf (P := .arguments a) trivial hf (by show _ + 4 ≤ n; omega))
  case ok => intro _ _ _; exact nofun

theorem rawEnvCall_nf {a : ArgsP} {bm : Bool} (hf : DelimsOk f) (hb : 4 * (env.s.length - pos) + 5 ≤ n + 1) :
    NFRaw (rawEnvCall (run env n) t a bm f pos) := by
  have hbf : DelimsOk (if bm = true then applyDelta f .enterMath else f) := by
    split
    · exact delimsOk_applyDelta _ hf
    · exact hf
  apply rawEnvCall_elim
  case argsOther => intro _; exact NFRaw.ret (pc_nf hnf (P := .arguments a) trivial hf (by show _ + 4 ≤ n; omega))
  case bodyOther =>
    intro ares p hr _
    have := PQ_le (pc_ok (run_adv env n) (P := .arguments a) trivial hf hr)
    exact NFRaw.ret (pc_nf hnf (P := .envBody t.arg) trivial hbf (by show _ + 4 ≤ n; omega))
  case ok => intro _ _ _ _ _ _; exact nofun

omit hnf in
theorem legacyVerbEnvFinish_nf {name : Str} {pre : List Arg} {p : Nat} :
    NFRaw (legacyVerbEnvFinish env name f pos pre p) := by
  apply legacyVerbEnvFinish_elim
  all_goals intros; exact nofun

theorem rawLegacyVerbEnv_nf {name : Str} {optArg : Bool} (hf : DelimsOk f)
    (hb : 4 * (env.s.length - pos) + 4 ≤ n + 1) : NFRaw (rawLegacyVerbEnv env (run env n) name optArg f pos) := by
  apply rawLegacyVerbEnv_elim
  case other =>
    intro _ _
    exact NFRaw.ret (pc_nf hnf (P := .group (.pair ['['] [']']) true false) trivial hf (by show _ + 1 ≤ n; omega))
  all_goals intros; exact legacyVerbEnvFinish_nf

theorem argsLoop_nf (hf : DelimsOk f) :
    ∀ (l : List ArgSpec) (acc : List Arg) (pos : Nat), 4 * (env.s.length - pos) + 4 ≤ n + 1 →
      NF (argsLoop env (run env n) f l acc pos)
  | [], acc, pos, _ => by rw [argsLoop_nil]; exact nofun
  | a :: rest, acc, pos, hb => by
    have hg := delimsOk_applyDelta a.delta hf
    have hd := dP_argParser a.kind
    apply argsLoop_cons_elim
    case err => intro _ _ _ _ _ _; exact nofun
    case ok =>
      intro res q hr
      have := PQ_le (pc_ok (run_adv env n) (argParser_ok a.kind) hg hr)
      exact argsLoop_nf hf rest _ q (by omega)
    case other => intro _; exact pc_nf hnf (argParser_ok a.kind) hg (by omega)

theorem rawArguments_nf {a : ArgsP} (hf : DelimsOk f) (hb : 4 * (env.s.length - pos) + 4 ≤ n + 1) :
    NFRaw (rawArguments env (run env n) a f pos) := by
  cases a with
  | std l => exact NFRaw.ret (argsLoop_nf hnf hf l [] pos hb)
  | legacyVerb =>
    apply rawLegacyVerb_elim
    all_goals intros; exact nofun
  | legacyVerbEnv name optArg => exact rawLegacyVerbEnv_nf hnf hf hb
  | unknown => exact nofun

theorem exprOnTok_nf {allowPre : Bool} {skipped : List Node} (hf : DelimsOk f) (hp : pos ≤ t.pos) (h2 : pos < t.posEnd)
    (h4 : t.posEnd ≤ env.s.length) (hb : 4 * (env.s.length - pos) + 2 ≤ n + 1) :
    NF (exprOnTok env (run env n) allowPre skipped f t) := by
  have ex : ∀ sk, NF (run env n (.expr allowPre sk f t.posEnd)) := fun sk =>
    hnf (.expr allowPre sk f t.posEnd) hf (by simp only [need]; omega)
  apply exprOnTok_elim
  case commentKept => intro _ _; exact ex _
  case commentSkipped => intro _ _ _; exact ex _
  case group => intro _ _ _ _; exact exprFinish_nf
  case groupOther => intro _ _; exact pc_nf hnf (P := .group _ false false) trivial hf (by show _ + 1 ≤ n; omega)
  case char => intro _; exact exprFinish_nf
  all_goals intros; exact nofun

theorem exprTok_nf {allowPre : Bool} {skipped : List Node} (hf : DelimsOk f) (ht : LTok env.s pos t)
    (hb : 4 * (env.s.length - pos) + 2 ≤ n + 1) : NF (exprTok env (run env n) allowPre skipped f t) := by
  have h1 := ht.pos_eq
  have h2 := ht.adv
  have h3 := ht.le
  have h4 := ht.in_range
  apply exprTok_elim
  case spaceKept =>
    intro _ _ hpre _
    have := List.length_pos_iff.mpr hpre
    exact hnf (.expr allowPre _ f t.pos) hf (by simp only [need]; omega)
  case spaceSkipped => intro _ _ _ _ _; exact hnf (.expr allowPre _ f t.posEnd) hf (by simp only [need]; omega)
  case onTok => intro _ _ _; exact exprOnTok_nf hnf hf (by omega) h2 h4 hb
  case beginEndStrict | spaceStrict => intros; exact nofun
  all_goals intros; exact exprFinish_nf

theorem exprStep_nf {allowPre : Bool} {skipped : List Node} (hf : DelimsOk f)
    (hb : 4 * (env.s.length - pos) + 2 ≤ n + 1) : NF (exprStep env (run env n) allowPre skipped f pos) := by
  apply exprStep_elim
  case tok => intro t hp; exact exprTok_nf hnf hf (LTok.of_peek (delimsOk_exprFields hf) hp) hb
  case eosTolerant => intro _; exact exprFinish_nf
  all_goals intros; exact nofun

theorem rawParse_nf {p : Parser} (hP : p.Ok) (hf : DelimsOk f) (hb : 4 * (env.s.length - pos) + dP p ≤ n + 1) :
    NFRaw (rawParse env (run env n) p f pos) := by
  cases p with
  | general stop require child => exact rawGeneral_nf hnf hP hf hb
  | group d o a => exact rawGroup_nf hnf hf hb
  | math d => exact rawMath_nf hnf hf hb
  | envBody nm => exact rawEnvBody_nf hnf hf hb
  | macroCall t a => exact rawCall_nf hnf hf hb
  | specialsCall t a => exact rawCall_nf hnf hf hb
  | envCall t a bm => exact rawEnvCall_nf hnf hf hb
  | arguments a => exact rawArguments_nf hnf hf hb
  | expression ap => exact NFRaw.ret (hnf (.expr ap [] f pos) hf (by simp only [need]; simp only [dP] at hb; omega))
  | marker c fl ap =>
    apply rawMarker_elim
    all_goals intros; exact nofun
  | verbatim d =>
    apply rawVerbatim_elim
    all_goals intros; exact nofun

theorem step_nf (t : Task) (ht : t.Ok) (hb : need env.s.length t ≤ n + 1) : NF (step env (run env n) t) := by
  cases t with
  | pc p f pos => exact parseContent_nf (rawParse_nf hnf ht.1 ht.2 hb)
  | loop f stop child st => exact loopStep_nf hnf ht.1 ht.2 hb
  | expr ap sk f pos => exact exprStep_nf hnf ht hb

end step

/-- **Progress.** `need` units of fuel are enough for any task (both modes, any context). -/
theorem run_nf (env : Env) : ∀ (n : Nat) (t : Task), t.Ok → need env.s.length t ≤ n → run env n t ≠ .fuel :=
  run_inv_fuel (P := fun n t r => t.Ok → need env.s.length t ≤ n → NF r)
    (fun t _ hb => absurd hb (Nat.not_le_of_lt (need_pos env.s.length t)))
    (fun _ ih t => step_nf ih t)

end Pylx
