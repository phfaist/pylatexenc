/-
  C06 — the monotonicity contract: every `parse_content` call returns with the reader at or after the
  position it was started at (in both modes, including tolerant recovery), a collector loop ends at or after
  its start, and the delimited-group / math parsers return a node only after strictly advancing.
-/
import PylxProofs.StepLemmas
import PylxProofs.C06Tok
namespace Pylx

theorem findStrFromAux_ge (t : Str) : ∀ (l : Str) (p e : Nat), findStrFromAux t l p = some e → p ≤ e
  | [], p, e, h => by
    unfold findStrFromAux at h
    split at h
    · cases h; exact Nat.le_refl _
    · cases h
  | c :: cs, p, e, h => by
    unfold findStrFromAux at h
    split at h
    · cases h; exact Nat.le_refl _
    · have := findStrFromAux_ge t cs (p+1) e h
      omega

theorem findStrFrom_ge (s t : Str) (p e : Nat) (h : findStrFrom s t p = some e) : p ≤ e := by
  unfold findStrFrom at h
  split at h
  · cases h
  · exact findStrFromAux_ge t _ p e h

theorem verbScan_ge (o c : Char) : ∀ (l : Str) (depth i e : Nat), verbScan o c l depth i = some e → i ≤ e
  | [], _, _, _, h => by unfold verbScan at h; cases h
  | ch :: rest, depth, i, e, h => by
    unfold verbScan at h
    split at h
    · split at h
      · cases h; exact Nat.le_refl _
      · have := verbScan_ge o c rest _ _ e h; omega
    · split at h
      · have := verbScan_ge o c rest _ _ e h; omega
      · have := verbScan_ge o c rest _ _ e h; omega

/-! A token is non-empty only if the configured math delimiters are (`DelimsOk`, used through `span_of_fields`); so
    the contract is stated for tasks whose states satisfy it (`Task.Ok`), and every state the parsers derive keeps it. -/

theorem delimsOk_of_eq {f g : PSFields} (h1 : g.inlineDelims = f.inlineDelims) (h2 : g.displayDelims = f.displayDelims)
    (h : DelimsOk f) : DelimsOk g := by
  unfold DelimsOk at *
  rw [h1, h2]; exact h

theorem delimsOk_normalize {f : PSFields} (h : DelimsOk f) : DelimsOk f.normalize := by
  unfold PSFields.normalize
  split
  · exact h
  · exact delimsOk_of_eq rfl rfl h

theorem delimsOk_applyDelta {f : PSFields} (d : Delta) (h : DelimsOk f) : DelimsOk (applyDelta f d) := by
  cases d
  · exact h
  · exact delimsOk_normalize (delimsOk_of_eq rfl rfl h)
  · exact delimsOk_normalize (delimsOk_of_eq rfl rfl h)

theorem delimsOk_mathFields {f : PSFields} (d : Str) (h : DelimsOk f) : DelimsOk (mathFields f d) :=
  delimsOk_normalize (delimsOk_of_eq rfl rfl h)

theorem delimsOk_exprFields {f : PSFields} (h : DelimsOk f) :
    DelimsOk ({ f with enEnvs := false } : PSFields).normalize :=
  delimsOk_normalize (delimsOk_of_eq rfl rfl h)

theorem delimsOk_groupState {d : GroupDelims} {f g : PSFields} (hg : groupState d f = some g) (h : DelimsOk f) :
    DelimsOk g := by
  unfold groupState at hg
  split at hg
  · split at hg
    · cases hg; exact h
    · cases hg
  · split at hg
    · cases hg; exact h
    · cases hg; exact delimsOk_of_eq rfl rfl h

def ChildPS.Ok : ChildPS → Prop
  | .same => True
  | .group _ c o => DelimsOk c ∧ DelimsOk o

def Parser.Ok : Parser → Prop
  | .general _ _ ch => ch.Ok
  | _ => True

def Task.Ok : Task → Prop
  | .pc p f _ => p.Ok ∧ DelimsOk f
  | .loop f _ ch _ => ch.Ok ∧ DelimsOk f
  | .expr _ _ f _ => DelimsOk f

theorem ChildPS.get_ok {c : ChildPS} {f : PSFields} (t : Token) (hc : c.Ok) (hf : DelimsOk f) : DelimsOk (c.get f t) := by
  cases c with
  | same => exact hf
  | group o a b =>
    unfold ChildPS.get
    dsimp only
    split
    · exact hc.1
    · exact hc.2

/-- where tolerant recovery puts the reader -/
def recPos (e : PErr) : Nat :=
  match e.recAt with
  | some t => moveToToken t true
  | none => match e.recPast with
    | some t => movePastToken t true
    | none => e.rpos

/-- what a `parse_content` call started at `pos` promises about the result `res` and the new position `q` -/
def PQ (s : Str) : Parser → Nat → Res → Nat → Prop
  | .group _ _ _, pos, res, q => pos ≤ q ∧ ∀ n, res = .node n → pos < q ∧ n.posEnd = q
  | .math _, pos, res, q => pos ≤ q ∧ (∀ n, res = .node n → pos < q) ∧ (res = .none → EosAt s pos)
  | _, pos, _, q => pos ≤ q

theorem PQ_le {s : Str} {p : Parser} {pos : Nat} {res : Res} {q : Nat} (h : PQ s p pos res q) : pos ≤ q := by
  cases p <;> first | exact h | exact h.1

def PcAdv (env : Env) (p : Parser) (pos : Nat) : Ret → Prop
  | .ok res q => PQ env.s p pos res q
  | .perr _ => env.tol = false
  | _ => True

def ExprAdv (env : Env) (pos : Nat) : Ret → Prop
  | .ok _ q => pos ≤ q
  | .perr e => env.tol = true → pos ≤ recPos e
  | _ => True

def LoopAdv (p0 : Nat) : Ret → Prop
  | .loopEnd e => p0 ≤ e.pos ∧ ∀ t, e.stopTok = some t → p0 < t.posEnd
  | _ => True

def Adv (env : Env) : Task → Ret → Prop
  | .pc p _ pos, r => PcAdv env p pos r
  | .loop _ _ _ st, r => LoopAdv st.pos r
  | .expr _ _ _ pos, r => ExprAdv env pos r

def RawAdv (env : Env) (p : Parser) (pos : Nat) : Raw → Prop
  | .eos q => PQ env.s p pos .none q
  | .ret (.ok res q) => PQ env.s p pos res q
  | .ret (.perr e) => env.tol = true → PQ env.s p pos e.recNodes (recPos e)
  | .ret _ => True

theorem parseContent_adv {env : Env} {p : Parser} {pos : Nat} {raw : Raw} (h : RawAdv env p pos raw) :
    PcAdv env p pos (parseContent env.tol raw) := by
  cases raw with
  | eos q => exact h
  | ret r =>
    cases r with
    | ok res q => exact h
    | perr e =>
      rw [parseContent_perr]
      cases ht : env.tol with
      | true => exact h ht
      | false => exact ht
    | loopEnd e => trivial
    | crash k => trivial
    | fuel => trivial

theorem LoopAdv.mono {p0 p1 : Nat} {r : Ret} (h01 : p0 ≤ p1) (h : LoopAdv p1 r) : LoopAdv p0 r := by
  cases r with
  | loopEnd e => exact ⟨Nat.le_trans h01 h.1, fun t ht => Nat.lt_of_le_of_lt h01 (h.2 t ht)⟩
  | _ => trivial

theorem ExprAdv.mono {env : Env} {p0 p1 : Nat} {r : Ret} (h01 : p0 ≤ p1) (h : ExprAdv env p1 r) : ExprAdv env p0 r := by
  cases r with
  | ok res q => exact Nat.le_trans h01 h
  | perr e => exact fun ht => Nat.le_trans h01 (h ht)
  | _ => trivial

theorem flushBefore_pos (f : PSFields) (st : LoopSt) (t : Token) : (st.flushBefore f t).pos = st.pos := by
  unfold LoopSt.flushBefore
  split
  · rw [LoopSt.flush_pos]
  · split <;> rfl

section step
variable {env : Env} {f : PSFields} {stop : StopTok} {child : ChildPS} {st : LoopSt} {t : Token} {pos : Nat}

theorem loopFinish_adv (f : PSFields) (st : LoopSt) (stopTok : Option Token) (err : Option PErr) (p0 : Nat)
    (h1 : p0 ≤ st.pos) (h2 : ∀ t, stopTok = some t → p0 < t.posEnd) : LoopAdv p0 (loopFinish f st stopTok err) := by
  rw [loopFinish_eq]
  exact ⟨h1, h2⟩

/-- what the collector knows about the token it works on (read at `p0`, or the synthesised final-space token) -/
structure LTok (s : Str) (p0 : Nat) (t : Token) : Prop where
  pos_eq : t.pos = p0 + t.pre.length
  adv : p0 < t.posEnd
  le : t.pos ≤ t.posEnd
  in_range : t.posEnd ≤ s.length
  math : isMathKind t.kind = true → ¬ EosAt s t.pos

theorem LTok.of_peek {tol : Bool} {g : PSFields} (hg : DelimsOk g) {s : Str} {p : Nat}
    (h : peekTok tol (mkPS g) s p = .tok t) : LTok s p t := by
  have hs := span_of_fields tol g hg s p t h
  have h1 := hs.pos_eq
  have h2 := hs.nonempty
  exact ⟨h1, by omega, by omega, hs.in_range, peekTok_math_not_eos tol _ s p t h⟩

theorem LTok.of_loopTok (hf : DelimsOk f) (h : LoopTok env f st t) : LTok env.s st.pos t := by
  cases h with
  | peek h => exact LTok.of_peek hf h
  | @final fs h hne =>
    have h1 := (peekTok_eos_spec _ _ _ _ _ h).1
    have hl := spaceRun_length_le env.s st.pos
    rw [← h1] at hl
    have hpos : 0 < fs.length := List.length_pos_iff.mpr hne
    exact ⟨rfl, by show st.pos < st.pos + fs.length; omega, Nat.le_refl _, by show st.pos + fs.length ≤ _; omega,
           fun hk => nomatch hk⟩

/-- the contracts ask nothing of a result that is neither `ok` nor a parse error let through by tolerant mode -/
theorem exprAdv_other {r : Ret} (hperr : ∀ e, r = .perr e → env.tol = false) (hne : ∀ res q, r ≠ .ok res q) :
    ExprAdv env pos r := by
  cases r with
  | ok res q => exact absurd rfl (hne res q)
  | perr e => exact fun ht => absurd ((hperr e rfl).symm.trans ht) (by decide)
  | _ => trivial

theorem rawAdv_other {p : Parser} {r : Ret} (hperr : ∀ e, r = .perr e → env.tol = false)
    (hne : ∀ res q, r ≠ .ok res q) : RawAdv env p pos (.ret r) := by
  cases r with
  | ok res q => exact absurd rfl (hne res q)
  | perr e => exact fun ht => absurd ((hperr e rfl).symm.trans ht) (by decide)
  | _ => trivial

theorem rawAdv_of_expr {P : Parser} {r : Ret} (hPQ : ∀ res q, pos ≤ q → PQ env.s P pos res q)
    (h : ExprAdv env pos r) : RawAdv env P pos (.ret r) := by
  cases r with
  | ok res q => exact hPQ _ _ h
  | perr e => exact fun ht => hPQ _ _ (h ht)
  | _ => trivial

theorem exprFinish_adv {nodes : List Node} {q : Nat} (h : pos ≤ q) : ExprAdv env pos (exprFinish f nodes q) := by
  unfold exprFinish
  split <;> exact h

theorem argParser_ok (k : ArgKind) : (argParser k).Ok := by cases k <;> trivial

/-! In each lemma the outcomes not named are those of which the contract asks nothing (a crash, `.fuel`). -/

variable {rec : Task → Ret} (hrec : ∀ t, t.Ok → Adv env t (rec t))
include hrec

theorem pc_perr {P : Parser} {g : PSFields} {start : Nat} (hP : P.Ok) (hg : DelimsOk g) :
    ∀ e, rec (.pc P g start) = .perr e → env.tol = false := by
  intro e he
  have := hrec (.pc P g start) ⟨hP, hg⟩
  rwa [he] at this

theorem pc_ok {P : Parser} {g : PSFields} {start : Nat} (hP : P.Ok) (hg : DelimsOk g) {res : Res} {q : Nat}
    (he : rec (.pc P g start) = .ok res q) : PQ env.s P start res q := by
  have := hrec (.pc P g start) ⟨hP, hg⟩
  rwa [he] at this

theorem afterChild_adv {noneOk : Bool} {r : Ret} (hch : child.Ok) (hf : DelimsOk f) (p0 : Nat) (hst : p0 ≤ st.pos)
    (hq : ∀ res q, r = .ok res q → p0 ≤ q) : LoopAdv p0 (afterChild rec f stop child st noneOk r) := by
  apply afterChild_elim
  case node => intro n p e; exact LoopAdv.mono (hq _ p e) (hrec (.loop f stop child _) ⟨hch, hf⟩)
  case absent => intro p e _; exact LoopAdv.mono (hq _ p e) (hrec (.loop f stop child _) ⟨hch, hf⟩)
  case perr => intro e _; exact loopFinish_adv f st none _ p0 hst (fun t ht => nomatch ht)
  all_goals intros; trivial

theorem loopDispatch_adv (hch : child.Ok) (hf : DelimsOk f) (p0 : Nat) (hst : p0 ≤ st.pos) (ht : p0 ≤ t.pos) :
    LoopAdv p0 (loopDispatch env rec f stop child st t) := by
  have lp : ∀ st' : LoopSt, st'.pos = st.pos → LoopAdv p0 (rec (.loop f stop child st')) := fun st' h =>
    LoopAdv.mono (by rw [h]; exact hst) (hrec (.loop f stop child st') ⟨hch, hf⟩)
  apply loopDispatch_elim
  case err => intro _ _ _; exact loopFinish_adv f st none _ p0 hst (fun t ht => nomatch ht)
  case comment => intro _; exact lp _ rfl
  case skip => intro _; exact lp st rfl
  case sub =>
    intro P start b hd
    apply afterChild_adv hrec hch hf p0 hst
    intro res q hr
    have hs : p0 ≤ start ∧ P.Ok := by cases hd <;> exact ⟨by assumption, trivial⟩
    exact Nat.le_trans hs.1 (PQ_le (pc_ok hrec hs.2 (ChildPS.get_ok t hch hf) hr))
  case crash => intro _ _; trivial

theorem loopStep_adv (hch : child.Ok) (hf : DelimsOk f) : LoopAdv st.pos (loopStep env rec f stop child st) := by
  apply loopStep_elim
  case stopped =>
    intro t hlt _
    have lt := LTok.of_loopTok hf hlt
    have h1 := lt.pos_eq
    exact loopFinish_adv _ _ _ _ _ (by show st.pos ≤ t.pos; omega) (fun t' ht' => by cases ht'; exact lt.adv)
  case char =>
    intro t hlt _ _
    exact LoopAdv.mono (Nat.le_of_lt (LTok.of_loopTok hf hlt).adv) (hrec (.loop f stop child _) ⟨hch, hf⟩)
  case dispatch =>
    intro t hlt _ _
    have lt := LTok.of_loopTok hf hlt
    have h1 := lt.pos_eq
    exact loopDispatch_adv hrec hch hf st.pos (Nat.le_of_lt lt.adv) (by show st.pos ≤ t.pos; omega)
  all_goals intros; exact loopFinish_adv f st none _ st.pos (Nat.le_refl _) (fun t ht => nomatch ht)

theorem rawGeneral_adv {require : Bool} (hch : child.Ok) (hf : DelimsOk f) :
    RawAdv env (.general stop require child) pos (rawGeneral rec stop require child f pos) := by
  have h := hrec (.loop f stop child { pos := pos }) ⟨hch, hf⟩
  apply rawGeneral_elim
  case err => intro e _ hr _ _; rw [hr] at h; exact h.1
  case unmet => intro e hr _ _ _ _ _; rw [hr] at h; exact h.1
  case stopped =>
    intro e t hr _ hst
    rw [hr] at h
    show pos ≤ _
    split
    · exact Nat.le_of_lt (h.2 t hst)
    · exact h.1
  case ended => intro e hr _ _ _; rw [hr] at h; exact h.1
  all_goals intros; trivial

theorem rawGroup_adv {d : GroupDelims} {opt ap : Bool} (hf : DelimsOk f) :
    RawAdv env (.group d opt ap) pos (rawGroup env rec d opt ap f pos) := by
  have hnone : ∀ q, pos ≤ q → PQ env.s (.group d opt ap) pos .none q := fun q h => ⟨h, fun n hn => nomatch hn⟩
  apply rawGroup_elim
  case noState => intro _ _; trivial
  case eos => intro _ _ _ _; exact hnone _ (Nat.le_refl _)
  case err => intro _ _ _ _ _ _ _ _ _; exact hnone _ (Nat.le_refl _)
  case tok =>
    intro g t hgs hpk
    have hg := delimsOk_groupState hgs hf
    have ht := LTok.of_peek hg hpk
    have h1 := ht.pos_eq
    have h2 := ht.adv
    have hP : ∀ c, (Parser.general (.braceClose c) true (.group d.opener g f)).Ok := fun _ => ⟨hg, hf⟩
    apply rawGroupTok_elim
    case noCloser => intro _ _ _; trivial
    case ok =>
      intro c res p _ _ hr
      have := PQ_le (pc_ok hrec (hP c) hg hr)
      exact ⟨by omega, fun n hn => by cases hn; exact ⟨by omega, rfl⟩⟩
    case other => intro c _ _ hne; exact rawAdv_other (pc_perr hrec (hP c) hg) hne
    case absent => intro _ _; exact hnone _ (by omega)
    case notFound => intro _ _ _; exact ⟨by show pos ≤ t.pos - t.pre.length; omega, fun n hn => nomatch hn⟩

theorem rawMath_adv {delim : Str} (hf : DelimsOk f) : RawAdv env (.math delim) pos (rawMath env rec delim f pos) := by
  apply rawMath_elim
  case eos =>
    intro fs hp
    exact ⟨Nat.le_refl _, (fun n hn => by cases hn), fun _ => (peekTok_eos_spec _ _ _ _ _ hp).2⟩
  case err => intro _ _ _ _ _ htol ht; exact absurd (htol.symm.trans ht) (by decide)
  case tok =>
    intro t hpk
    have ht := LTok.of_peek hf hpk
    have h1 := ht.pos_eq
    have h2 := ht.adv
    have hg := delimsOk_mathFields t.arg hf
    apply rawMathTok_elim
    case noCloser => intro _ _ _; trivial
    case ok =>
      intro cd res p _ _ hr
      have := PQ_le (pc_ok hrec (P := .general (.mathClose (t.kind == .mathDisplay) cd.1) true .same) trivial hg hr)
      exact ⟨by omega, fun n _ => by omega, fun hn => nomatch hn⟩
    case other => intro cd _ _ hne; exact rawAdv_other (pc_perr hrec (P := .general _ true .same) trivial hg) hne
    case notFound =>
      intro _ _
      exact ⟨by show pos ≤ t.pos - t.pre.length; omega, (fun n hn => by cases hn), (fun hn => by cases hn)⟩

theorem rawEnvBody_adv {name : Str} (hf : DelimsOk f) : RawAdv env (.envBody name) pos (rawEnvBody rec name f pos) := by
  have hP : (Parser.general (.endEnv name) true .same).Ok := trivial
  apply rawEnvBody_elim
  case empty => intro p hr; exact PQ_le (pc_ok hrec hP hf hr)
  case ok => intro res p hr _; exact PQ_le (pc_ok hrec hP hf hr)
  case other => intro hne; exact rawAdv_other (pc_perr hrec hP hf) hne

theorem rawCall_adv {P : Parser} {mk : Nat → Option (List Arg) → Node} {a : ArgsP}
    (hPQ : ∀ res q, pos ≤ q → PQ env.s P pos res q) (hf : DelimsOk f) : RawAdv env P pos (rawCall rec mk a f pos) := by
  have hP : (Parser.arguments a).Ok := trivial
  apply rawCall_elim
  case ok => intro res p hr; exact hPQ _ _ (PQ_le (pc_ok hrec hP hf hr))
  case other => intro hne; exact rawAdv_other (pc_perr hrec hP hf) hne

theorem rawEnvCall_adv {a : ArgsP} {bm : Bool} (hf : DelimsOk f) :
    RawAdv env (.envCall t a bm) pos (rawEnvCall rec t a bm f pos) := by
  have hP : (Parser.arguments a).Ok := trivial
  have hP2 : (Parser.envBody t.arg).Ok := trivial
  have hbf : DelimsOk (if bm = true then applyDelta f .enterMath else f) := by
    split
    · exact delimsOk_applyDelta _ hf
    · exact hf
  apply rawEnvCall_elim
  case ok =>
    intro ares p bres p2 h1 h2
    exact Nat.le_trans (PQ_le (pc_ok hrec hP hf h1)) (PQ_le (pc_ok hrec hP2 hbf h2))
  case argsOther => intro hne; exact rawAdv_other (pc_perr hrec hP hf) hne
  case bodyOther => intro _ _ _ hne; exact rawAdv_other (pc_perr hrec hP2 hbf) hne

omit hrec in
theorem legacyVerbEnvFinish_adv {name : Str} {pre : List Arg} {p : Nat} {a : ArgsP} (hp : pos ≤ p) :
    RawAdv env (.arguments a) pos (legacyVerbEnvFinish env name f pos pre p) := by
  apply legacyVerbEnvFinish_elim
  case notFound => intro _ _; exact Nat.le_refl _
  case ok => intro e he; exact Nat.le_trans hp (findStrFrom_ge _ _ _ _ he)

theorem rawLegacyVerbEnv_adv {name : Str} {optArg : Bool} {a : ArgsP} (hf : DelimsOk f) :
    RawAdv env (.arguments a) pos (rawLegacyVerbEnv env rec name optArg f pos) := by
  have hP : (Parser.group (.pair ['['] [']']) true false).Ok := trivial
  apply rawLegacyVerbEnv_elim
  case node =>
    intro n p _ hr
    have := ((pc_ok hrec hP hf hr).2 n rfl).2
    have := PQ_le (pc_ok hrec hP hf hr)
    exact legacyVerbEnvFinish_adv (by omega)
  case other => intro _ hne; exact rawAdv_other (pc_perr hrec hP hf) hne
  all_goals intros; exact legacyVerbEnvFinish_adv (Nat.le_refl _)

theorem argsLoop_adv (hf : DelimsOk f) :
    ∀ (l : List ArgSpec) (acc : List Arg) (pos : Nat), ExprAdv env pos (argsLoop env rec f l acc pos)
  | [], acc, pos => by rw [argsLoop_nil]; exact Nat.le_refl _
  | a :: rest, acc, pos => by
    have hg := delimsOk_applyDelta a.delta hf
    apply argsLoop_cons_elim
    case err => intro _ _ _ _ _ _ _; exact Nat.le_refl _
    case ok =>
      intro res p hr
      exact ExprAdv.mono (PQ_le (pc_ok hrec (argParser_ok _) hg hr)) (argsLoop_adv hf rest _ p)
    case other => intro hne; exact exprAdv_other (pc_perr hrec (argParser_ok _) hg) hne

theorem rawArguments_adv {a : ArgsP} (hf : DelimsOk f) :
    RawAdv env (.arguments a) pos (rawArguments env rec a f pos) := by
  cases a with
  | std l => exact rawAdv_of_expr (fun _ _ h => h) (argsLoop_adv hrec hf l [] pos)
  | legacyVerb =>
    apply rawLegacyVerb_elim
    case ok =>
      intro p d e hp _ he
      have := (findCharFrom_spec _ _ _ _ he).1
      show pos ≤ e + 1
      omega
    all_goals intros; exact fun _ => Nat.le_refl _
  | legacyVerbEnv name optArg => exact rawLegacyVerbEnv_adv hrec hf
  | unknown => trivial

theorem exprOnTok_adv {allowPre : Bool} {skipped : List Node} (hf : DelimsOk f) (hp : pos ≤ t.pos - t.pre.length)
    (h3 : t.pos ≤ t.posEnd) : ExprAdv env pos (exprOnTok env rec allowPre skipped f t) := by
  have hp3 : pos ≤ t.posEnd := by omega
  have ex : ∀ sk, ExprAdv env pos (rec (.expr allowPre sk f t.posEnd)) := fun sk =>
    ExprAdv.mono hp3 (hrec (.expr allowPre sk f t.posEnd) hf)
  have hP : (Parser.group (.auto t.arg) false false).Ok := trivial
  apply exprOnTok_elim
  case commentKept => intro _ _; exact ex _
  case commentSkipped => intro _ _ _; exact ex _
  case commentStrict => intro _ _ _ _; exact hp3
  case group =>
    intro n p _ hr
    have := PQ_le (pc_ok hrec hP hf hr)
    exact exprFinish_adv (by omega)
  case groupOther => intro _ hne; exact exprAdv_other (pc_perr hrec hP hf) hne
  case braceClose => intro _ _; exact hp
  case char => intro _; exact exprFinish_adv hp3
  case math => intro _ _; exact hp3
  case crash => intro _ _; trivial

theorem exprTok_adv {allowPre : Bool} {skipped : List Node} (hf : DelimsOk f) (ht : LTok env.s pos t) :
    ExprAdv env pos (exprTok env rec allowPre skipped f t) := by
  have h1 := ht.pos_eq
  have hp3 : pos ≤ t.posEnd := Nat.le_of_lt ht.adv
  apply exprTok_elim
  case spaceKept => intro _ _ _ _; exact ExprAdv.mono (by omega) (hrec (.expr allowPre _ f t.pos) hf)
  case spaceSkipped => intro _ _ _ _ _; exact ExprAdv.mono hp3 (hrec (.expr allowPre _ f t.posEnd) hf)
  case onTok => intro _ _ _; exact exprOnTok_adv hrec hf (by omega) ht.le
  case beginEndStrict | spaceStrict => intros; exact fun _ => hp3
  all_goals intros; exact exprFinish_adv hp3

theorem exprStep_adv {allowPre : Bool} {skipped : List Node} (hf : DelimsOk f) :
    ExprAdv env pos (exprStep env rec allowPre skipped f pos) := by
  apply exprStep_elim
  case err => intro _ _ _ _ _ _ _; exact Nat.le_refl _
  case eosTolerant => intro _; exact exprFinish_adv (Nat.le_refl _)
  case eosStrict => intro _ _; exact Nat.le_refl _
  case tok => intro t hp; exact exprTok_adv hrec hf (LTok.of_peek (delimsOk_exprFields hf) hp)

omit hrec in
theorem rawMarker_adv {c : Char} {fl ap : Bool} (hf : DelimsOk f) :
    RawAdv env (.marker c fl ap) pos (rawMarker env c fl ap f pos) := by
  apply rawMarker_elim
  case found => intro t hp _ _ _; exact Nat.le_of_lt (LTok.of_peek hf hp).adv
  case err => intro _ _ _ _ _ _ _; exact Nat.le_refl _
  all_goals intros; exact Nat.le_refl _

omit hrec in
theorem rawVerbatim_adv {d : Option (Char × Char)} : RawAdv env (.verbatim d) pos (rawVerbatim env d f pos) := by
  apply rawVerbatim_elim
  case eos => intro p hp _; show pos ≤ p; omega
  case notFound => intro p _ hp _ _ _; show pos ≤ p + 1; omega
  case ok =>
    intro p _ o c e hp _ _ he
    have := verbScan_ge _ _ _ _ _ _ he
    show pos ≤ e + 1
    omega
  case unterminated =>
    intro p first _ _ hp hfirst _ _ _
    have := getElem?_lt _ _ _ hfirst
    show pos ≤ env.s.length
    omega

theorem rawParse_adv {p : Parser} (hP : p.Ok) (hf : DelimsOk f) : RawAdv env p pos (rawParse env rec p f pos) := by
  cases p with
  | general stop require child => exact rawGeneral_adv hrec hP hf
  | group d o a => exact rawGroup_adv hrec hf
  | math d => exact rawMath_adv hrec hf
  | envBody n => exact rawEnvBody_adv hrec hf
  | macroCall t a => exact rawCall_adv hrec (fun _ _ h => h) hf
  | specialsCall t a => exact rawCall_adv hrec (fun _ _ h => h) hf
  | envCall t a bm => exact rawEnvCall_adv hrec hf
  | arguments a => exact rawArguments_adv hrec hf
  | expression ap => exact rawAdv_of_expr (fun _ _ h => h) (hrec (.expr ap [] f pos) hf)
  | marker c fl ap => exact rawMarker_adv hf
  | verbatim d => exact rawVerbatim_adv

theorem step_adv (t : Task) (ht : t.Ok) : Adv env t (step env rec t) := by
  cases t with
  | pc p f pos => exact parseContent_adv (rawParse_adv hrec ht.1 ht.2)
  | loop f stop child st => exact loopStep_adv hrec ht.1 ht.2
  | expr ap sk f pos => exact exprStep_adv hrec ht

end step

theorem adv_fuel (env : Env) (t : Task) : Adv env t .fuel := by cases t <;> trivial

/-- **Monotonicity.** In both modes, every task's result respects the contract `Adv`: a `parse_content` call
    never leaves the reader before the position it was started at (even when tolerant recovery rewinds to a
    token), and a collector loop ends at or after its start. -/
theorem run_adv (env : Env) : ∀ (n : Nat) (t : Task), t.Ok → Adv env t (run env n t) :=
  run_inv (P := fun t r => t.Ok → Adv env t r) (fun t _ => adv_fuel env t) (fun _ ih t => step_adv ih t)

end Pylx
