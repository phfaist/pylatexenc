/-
  C18 — node-list splitting and key-value parsing are order-preserving partitions.
  Theorems about `Pylx.Split` (model of LatexNodeList.split_at_chars / split_at_node /
  parse_keyval_content).
-/
import Pylx.Split
namespace Pylx
namespace Split

theorem verb_append (a b : List Item) : verb (a ++ b) = verb a ++ verb b := by
  induction a with
  | nil => rfl
  | cons x r ih => simp [verb, ih]

theorem segsText_append (a b : List Seg) : segsText (a ++ b) = segsText a ++ segsText b := by
  induction a with
  | nil => rfl
  | cons x r ih => simp [segsText, ih]

theorem partsOf_append (a b : List Seg) : partsOf (a ++ b) = partsOf a ++ partsOf b := by
  induction a with
  | nil => rfl
  | cons x r ih => cases x <;> simp [partsOf, ih]

theorem sepsOf_append (a b : List Seg) : sepsOf (a ++ b) = sepsOf a ++ sepsOf b := by
  induction a with
  | nil => rfl
  | cons x r ih => cases x <;> simp [sepsOf, ih]

theorem segItems_append (a b : List Seg) : segItems (a ++ b) = segItems a ++ segItems b := by
  induction a with
  | nil => rfl
  | cons x r ih => cases x <;> simp [segItems, ih]

theorem drop_drop_sub (t : Str) {a b : Nat} (h : a ≤ b) : (t.drop a).drop (b - a) = t.drop b := by
  rw [List.drop_drop]; congr 1; omega

theorem slice_drop (t : Str) {a b : Nat} (h : a ≤ b) : slice t a b ++ t.drop b = t.drop a := by
  unfold slice
  rw [← drop_drop_sub t h, List.take_append_drop]

theorem slice_length (t : Str) {a b : Nat} (h : a ≤ b) (hb : b ≤ t.length) : (slice t a b).length = b - a := by
  unfold slice
  simp only [List.length_take, List.length_drop]
  omega

theorem slice_append (t : Str) {a b c : Nat} (h1 : a ≤ b) (h2 : b ≤ c) : slice t a b ++ slice t b c = slice t a c := by
  unfold slice
  rw [← drop_drop_sub t h1, (by omega : c - a = (b - a) + (c - b)), List.take_add]

theorem goodMatch_iff (text : Str) (prev s e : Nat) :
    goodMatch text prev s e = true ↔ prev ≤ s ∧ s ≤ e ∧ prev < e ∧ e ≤ text.length := by
  simp [goodMatch, and_assoc]

/-- every node starts where the previous one ends; a chars node is as long as its text, an
    opaque node as long as its verbatim text; `None` entries have no extent -/
def Tiles : Nat → List Item → Nat → Prop
  | a, [], b => a = b
  | a, .none :: r, b => Tiles a r b
  | a, .chars p t :: r, b => p = a ∧ Tiles (a + t.length) r b
  | a, .opq p e t _ :: r, b => p = a ∧ e = a + t.length ∧ Tiles e r b

theorem Tiles_append {a c : Nat} {l1 l2 : List Item} :
    Tiles a (l1 ++ l2) c ↔ ∃ b, Tiles a l1 b ∧ Tiles b l2 c := by
  induction l1 generalizing a with
  | nil => simp [Tiles]
  | cons x r ih => cases x <;> simp only [List.cons_append, Tiles, ih, and_assoc, exists_and_left]

theorem Tiles_length {a b : Nat} {l : List Item} (h : Tiles a l b) : b = a + (verb l).length := by
  induction l generalizing a with
  | nil => exact h.symm
  | cons x r ih =>
    cases x with
    | none => exact ih h
    | chars p t => rw [ih h.2, verb, List.length_append, Nat.add_assoc]; rfl
    | opq p e t k => rw [ih h.2.2, h.2.1, verb, List.length_append, Nat.add_assoc]; rfl

def AllNone (l : List Item) : Prop := ∀ it ∈ l, it = Item.none

theorem firstPos_of_Tiles {a b : Nat} {l : List Item} (h : Tiles a l b) :
    firstPos l = some a ∨ (firstPos l = none ∧ AllNone l) := by
  induction l generalizing a with
  | nil => exact .inr ⟨rfl, fun _ hit => nomatch hit⟩
  | cons x r ih =>
    cases x with
    | none => exact (ih h).imp_right fun h' => ⟨h'.1, List.forall_mem_cons.mpr ⟨rfl, h'.2⟩⟩
    | chars p t => exact .inl (congrArg some h.1)
    | opq p e t k => exact .inl (congrArg some h.1)

/-- a returned part `P` covers exactly `a..b`: its `pos_end` is `b`, its nodes tile `a..b`, and its `pos`
    is `a` (or `None` when it consists of `None` entries only, which have no position) -/
def PartOK (a : Nat) (P : Part) (b : Nat) : Prop :=
  P.posEnd = some b ∧ Tiles a P.items b ∧
  (P.pos = some a ∨ (P.pos = none ∧ P.items ≠ [] ∧ AllNone P.items))

theorem mkPart_ok {a b : Nat} {l : List Item} (h : Tiles a l b) : PartOK a (mkPart l (some b)) b := by
  refine ⟨rfl, h, ?_⟩
  cases l with
  | nil => simp only [Tiles] at h; left; simp [mkPart, h]
  | cons x r =>
    rcases firstPos_of_Tiles h with h1 | ⟨h1, h2⟩
    · left; simp [mkPart, h1]
    · right; exact ⟨by simp [mkPart, h1], by simp [mkPart], h2⟩

/-- the trace lays parts and separators out contiguously from `a` to `b` -/
def SegsTile : Nat → List Seg → Nat → Prop
  | a, [], b => a = b
  | a, .part P :: r, b => ∃ m, PartOK a P m ∧ SegsTile m r b
  | a, .sep s t :: r, b => s = a ∧ SegsTile (a + t.length) r b

theorem SegsTile_append {a c : Nat} {l1 l2 : List Seg} :
    SegsTile a (l1 ++ l2) c ↔ ∃ b, SegsTile a l1 b ∧ SegsTile b l2 c := by
  induction l1 generalizing a with
  | nil => simp [SegsTile]
  | cons x r ih =>
    cases x with
    | part P =>
      simp only [List.cons_append, SegsTile, ih]
      exact ⟨fun ⟨m, hP, b, h1, h2⟩ => ⟨b, ⟨m, hP, h1⟩, h2⟩, fun ⟨b, ⟨m, hP, h1⟩, h2⟩ => ⟨m, hP, b, h1, h2⟩⟩
    | sep s t => simp only [List.cons_append, SegsTile, ih, and_assoc, exists_and_left]

/-- the non-chars entries (opaque nodes and `None`s), in order -/
def nonChars (l : List Item) : List Item := l.filter (fun it => !it.isChars)

theorem nonChars_append (a b : List Item) : nonChars (a ++ b) = nonChars a ++ nonChars b := by
  simp [nonChars]

/-- the entries `split_at_chars` looks at: with `skip_none`, `None` entries are dropped -/
def keptItems (skipNone : Bool) (l : List Item) : List Item := l.filter (fun it => !(skipNone && it.isNone))

theorem keptItems_cons (sk : Bool) (n : Item) (r : List Item) :
    keptItems sk (n :: r) = if sk && n.isNone then keptItems sk r else n :: keptItems sk r := by
  unfold keptItems; rw [List.filter_cons]; cases (sk && n.isNone) <;> rfl

theorem keptItems_append (sk : Bool) (a b : List Item) : keptItems sk (a ++ b) = keptItems sk a ++ keptItems sk b :=
  List.filter_append ..

theorem Tiles_keptItems (sk : Bool) {a b : Nat} {l : List Item} (h : Tiles a l b) : Tiles a (keptItems sk l) b := by
  induction l generalizing a with
  | nil => exact h
  | cons x r ih =>
    cases x with
    | none => cases sk <;> exact ih h
    | chars p t => cases sk <;> exact ⟨h.1, ih h.2⟩
    | opq p e t k => cases sk <;> exact ⟨h.1, h.2.1, ih h.2.2⟩

theorem verb_keptItems (sk : Bool) (l : List Item) : verb (keptItems sk l) = verb l := by
  induction l with
  | nil => rfl
  | cons x r ih =>
    cases x with
    | none => cases sk <;> exact ih
    | _ => cases sk <;> exact congrArg (_ ++ ·) ih

/-- the `flush_nodes` call: the nodes become a part unless there are none and `keep_empty` is off -/
def flushOf (ke : Bool) (nodes : List Item) (pe : Option Nat) : List Seg :=
  if !nodes.isEmpty || ke then [Seg.part (mkPart nodes pe)] else []

/-- the nodes flushed at a match: the pending nodes (first match in this chars node) or nothing,
    plus the chunk before the separator unless it is empty -/
def nodesOf (pos : Nat) (text : Str) (prev s : Nat) (st : St) : List Item :=
  let l := if prev = 0 then st.pending else []
  if (slice text prev s).isEmpty then l else l ++ [Item.chars (pos + prev) (slice text prev s)]

theorem stepMatch_eq (ke : Bool) (pos : Nat) (text : Str) (prev s e : Nat) (st : St) :
    stepMatch ke pos text prev s e st
      = (flushOf ke (nodesOf pos text prev s st) (some (pos + s)) ++ [Seg.sep (pos + s) (slice text s e)],
         { pending := if prev = 0 then [] else st.pending,
           kept := st.kept + (flushOf ke (nodesOf pos text prev s st) (some (pos + s))).length,
           nsplit := st.nsplit + 1 }) := by
  unfold stepMatch flushOf nodesOf
  by_cases h0 : prev = 0 <;> simp only [h0, if_true, if_false, List.nil_append] <;> split <;> split <;> rfl

theorem isEmpty_false_of_append_singleton (l : List Item) (x : Item) : (l ++ [x]).isEmpty = false := by
  cases l <;> rfl

theorem chunk_spec {a b : Nat} {l l' : List Item} {t : Str} (ht : Tiles a l b)
    (hl : l' = l ++ [Item.chars b t] ∨ (t = [] ∧ l' = l)) :
    Tiles a l' (b + t.length) ∧ verb l' = verb l ++ t ∧ nonChars l' = nonChars l := by
  rcases hl with rfl | ⟨rfl, rfl⟩
  · exact ⟨Tiles_append.mpr ⟨b, ht, rfl, rfl⟩, by simp [verb_append, verb, Item.text],
      by simp [nonChars, Item.isChars]⟩
  · exact ⟨ht, (List.append_nil _).symm, rfl⟩

theorem flushOf_spec (ke : Bool) {nodes : List Item} {a b : Nat} (ht : Tiles a nodes b) :
    SegsTile a (flushOf ke nodes (some b)) b ∧ segsText (flushOf ke nodes (some b)) = verb nodes ∧
    nonChars (segItems (flushOf ke nodes (some b))) = nonChars nodes := by
  unfold flushOf
  split
  · exact ⟨⟨b, mkPart_ok ht, rfl⟩, by simp [segsText, Seg.text, mkPart], by simp [segItems, mkPart]⟩
  · have hn : nodes = [] := by cases nodes <;> simp_all
    subst hn
    exact ⟨ht, rfl, rfl⟩

theorem stepMatch_spec (ke : Bool) (pos : Nat) (text : Str) (prev s e : Nat) (st : St) (a : Nat)
    (hg : goodMatch text prev s e = true) (ht : Tiles a st.pending (pos + prev))
    (hp : prev ≠ 0 → st.pending = []) :
    SegsTile a (stepMatch ke pos text prev s e st).1 (pos + e) ∧
    (stepMatch ke pos text prev s e st).2.pending = [] ∧
    segsText (stepMatch ke pos text prev s e st).1 = verb st.pending ++ slice text prev e ∧
    nonChars (segItems (stepMatch ke pos text prev s e st).1) = nonChars st.pending := by
  obtain ⟨h1, h2, _, h3⟩ := (goodMatch_iff _ _ _ _).mp hg
  -- under the loop invariant `hp` the two branches of `nodesOf` are one
  have hn : nodesOf pos text prev s st = st.pending ++ [Item.chars (pos + prev) (slice text prev s)] ∨
      (slice text prev s = [] ∧ nodesOf pos text prev s st = st.pending) := by
    have hl : (if prev = 0 then st.pending else []) = st.pending := by
      split
      · rfl
      · exact (hp ‹_›).symm
    unfold nodesOf
    rw [hl]; split
    · exact .inr ⟨List.isEmpty_iff.mp ‹_›, rfl⟩
    · exact .inl rfl
  obtain ⟨n1, n2, n3⟩ := chunk_spec ht hn
  rw [slice_length text h1 (by omega), (by omega : pos + prev + (s - prev) = pos + s)] at n1
  obtain ⟨e1, e2, e3⟩ := flushOf_spec ke n1
  rw [stepMatch_eq]
  refine ⟨SegsTile_append.mpr ⟨pos + s, e1, rfl, ?_⟩, ?_, ?_, ?_⟩
  · simp only [SegsTile, slice_length text h2 h3]; omega
  · split
    · rfl
    · exact hp ‹_›
  · rw [segsText_append, e2, n2, List.append_assoc]
    simp only [segsText, Seg.text, List.append_nil, slice_append text h1 h2]
  · rw [segItems_append, nonChars_append, e3, n3]; simp [segItems, nonChars]

theorem stepTail_spec (pos : Nat) (text : Str) (prev : Nat) (st : St) (a : Nat)
    (hle : prev ≤ text.length) (ht : Tiles a st.pending (pos + prev)) :
    Tiles a (stepTail pos text prev st).pending (pos + text.length) ∧
    verb (stepTail pos text prev st).pending = verb st.pending ++ text.drop prev ∧
    nonChars (stepTail pos text prev st).pending = nonChars st.pending := by
  have hlen : pos + text.length = pos + prev + (text.drop prev).length := by
    rw [List.length_drop]; omega
  rw [hlen]
  apply chunk_spec ht
  unfold stepTail
  by_cases h0 : prev = 0
  · subst h0; exact .inl rfl
  · rw [if_neg h0]; simp only []; split
    · exact .inr ⟨List.isEmpty_iff.mp ‹_›, rfl⟩
    · exact .inl rfl

/-- induction over a run of `charLoop` that returns: it ends with `stepTail`, or consumes a good
    match with `stepMatch` and goes on behind it -/
theorem charLoop_ok_induct {c : Cfg} {pos : Nat} {text : Str} {P : Nat → Nat → St → List Seg → St → Prop}
    (tail : ∀ fuel prev st, nextSplit c st text prev = .ok none → P (fuel + 1) prev st [] (stepTail pos text prev st))
    (step : ∀ fuel prev st s e segs st', nextSplit c st text prev = .ok (some (s, e)) →
      goodMatch text prev s e = true →
      P fuel e (stepMatch c.keepEmpty pos text prev s e st).2 segs st' →
      P (fuel + 1) prev st ((stepMatch c.keepEmpty pos text prev s e st).1 ++ segs) st') :
    ∀ fuel prev st segs st', charLoop c pos text fuel prev st = .ok (segs, st') → P fuel prev st segs st' := by
  intro fuel prev st
  fun_induction charLoop c pos text fuel prev st with
  | case3 fuel prev st s e hn hg r segs1 st1 hrec ih =>
    intro _ _ h; cases h; exact step _ _ _ _ _ _ _ hn hg (ih _ _ hrec)
  | case6 fuel prev st hn => intro _ _ h; cases h; exact tail _ _ _ hn
  | _ => intro _ _ h; cases h

theorem outer_push (c : Cfg) (le : Option Nat) {x : Item} (hx : x.isChars = false) (r : List Item) (st : St) :
    outer c le (x :: r) st = outer c le r { st with pending := st.pending ++ keptItems c.skipNone [x] } := by
  cases x with
  | chars => cases hx
  | none => rw [outer]; cases c.skipNone <;> simp [keptItems, Item.isNone]
  | opq => rw [outer]; simp [keptItems, Item.isNone]

theorem outer_ok_induct {c : Cfg} {le : Option Nat} {P : List Item → St → List Seg → Prop}
    (nil : ∀ st, P [] st (flushOf c.keepEmpty st.pending le))
    (push : ∀ x r st tr, x.isChars = false →
      P r { st with pending := st.pending ++ keptItems c.skipNone [x] } tr → P (x :: r) st tr)
    (chars : ∀ p t r st segs st1 tr, charLoop c p t (t.length + 1) 0 st = .ok (segs, st1) → P r st1 tr →
      P (.chars p t :: r) st (segs ++ tr)) :
    ∀ items st tr, outer c le items st = .ok tr → P items st tr := by
  intro items
  induction items with
  | nil => intro st _ h; cases h; exact nil st
  | cons x r ih =>
    intro st tr h
    cases x with
    | none | opq => rw [outer_push c le rfl] at h; exact push _ _ _ _ rfl (ih _ _ h)
    | chars p t =>
      rw [outer] at h
      split at h
      · cases h
      · rename_i segs st1 hc
        split at h <;> cases h
        rename_i tr ho
        exact chars _ _ _ _ _ _ _ hc (ih _ _ ho)

theorem charLoop_spec (c : Cfg) (pos : Nat) (text : Str) :
    ∀ fuel prev st segs st',
      charLoop c pos text fuel prev st = .ok (segs, st') → ∀ a,
      prev ≤ text.length → Tiles a st.pending (pos + prev) → (prev ≠ 0 → st.pending = []) →
      (∃ b, SegsTile a segs b ∧ Tiles b st'.pending (pos + text.length)) ∧
      segsText segs ++ verb st'.pending = verb st.pending ++ text.drop prev ∧
      nonChars (segItems segs) ++ nonChars st'.pending = nonChars st.pending := by
  apply charLoop_ok_induct
  · intro _ prev st _ a hle ht hp
    obtain ⟨t1, t2, t3⟩ := stepTail_spec pos text prev st a hle ht
    exact ⟨⟨a, rfl, t1⟩, t2, t3⟩
  · intro _ prev st s e segs st' _ hg ih a hle ht hp
    obtain ⟨g1, g2, g4, g3⟩ := (goodMatch_iff _ _ _ _).mp hg
    obtain ⟨t1, t2, t3, t4⟩ := stepMatch_spec c.keepEmpty pos text prev s e st a hg ht hp
    obtain ⟨⟨b, i1, i2⟩, i3, i4⟩ := ih (pos + e) g3 (by rw [t2]; rfl) (fun _ => t2)
    refine ⟨⟨b, SegsTile_append.mpr ⟨pos + e, t1, i1⟩, i2⟩, ?_, ?_⟩
    · rw [segsText_append, List.append_assoc, i3, t3, t2, List.append_assoc]
      exact congrArg _ (slice_drop text (by omega : prev ≤ e))
    · rw [segItems_append, nonChars_append, List.append_assoc, i4, t4, t2]; exact List.append_nil _

theorem outer_spec (c : Cfg) (q : Nat) :
    ∀ items st tr, outer c (some q) items st = .ok tr →
      ∀ a, Tiles a (st.pending ++ keptItems c.skipNone items) q →
      SegsTile a tr q ∧ segsText tr = verb (st.pending ++ keptItems c.skipNone items) ∧
      nonChars (segItems tr) = nonChars (st.pending ++ keptItems c.skipNone items) := by
  apply outer_ok_induct
  · intro st a ht
    rw [show keptItems c.skipNone [] = [] from rfl, List.append_nil] at ht ⊢
    exact flushOf_spec c.keepEmpty ht
  · intro x r st tr _ ih a
    rw [show keptItems c.skipNone (x :: r) = _ from keptItems_append _ [x] r, ← List.append_assoc]
    exact ih a
  · intro p t r st segs st1 tr hc ih a ht
    have hk : keptItems c.skipNone (.chars p t :: r) = .chars p t :: keptItems c.skipNone r := by
      cases c.skipNone <;> rfl
    rw [hk] at ht ⊢
    obtain ⟨b, ht, rfl, hq⟩ := Tiles_append.mp ht
    obtain ⟨⟨m, c1, c2⟩, c3, c4⟩ := charLoop_spec c p t _ 0 st segs st1 hc a (Nat.zero_le _) ht (by simp)
    obtain ⟨i1, i2, i3⟩ := ih m (Tiles_append.mpr ⟨_, c2, hq⟩)
    refine ⟨SegsTile_append.mpr ⟨m, c1, i1⟩, ?_, ?_⟩
    · rw [segsText_append, i2, verb_append, ← List.append_assoc, c3, verb_append, List.append_assoc]; rfl
    · rw [segItems_append, nonChars_append, i3, nonChars_append, ← List.append_assoc, c4, nonChars_append]; rfl

theorem SegsTile_length {a b : Nat} {l : List Seg} (h : SegsTile a l b) : b = a + (segsText l).length := by
  induction l generalizing a with
  | nil => exact h.symm
  | cons x r ih =>
    cases x with
    | part P =>
      obtain ⟨m, hP, hr⟩ := h
      rw [ih hr, Tiles_length hP.2.1, segsText, List.length_append, Nat.add_assoc]; rfl
    | sep s t => rw [ih h.2, segsText, List.length_append, Nat.add_assoc]; rfl

/-- **C18_partition.**  For every item list that tiles `p..q`, every matcher, both variants and every
    option set: whenever the split returns, the trace (parts in order with the consumed separators between
    them) spells the list's source text, it is laid out contiguously from `p` to `q` with every part at the
    span of the text it carries (`SegsTile`/`PartOK`), and the non-chars entries of the parts are exactly
    the list's non-chars entries, in order — no opaque node is split, lost, duplicated or reordered.
    What Python returns is `partsOf tr`. -/
theorem C18_partition (c : Cfg) (items : List Item) (p q : Nat) (tr : List Seg)
    (ht : Tiles p items q) (h : splitTrace c (some q) items = .ok tr) :
    splitChars c (some q) items = .ok (partsOf tr) ∧
    segsText tr = verb items ∧ SegsTile p tr q ∧
    nonChars (segItems tr) = nonChars (keptItems c.skipNone items) := by
  obtain ⟨h1, h2, h3⟩ := outer_spec c q items _ tr h p (Tiles_keptItems c.skipNone ht)
  exact ⟨by simp only [splitChars, h], h2.trans (verb_keptItems ..), h1, h3⟩

/-- position of a part inside the trace: it starts after all the text that precedes it -/
theorem C18_part_position {a q : Nat} {l1 l2 : List Seg} {P : Part} (h : SegsTile a (l1 ++ Seg.part P :: l2) q) :
    PartOK (a + (segsText l1).length) P (a + (segsText l1).length + (verb P.items).length) := by
  obtain ⟨b, h1, m, hP, _⟩ := SegsTile_append.mp h
  rw [← SegsTile_length h1, ← Tiles_length hP.2.1]; exact hP

/-- position of a node inside a part: a chars node produced by the split starts after all the text
    that precedes it in the part (and, being a chars node, ends `|text|` later) -/
theorem C18_node_position {a b : Nat} {l1 l2 : List Item} {p : Nat} {t : Str}
    (h : Tiles a (l1 ++ Item.chars p t :: l2) b) : p = a + (verb l1).length := by
  obtain ⟨m, h1, rfl, _⟩ := Tiles_append.mp h
  exact Tiles_length h1

theorem C18_opaque_position {a b : Nat} {l1 l2 : List Item} {p e : Nat} {t : Str} {k : OKind}
    (h : Tiles a (l1 ++ Item.opq p e t k :: l2) b) : p = a + (verb l1).length ∧ e = p + t.length := by
  obtain ⟨m, h1, rfl, rfl, _⟩ := Tiles_append.mp h
  exact ⟨Tiles_length h1, rfl⟩

/-- both runs fail with the same error, or both return and the results are related -/
def BothOr {ε α β : Type} (R : α → β → Prop) : Except ε α → Except ε β → Prop
  | .error e1, .error e2 => e1 = e2
  | .ok a, .ok b => R a b
  | _, _ => False

theorem BothOr.bind {ε α β α' β' : Type} {R : α → β → Prop} {S : α' → β' → Prop} {f : α → Except ε α'}
    {g : β → Except ε β'} {x : Except ε α} {y : Except ε β} (h : BothOr R x y)
    (hf : ∀ a b, R a b → BothOr S (f a) (g b)) : BothOr S (x.bind f) (y.bind g) := by
  cases x <;> cases y
  · exact h
  · exact h.elim
  · exact h.elim
  · exact hf _ _ h

/-- `charLoop` and `outer` hand errors on: their steps are `bind`s -/
theorem charLoop_succ (c : Cfg) (pos : Nat) (text : Str) (fuel prev : Nat) (st : St) :
    charLoop c pos text (fuel + 1) prev st = (nextSplit c st text prev).bind fun
      | none => .ok ([], stepTail pos text prev st)
      | some (s, e) =>
        if goodMatch text prev s e then
          (charLoop c pos text fuel e (stepMatch c.keepEmpty pos text prev s e st).2).bind
            fun r => .ok ((stepMatch c.keepEmpty pos text prev s e st).1 ++ r.1, r.2)
        else .error (badMatchErr c.v text prev s e) := by
  rw [charLoop]
  rcases nextSplit c st text prev with _ | _ | se
  · rfl
  · rfl
  · simp only [Except.bind]
    split
    · cases charLoop c pos text fuel se.2 (stepMatch c.keepEmpty pos text prev se.1 se.2 st).2 <;> rfl
    · rfl

theorem outer_chars (c : Cfg) (le : Option Nat) (p : Nat) (t : Str) (r : List Item) (st : St) :
    outer c le (.chars p t :: r) st =
      (charLoop c p t (t.length + 1) 0 st).bind fun x => (outer c le r x.2).bind fun t => .ok (x.1 ++ t) := by
  rw [outer]
  cases charLoop c p t (t.length + 1) 0 st with
  | error => rfl
  | ok x => simp only [Except.bind]; cases outer c le r x.2 <;> rfl

def keepSeg : Seg → Bool
  | .part P => !P.items.isEmpty
  | .sep _ _ => true

def dropEmpty (l : List Seg) : List Seg := l.filter keepSeg

theorem dropEmpty_append (a b : List Seg) : dropEmpty (a ++ b) = dropEmpty a ++ dropEmpty b :=
  List.filter_append ..

theorem flushOf_dropEmpty (nodes : List Item) (pe : Option Nat) :
    flushOf false nodes pe = dropEmpty (flushOf true nodes pe) := by
  cases nodes <;> rfl

theorem stepTail_nsplit (pos : Nat) (text : Str) (prev : Nat) (st : St) :
    (stepTail pos text prev st).nsplit = st.nsplit := by
  unfold stepTail; split <;> rfl

theorem stepTail_kept (pos : Nat) (text : Str) (prev : Nat) (st : St) :
    (stepTail pos text prev st).kept = st.kept := by
  unfold stepTail; split <;> rfl

def SameButKept (F T : St) : Prop := ∃ k, F = { T with kept := k }

/-- the `keep_empty=False` run against the `keep_empty=True` run -/
def RelKE (F T : List Seg × St) : Prop := F.1 = dropEmpty T.1 ∧ SameButKept F.2 T.2

section KeepEmpty
variable (cF cT : Cfg) (hm : cF.m = cT.m) (hv : cF.v = cT.v) (hF : cF.keepEmpty = false) (hT : cT.keepEmpty = true)
  (hs : cF.skipNone = cT.skipNone)
  (hl : ∀ k k' n, limitReached cF k n = limitReached cT k' n)
include hm hv hF hT hl

theorem charLoop_ke (pos : Nat) (text : Str) :
    ∀ (fuel prev : Nat) (stF stT : St), SameButKept stF stT →
      BothOr RelKE (charLoop cF pos text fuel prev stF) (charLoop cT pos text fuel prev stT) := by
  intro fuel
  induction fuel with
  | zero => intro _ _ _ _; exact rfl
  | succ fuel ih =>
    rintro prev _ st ⟨k, rfl⟩
    have hns : nextSplit cF { st with kept := k } text prev = nextSplit cT st text prev := by
      unfold nextSplit; rw [hl k st.kept, hm, hv]
    rw [charLoop_succ, charLoop_succ, hns]
    rcases nextSplit cT st text prev with _ | _ | se
    · exact rfl
    · exact ⟨rfl, k, by unfold stepTail; split <;> rfl⟩
    · simp only [Except.bind, hv]
      split
      · refine (ih se.2 _ _ ⟨_, by rw [stepMatch_eq, stepMatch_eq]⟩).bind fun F T h => ⟨?_, h.2⟩
        rw [stepMatch_eq, stepMatch_eq, hF, hT, dropEmpty_append, dropEmpty_append, h.1, flushOf_dropEmpty]
        rfl
      · exact rfl

include hs in
theorem outer_ke (le : Option Nat) :
    ∀ (items : List Item) (stF stT : St), SameButKept stF stT →
      BothOr (fun f t => f = dropEmpty t) (outer cF le items stF) (outer cT le items stT) := by
  intro items
  induction items with
  | nil => rintro _ st ⟨k, rfl⟩; simp only [outer, hF, hT]; exact flushOf_dropEmpty _ _
  | cons x r ih =>
    intro stF stT h
    cases x with
    | none | opq =>
      obtain ⟨k, rfl⟩ := h
      rw [outer_push _ _ rfl, outer_push _ _ rfl, hs]; exact ih _ _ ⟨k, rfl⟩
    | chars p t =>
      rw [outer_chars, outer_chars]
      refine (charLoop_ke cF cT hm hv hF hT hl p t _ 0 stF stT h).bind fun F T h => ?_
      refine (ih _ _ h.2).bind fun f t hft => ?_
      show F.1 ++ f = dropEmpty (T.1 ++ t)
      rw [h.1, hft, dropEmpty_append]

end KeepEmpty

theorem partsOf_dropEmpty (t : List Seg) :
    partsOf (dropEmpty t) = (partsOf t).filter (fun P => !P.items.isEmpty) := by
  induction t with
  | nil => rfl
  | cons x r ih =>
    unfold dropEmpty at ih ⊢
    cases x with
    | part P => by_cases h : P.items.isEmpty = true <;> simp [List.filter, keepSeg, partsOf, h, ih]
    | sep s t => simp [List.filter, keepSeg, partsOf, ih]

/-- **C18_keep_empty.**  In the repaired code (and in the old code when there is no `max_split`),
    `keep_empty` decides only whether empty parts are kept: the `keep_empty=False` result is the
    `keep_empty=True` result with the empty parts removed (all other parts, their nodes and their
    positions identical); both raise or neither does. -/
theorem C18_keep_empty (c : Cfg) (hk : c.v = .fixed ∨ c.maxSplit = none) (le : Option Nat) (items : List Item) :
    splitChars { c with keepEmpty := false } le items
      = (match splitChars { c with keepEmpty := true } le items with
         | .ok ps => .ok (ps.filter (fun P => !P.items.isEmpty))
         | .error e => .error e) := by
  have h := outer_ke { c with keepEmpty := false } { c with keepEmpty := true } rfl rfl rfl rfl rfl
    (fun k k' n => by unfold limitReached; rcases hk with h | h <;> simp only [h])
    le items ⟨[], 0, 0⟩ ⟨[], 0, 0⟩ ⟨0, rfl⟩
  unfold splitChars splitTrace
  revert h
  cases outer { c with keepEmpty := false } le items ⟨[], 0, 0⟩ <;>
    cases outer { c with keepEmpty := true } le items ⟨[], 0, 0⟩ <;> intro h
  · exact congrArg _ h
  · exact h.elim
  · exact h.elim
  · simp only [show _ = dropEmpty _ from h, partsOf_dropEmpty]

theorem nextSplit_eq_some {c : Cfg} {st : St} {text : Str} {prev s e : Nat} :
    nextSplit c st text prev = .ok (some (s, e)) ↔
      limitReached c st.kept st.nsplit = false ∧ c.m text prev = .found s e := by
  unfold nextSplit
  cases limitReached c st.kept st.nsplit <;> cases c.m text prev <;> cases c.v <;> simp

theorem nextSplit_eq_none {c : Cfg} {st : St} {text : Str} {prev : Nat} :
    nextSplit c st text prev = .ok none ↔
      limitReached c st.kept st.nsplit = true ∨ c.m text prev = .noMatch ∨
        (c.m text prev = .negStart ∧ c.v = .fixed) := by
  unfold nextSplit
  cases limitReached c st.kept st.nsplit <;> cases c.m text prev <;> cases c.v <;> simp

theorem nextSplit_eq_error {c : Cfg} {st : St} {text : Str} {prev : Nat} {err : Err} :
    nextSplit c st text prev = .error err ↔
      limitReached c st.kept st.nsplit = false ∧ c.m text prev = .negStart ∧ c.v = .asIs ∧ err = .noProgress := by
  unfold nextSplit
  cases limitReached c st.kept st.nsplit <;> cases c.m text prev <;> cases c.v <;> simp [eq_comm]

def absSeps (pos : Nat) (text : Str) (l : List (Nat × Nat)) : List (Nat × Str) :=
  l.map (fun se => (pos + se.1, slice text se.1 se.2))

/-- splits still allowed when `k` have been performed -/
def remOf (c : Cfg) (k : Nat) : Option Nat := c.maxSplit.map (· - k)

theorem takeOpt_nil {α} (o : Option Nat) : takeOpt o ([] : List α) = [] := by
  cases o <;> simp [takeOpt]

theorem limitReached_fixed {c : Cfg} (hv : c.v = .fixed) (k n : Nat) :
    limitReached c k n = true ↔ remOf c n = some 0 := by
  unfold limitReached remOf
  cases c.maxSplit <;> simp [hv]; omega

theorem takeOpt_remOf_cons {α} {c : Cfg} {n : Nat} (h : remOf c n ≠ some 0) (x : α) (l : List α) :
    takeOpt (remOf c n) (x :: l) = x :: takeOpt (remOf c (n + 1)) l := by
  unfold remOf at h ⊢
  cases hm : c.maxSplit with
  | none => rfl
  | some m =>
    rw [hm] at h
    have hne : m - n ≠ 0 := fun h0 => h (congrArg some h0)
    simp only [Option.map_some, takeOpt]
    rw [(by omega : m - n = (m - (n + 1)) + 1), List.take_succ_cons]

theorem takeOpt_append_rem (c : Cfg) (k : Nat) (A B : List (Nat × Str)) :
    takeOpt (remOf c k) (A ++ B)
      = takeOpt (remOf c k) A ++ takeOpt (remOf c (k + (takeOpt (remOf c k) A).length)) B := by
  unfold remOf
  cases c.maxSplit with
  | none => rfl
  | some n =>
    simp only [Option.map_some, takeOpt, List.take_append, List.length_take]
    congr 2
    omega

theorem flushOf_true (nodes : List Item) (pe : Option Nat) : flushOf true nodes pe = [Seg.part (mkPart nodes pe)] := by
  unfold flushOf; rw [Bool.or_true]; rfl

theorem sepsOf_flushOf (ke : Bool) (nodes : List Item) (pe : Option Nat) : sepsOf (flushOf ke nodes pe) = [] := by
  unfold flushOf; split <;> rfl

theorem charLoop_seps (c : Cfg) (hv : c.v = .fixed) (pos : Nat) (text : Str) :
    ∀ fuel prev st segs st',
      charLoop c pos text fuel prev st = .ok (segs, st') →
      sepsOf segs = takeOpt (remOf c st.nsplit) (absSeps pos text (matchesFrom c.m text fuel prev)) ∧
      st'.nsplit = st.nsplit + (sepsOf segs).length := by
  apply charLoop_ok_induct
  · intro fuel prev st hn
    refine ⟨?_, stepTail_nsplit ..⟩
    rcases nextSplit_eq_none.mp hn with h | h | ⟨h, _⟩
    · rw [(limitReached_fixed hv _ _).mp h]; rfl
    all_goals simp only [matchesFrom, h, absSeps, List.map_nil, takeOpt_nil, sepsOf]
  · intro fuel prev st s e segs st' hn hg ih
    obtain ⟨hlim, hm⟩ := nextSplit_eq_some.mp hn
    have hrem : remOf c st.nsplit ≠ some 0 := fun h => by
      rw [(limitReached_fixed hv _ _).mpr h] at hlim; cases hlim
    simp only [stepMatch_eq] at ih ⊢
    obtain ⟨i1, i2⟩ := ih
    simp only [sepsOf_append, sepsOf_flushOf, sepsOf, List.nil_append, List.singleton_append, List.length_cons]
    refine ⟨?_, by rw [i2]; omega⟩
    simp only [matchesFrom, hm, hg, if_true, absSeps, List.map_cons, takeOpt_remOf_cons hrem]
    exact congrArg _ i1

theorem outer_seps (c : Cfg) (hv : c.v = .fixed) (le : Option Nat) :
    ∀ items st tr, outer c le items st = .ok tr →
      sepsOf tr = takeOpt (remOf c st.nsplit) (allSeps c.m items) := by
  apply outer_ok_induct
  · intro st; rw [sepsOf_flushOf]; exact (takeOpt_nil _).symm
  · intro x r st tr hx ih
    cases x with
    | chars => cases hx
    | _ => exact ih
  · intro p t r st segs st1 tr hc ih
    obtain ⟨c1, c2⟩ := charLoop_seps c hv p t _ 0 st segs st1 hc
    rw [sepsOf_append, ih, c2, c1]
    exact (takeOpt_append_rem c st.nsplit _ _).symm

/-- the shape "part (sep part)*": `run true tr = some false` -/
def run : Bool → List Seg → Option Bool
  | e, [] => some e
  | true, .part _ :: r => run false r
  | false, .sep _ _ :: r => run true r
  | true, .sep _ _ :: _ => none
  | false, .part _ :: _ => none

theorem run_append (e : Bool) (a b : List Seg) : run e (a ++ b) = (run e a).bind (fun e' => run e' b) := by
  induction a generalizing e with
  | nil => rfl
  | cons x r ih => cases x <;> cases e <;> simp [run, ih]

theorem charLoop_alt (c : Cfg) (hke : c.keepEmpty = true) (pos : Nat) (text : Str) :
    ∀ fuel prev st segs st',
      charLoop c pos text fuel prev st = .ok (segs, st') → run true segs = some true := by
  apply charLoop_ok_induct
  · intros; rfl
  · intro fuel prev st s e segs st' _ _ ih
    rw [run_append, stepMatch_eq, hke, flushOf_true]
    exact ih

theorem outer_alt (c : Cfg) (hke : c.keepEmpty = true) (le : Option Nat) :
    ∀ items st tr, outer c le items st = .ok tr → run true tr = some false := by
  apply outer_ok_induct
  · intro st; rw [hke, flushOf_true]; rfl
  · intro x r st tr _ ih; exact ih
  · intro p t r st segs st1 tr hc ih
    rw [run_append, charLoop_alt c hke p t _ _ _ _ _ hc]; exact ih

/-- **C18_max_split** (repaired code).  The separators consumed are exactly the first `max_split`
    separators of the list in document order (all of them when `max_split` is `None`, fewer only when the
    list has fewer); in particular at most `n` splits are performed.  With `keep_empty=True` the trace has
    the shape part (separator part)*, so there is one part more than separators and — by `C18_partition` —
    the last part carries everything after the last consumed separator, unsplit. -/
theorem C18_max_split (c : Cfg) (hv : c.v = .fixed) (le : Option Nat) (items : List Item) (tr : List Seg)
    (h : splitTrace c le items = .ok tr) :
    sepsOf tr = takeOpt c.maxSplit (allSeps c.m items) ∧
    (∀ n, c.maxSplit = some n → (sepsOf tr).length ≤ n) ∧
    (c.keepEmpty = true → run true tr = some false) := by
  have h1 := outer_seps c hv le items _ tr h
  have h0 : remOf c 0 = c.maxSplit := by unfold remOf; cases c.maxSplit <;> rfl
  rw [h0] at h1
  refine ⟨h1, ?_, fun hke => outer_alt c hke le items _ tr h⟩
  intro n hn
  rw [h1, hn]; exact List.length_take_le ..

/-- with `keep_empty=True` every split flushes one part, so the two counters agree -/
def InvAX (c : Cfg) (st : St) : Prop := c.maxSplit = none ∨ (c.keepEmpty = true ∧ st.kept = st.nsplit)

theorem nextSplit_AX (c : Cfg) (st : St) (hi : InvAX c st) (text : Str) (prev : Nat) (o : Option (Nat × Nat))
    (h : nextSplit { c with v := .asIs } st text prev = .ok o) :
    nextSplit { c with v := .fixed } st text prev = .ok o := by
  have hl : limitReached { c with v := .fixed } st.kept st.nsplit
      = limitReached { c with v := .asIs } st.kept st.nsplit := by
    unfold limitReached
    rcases hi with h | ⟨_, h⟩ <;> simp only [h]
  cases o with
  | none =>
    rw [nextSplit_eq_none, hl]
    exact (nextSplit_eq_none.mp h).imp_right (Or.imp_right fun h' => nomatch h'.2)
  | some se => rw [nextSplit_eq_some, hl]; exact nextSplit_eq_some.mp h

theorem charLoop_AX (c : Cfg) (pos : Nat) (text : Str) :
    ∀ fuel prev st segs st',
      charLoop { c with v := .asIs } pos text fuel prev st = .ok (segs, st') → InvAX c st →
      charLoop { c with v := .fixed } pos text fuel prev st = .ok (segs, st') ∧ InvAX c st' := by
  apply charLoop_ok_induct
  · intro fuel prev st hn hi
    refine ⟨by simp only [charLoop, nextSplit_AX c st hi _ _ _ hn], hi.imp_right fun h => ⟨h.1, ?_⟩⟩
    rw [stepTail_kept, stepTail_nsplit, h.2]
  · intro fuel prev st s e segs st' hn hg ih hi
    have hi1 : InvAX c (stepMatch c.keepEmpty pos text prev s e st).2 := by
      refine hi.imp_right fun h => ⟨h.1, ?_⟩
      simp only [stepMatch_eq, h.1, h.2, flushOf_true, List.length_singleton]
    obtain ⟨i1, i2⟩ := ih hi1
    exact ⟨by simp only [charLoop, nextSplit_AX c st hi _ _ _ hn, hg, if_true, i1], i2⟩

theorem outer_AX (c : Cfg) (le : Option Nat) :
    ∀ items st tr, outer { c with v := .asIs } le items st = .ok tr →
      InvAX c st → outer { c with v := .fixed } le items st = .ok tr := by
  apply outer_ok_induct
  · intro st _; rfl
  · intro x r st tr hx ih hi; rw [outer_push _ _ hx]; exact ih hi
  · intro p t r st segs st1 tr hc ih hi
    obtain ⟨c1, c2⟩ := charLoop_AX c p t _ 0 st segs st1 hc hi
    simp only [outer, c1, ih c2]

/-- **C18_asIs_eq_fixed.**  With `keep_empty=True` (every split flushes exactly one part, so the number of
    parts kept is the number of splits) or without `max_split`: whenever the code before the repairs
    returns, the repaired code returns the same trace.  Hence `C18_max_split` and `C18_keep_empty` hold of
    the old code under that hypothesis; `C18_partition` holds of it unconditionally. -/
theorem C18_asIs_eq_fixed (c : Cfg) (hk : c.keepEmpty = true ∨ c.maxSplit = none) (le : Option Nat) (items : List Item)
    (tr : List Seg) (h : splitTrace { c with v := .asIs } le items = .ok tr) :
    splitTrace { c with v := .fixed } le items = .ok tr :=
  outer_AX c le items _ tr h (hk.symm.imp_right fun h => ⟨h, rfl⟩)

/-- every answer of the matcher is "no match" or a non-empty match at or after the offset asked for, inside the string -/
def Productive (m : Matcher) : Prop :=
  ∀ text prev, prev ≤ text.length →
    m text prev = .noMatch ∨ ∃ s e, m text prev = .found s e ∧ goodMatch text prev s e = true

/-- where an error of the split comes from: the separator search, or a match that is not good -/
inductive ErrSource (c : Cfg) : Err → Prop
  | search {st : St} {text : Str} {prev : Nat} {err : Err} :
      prev ≤ text.length → nextSplit c st text prev = .error err → ErrSource c err
  | badMatch {text : Str} {prev s e : Nat} :
      prev ≤ text.length → c.m text prev = .found s e → ¬ goodMatch text prev s e = true →
      ErrSource c (badMatchErr c.v text prev s e)

/-- the fuel `|text| + 1` is never used up: every good match advances `prev` -/
theorem charLoop_error (c : Cfg) (pos : Nat) (text : Str) (fuel prev : Nat) (st : St) (err : Err) :
    text.length - prev < fuel → prev ≤ text.length → charLoop c pos text fuel prev st = .error err →
    ErrSource c err := by
  fun_induction charLoop c pos text fuel prev st with
  | case1 => intro hf; omega
  | case2 fuel prev st _ hn => intro _ hle h; cases h; exact .search hle hn
  | case4 fuel prev st s e hn hg r _ hrec ih =>
    intro hf hle h; cases h
    obtain ⟨_, _, _, g3⟩ := (goodMatch_iff _ _ _ _).mp hg
    exact ih (by omega) g3 hrec
  | case5 fuel prev st s e hn hg => intro _ hle h; cases h; exact .badMatch hle (nextSplit_eq_some.mp hn).2 hg
  | _ => intro _ _ h; cases h

theorem outer_error (c : Cfg) (le : Option Nat) (items : List Item) (st : St) (err : Err) :
    outer c le items st = .error err → ErrSource c err := by
  fun_induction outer c le items st with
  | case3 p t r st _ hc => intro h; cases h; exact charLoop_error c p t _ 0 st _ (by omega) (Nat.zero_le _) hc
  | case4 p t r st segs st1 hc _ ho ih => intro h; cases h; exact ih ho
  | case2 r st ih => exact ih
  | case6 p e t k r st ih => exact ih
  | _ => intro h; cases h

theorem ErrSource.not_productive {c : Cfg} {err : Err} (hm : Productive c.m) : ¬ ErrSource c err
  | .search hle hn => by
    have hneg := (nextSplit_eq_error.mp hn).2.1
    rcases hm _ _ hle with h | ⟨s, e, h, _⟩ <;> rw [h] at hneg <;> cases hneg
  | .badMatch hle hf hg => by
    rcases hm _ _ hle with h | ⟨s, e, h, hg'⟩ <;> rw [h] at hf <;> cases hf
    exact hg hg'

theorem ErrSource.fixed {c : Cfg} {err : Err} (hv : c.v = .fixed) : ErrSource c err → err = .valueError ∨ err = .contract
  | .search _ hn => by
    have hasIs := (nextSplit_eq_error.mp hn).2.2.1
    rw [hv] at hasIs; cases hasIs
  | .badMatch .. => by rw [hv]; unfold badMatchErr; split <;> simp

/-- **C18_total.**  For a productive matcher the split always returns normally (both variants). -/
theorem C18_total (c : Cfg) (hm : Productive c.m) (le : Option Nat) (items : List Item) :
    ∃ tr, splitTrace c le items = .ok tr := by
  cases h : splitTrace c le items with
  | ok tr => exact ⟨tr, rfl⟩
  | error err => exact ((outer_error c le items _ err h).not_productive hm).elim

/-- **C18_fixed_terminates.**  The repaired split always returns: normally, or with the ValueError for a
    separator match that does not advance (or the matcher broke its contract `prev ≤ start ≤ end ≤ |text|`).
    The outcomes `noProgress` (the old code's endless loop) and `fuel` are impossible. -/
theorem C18_fixed_terminates (c : Cfg) (hv : c.v = .fixed) (le : Option Nat) (items : List Item) (err : Err)
    (h : splitTrace c le items = .error err) : err = .valueError ∨ err = .contract :=
  (outer_error c le items _ err h).fixed hv

def partTexts (r : Except Err (List Part)) : Option (List Str) :=
  match r with
  | .ok ps => some (ps.map (fun P => verb P.items))
  | .error _ => none

def isErr (r : Except Err (List Part)) (e : Err) : Bool :=
  match r with
  | .error e' => e' == e
  | .ok _ => false

/-- F15: source `,a,b`, separator `,`, `max_split=1`: without `keep_empty` the old code returns `['a','b']`
    (two splits), with `keep_empty` it returns `['', 'a,b']`; the repaired code returns `['a,b']` and `['', 'a,b']`. -/
theorem C18_asIs_keep_empty_false :
    partTexts (splitCharsAsIs (SepD.lit [',']).matcher (some 1) false true (some 4) [Item.chars 0 [',', 'a', ',', 'b']])
      ≠ (partTexts (splitCharsAsIs (SepD.lit [',']).matcher (some 1) true true (some 4) [Item.chars 0 [',', 'a', ',', 'b']])).map
          (fun ps => ps.filter (fun t => !t.isEmpty)) ∧
    partTexts (splitCharsAsIs (SepD.lit [',']).matcher (some 1) false true (some 4) [Item.chars 0 [',', 'a', ',', 'b']])
      = some [['a'], ['b']] ∧
    partTexts (splitCharsAsIs (SepD.lit [',']).matcher (some 1) true true (some 4) [Item.chars 0 [',', 'a', ',', 'b']])
      = some [[], ['a', ',', 'b']] ∧
    partTexts (splitCharsFixed (SepD.lit [',']).matcher (some 1) false true (some 4) [Item.chars 0 [',', 'a', ',', 'b']])
      = some [['a', ',', 'b']] := by
  decide

/-- F-d: a callable that answers with a start index < -1: the old code does not return, the repaired code
    treats it as "no more separators" -/
theorem C18_asIs_negative_start :
    isErr (splitCharsAsIs (withNeg (SepD.lit [',']).matcher) none false true (some 1) [Item.chars 0 ['a']]) .noProgress = true ∧
    partTexts (splitCharsFixed (withNeg (SepD.lit [',']).matcher) none false true (some 1) [Item.chars 0 ['a']]) = some [['a']] := by
  decide

/-- F-e: the regular expression `,*` on `b`: the old code does not return, the repaired code raises ValueError -/
theorem C18_asIs_empty_match :
    isErr (splitCharsAsIs (SepD.star [',']).matcher none false true (some 1) [Item.chars 0 ['b']]) .noProgress = true ∧
    isErr (splitCharsFixed (SepD.star [',']).matcher none false true (some 1) [Item.chars 0 ['b']]) .valueError = true := by
  decide

/-- the parts joined with the separator nodes (`keep_separators`: the separator already heads the next part) -/
def joinSeps (ks : Bool) : List (List Item) → List Item → List Item
  | ls, [] => ls.head?.getD []
  | l :: ls, s :: ss => l ++ (if ks then [] else [s]) ++ joinSeps ks ls ss
  | [], _ :: _ => []

theorem nodeLoop_spec (c : NCfg) (items cur : List Item) (nl : Nat) (nm : Bool) :
      ∃ seps : List Item, (∀ s ∈ seps, c.pred s = true) ∧
        (nodeLoop c items cur nl nm).length = seps.length + 1 ∧
        joinSeps c.keepSeparators (nodeLoop c items cur nl nm) seps = cur ++ keptItems c.skipNone items := by
  fun_induction nodeLoop c items cur nl nm with
  | case1 cur nl nm => exact ⟨[], by simp, rfl, by simp [joinSeps, keptItems]⟩
  | case2 n r cur nl nm hsk ih => rw [keptItems_cons, if_pos hsk]; exact ih
  | case3 n r cur nl nm hsk hsp ih =>
    obtain ⟨seps, h1, h2, h3⟩ := ih
    refine ⟨n :: seps, List.forall_mem_cons.mpr ⟨((Bool.and_eq_true _ _).mp hsp).2, h1⟩, congrArg (· + 1) h2, ?_⟩
    rw [keptItems_cons, if_neg hsk, joinSeps, h3]
    cases c.keepSeparators <;> simp
  | case4 n r cur nl nm hsk hsp ih => rw [keptItems_cons, if_neg hsk]; simpa using ih

/-- the number of lists: one more than the separator nodes among the kept entries, of which `max_split`
    lets through the first `k + 1 - nl` when `nl` lists exist already (`nm` is the flag the code keeps
    in step with `nl`) -/
theorem nodeLoop_len (c : NCfg) (items cur : List Item) (nl : Nat) (nm : Bool) :
     (∀ k, c.maxSplit = some k → nm = decide (k < nl)) →
      (nodeLoop c items cur nl nm).length = 1 + if nm then 0 else
        (takeOpt (c.maxSplit.map (· + 1 - nl)) ((keptItems c.skipNone items).filter c.pred)).length := by
  fun_induction nodeLoop c items cur nl nm with
  | case1 cur nl nm => intro _; simp [keptItems, takeOpt_nil]
  | case2 n r cur nl nm hsk ih => rw [keptItems_cons, if_pos hsk]; exact ih
  | case3 n r cur nl nm hsk hsp ih =>
    intro hnm
    obtain ⟨rfl, hp⟩ : nm = false ∧ c.pred n = true := by simpa using hsp
    rw [keptItems_cons, if_neg hsk, List.filter_cons, if_pos hp, List.length_cons, ih (fun k hk => by rw [hk]; rfl)]
    cases hk : c.maxSplit with
    | none => simp [noMoreAfter, takeOpt]; omega
    | some k =>
      have := hnm k hk
      simp [noMoreAfter, takeOpt, List.length_take] at this ⊢
      split <;> omega
  | case4 n r cur nl nm hsk hsp ih =>
    intro hnm
    rw [keptItems_cons, if_neg hsk, List.filter_cons]
    cases nm with
    | true => exact ih hnm
    | false => rw [if_neg (show ¬ c.pred n = true from hsp)]; exact ih hnm
/-- **C18_split_node.**  `split_at_node` partitions the list in order: the returned lists, joined with the
    separator nodes (nodes satisfying the predicate, one between consecutive lists; with
    `keep_separators` it heads the following list), are the list's entries (`None`s dropped under
    `skip_none`) — nothing lost, duplicated or reordered, no node altered; there is one list more than
    separators; `max_split=n` makes exactly `min n (number of separator nodes)` splits and `max_split=None` splits at
    every separator node.  (The code before repair F35 stopped one split early for `n ≥ 2`: witness below.) -/
theorem C18_split_node (c : NCfg) (items : List Item) :
    (∃ seps : List Item, (∀ s ∈ seps, c.pred s = true) ∧
      (splitNode c items).length = seps.length + 1 ∧
      joinSeps c.keepSeparators ((splitNode c items).map Part.items) seps = keptItems c.skipNone items) ∧
    (∀ n, c.maxSplit = some n →
      (splitNode c items).length = 1 + min n ((keptItems c.skipNone items).countP c.pred)) ∧
    (c.maxSplit = none → (splitNode c items).length = 1 + (keptItems c.skipNone items).countP c.pred) := by
  have h : (splitNode c items).length = _ := (List.length_map _).trans
    (nodeLoop_len c items [] 1 (noMoreInit c.maxSplit) fun k hk => by rw [hk]; cases k <;> rfl)
  rw [List.countP_eq_length_filter]
  refine ⟨?_, fun n hn => ?_, fun hn => ?_⟩
  · obtain ⟨seps, h1, h2, h3⟩ := nodeLoop_spec c items [] 1 (noMoreInit c.maxSplit)
    have hmap : (splitNode c items).map Part.items = splitNodeLists c items := by
      simp [splitNode, mkPart, Function.comp_def]
    exact ⟨seps, h1, by rw [splitNode, List.length_map]; exact h2, by rw [hmap]; exact h3⟩
  · rw [h, hn]; cases n <;> simp [noMoreInit, takeOpt, List.length_take]
  · rw [h, hn]; rfl

/-- the loop with the test before repair F35 -/
def nodeLoopAsIs (c : NCfg) : List Item → (cur : List Item) → (nlists : Nat) → (noMore : Bool) → List (List Item)
  | [], cur, _, _ => [cur]
  | n :: r, cur, nlists, noMore =>
    if c.skipNone && n.isNone then nodeLoopAsIs c r cur nlists noMore
    else if !noMore && c.pred n then
      cur :: nodeLoopAsIs c r (if c.keepSeparators then [n] else []) (nlists + 1) (noMoreAfterAsIs c.maxSplit (nlists + 1) noMore)
    else nodeLoopAsIs c r (cur ++ [n]) nlists noMore

theorem dictGet_dictSet (d : List (Str × Val)) (k : Str) (v : Val) : dictGet (dictSet d k v) k = some v := by
  unfold dictGet
  fun_induction dictSet d k v with
  | case1 k v => simp
  | case2 k' v' r k v h => simp [h]
  | case3 k' v' r k v h ih => simp only [List.find?_cons, h]; exact ih

/-- **C18_keyval.**  `parse_keyval_content` is: split at the commas (`max_split=None`, empty parts dropped);
    split every part at most once at an equals sign with `keep_empty=True` — in the repaired code this is
    the *first* equals sign of the part in document order, never one inside a child node, the pieces are
    key (separator value)? in this shape even when the key or the value is empty, and key text ++ "=" ++
    value text is the part's text; the key is the character content of the first piece; then fold the
    pairs in order into an insertion-ordered dictionary where a repeated key is combined as the policy says:
    `last` replaces, `concatenate` appends the node lists, `error` raises, `first` keeps the stored value.
    (Before the repair `first` stored a plain list, so a third occurrence raised AttributeError: the
    `asIs` clause and `C18_asIs_policy_first` below.) -/
theorem C18_keyval (c : KCfg) :
    (∀ le items, parseKeyval c le items =
        match splitChars (commaCfg c) le items with
        | .error e => .splitError e
        | .ok parts => kvLoop c parts []) ∧
    (c.v = .fixed → ∀ (part : Part) (a b : Nat) (tr : List Seg), Tiles a part.items b →
        splitTrace (eqCfg c) (some b) part.items = .ok tr →
        sepsOf tr = (allSeps c.eq part.items).take 1 ∧ run true tr = some false ∧
        segsText tr = verb part.items ∧ SegsTile a tr b) ∧
    (∀ part r d k v key, eqSplit c part = .kv k v → contentAsChars k = .ok key → dictGet d key = none →
        kvLoop c (part :: r) d = kvLoop c r (dictSet d key v)) ∧
    (∀ part r d k v key old, eqSplit c part = .kv k v → contentAsChars k = .ok key → dictGet d key = some old →
        kvLoop c (part :: r) d =
          match c.policy with
          | .last => kvLoop c r (dictSet d key v)
          | .error => .repeatedKey key
          | .first => (match c.v with
              | .fixed => kvLoop c r (dictSet d key old)
              | .asIs => (match old.nodelist? with
                  | some a => kvLoop c r (dictSet d key (Val.raw a))
                  | none => .attrError))
          | .concatenate => (match old.nodelist?, v.nodelist? with
              | some a, some b => kvLoop c r (dictSet d key (Val.nl
                  { pos := (match old.pos? with | some q => some q | none => firstPos (a ++ b)),
                    posEnd := lastEnd (a ++ b), items := a ++ b }))
              | _, _ => .attrError)) := by
  refine ⟨fun le items => rfl, ?_, ?_, ?_⟩
  · intro hv part a b tr ht h
    obtain ⟨h1, _, h4⟩ := C18_max_split (eqCfg c) hv (some b) part.items tr h
    obtain ⟨_, h2, h3, _⟩ := C18_partition _ part.items a b tr ht h
    exact ⟨h1, h4 (by simp [eqCfg, hv]), h2, h3⟩
  · intro part r d k v key h1 h2 h3
    simp [kvLoop, h1, h2, h3]
  · intro part r d k v key old h1 h2 h3
    simp only [kvLoop, h1, h2, h3]
    cases c.policy <;> rfl

def kvTexts (r : KvRes) : List (Str × Str) :=
  match r with
  | .ok d => d.map (fun kv => (kv.1, match kv.2 with | .nl p => verb p.items | .raw l => verb l))
  | _ => []

/-- F-b: `=b=c` — the old code reads key `b`, value `c` (the leading equals sign is skipped); the repaired
    code splits at the first equals sign: key ``, value `b=c` -/
theorem C18_asIs_keyval_first_equals :
    kvTexts (parseKeyval { v := .asIs, comma := (SepD.lit [',']).matcher, eq := (SepD.lit ['=']).matcher, policy := .last, extractGroup := true } (some 4) [Item.chars 0 ['=', 'b', '=', 'c']])
      = [(['b'], ['c'])] ∧
    kvTexts (parseKeyval { v := .fixed, comma := (SepD.lit [',']).matcher, eq := (SepD.lit ['=']).matcher, policy := .last, extractGroup := true } (some 4) [Item.chars 0 ['=', 'b', '=', 'c']])
      = [([], ['b', '=', 'c'])] := by
  decide

/-- F-c: policy `first` with a key given three times: AttributeError before the repair, the first value after -/
theorem C18_asIs_policy_first :
    parseKeyval { v := .asIs, comma := (SepD.lit [',']).matcher, eq := (SepD.lit ['=']).matcher, policy := .first, extractGroup := true } (some 11) [Item.chars 0 ['a', '=', '1', ',', 'a', '=', '2', ',', 'a', '=', '3']]
      = .attrError ∧
    kvTexts (parseKeyval { v := .fixed, comma := (SepD.lit [',']).matcher, eq := (SepD.lit ['=']).matcher, policy := .first, extractGroup := true } (some 11) [Item.chars 0 ['a', '=', '1', ',', 'a', '=', '2', ',', 'a', '=', '3']])
      = [(['a'], ['1'])] := by
  decide

/-! ### Non-vacuity: concrete inputs -/

/-- `a,{b,c},,d` with an opaque group: three parts, the group unsplit -/
example : (match splitCharsFixed (SepD.lit [',']).matcher none false true (some 10)
      [Item.chars 0 ['a', ','], Item.opq 2 7 ['{', 'b', ',', 'c', '}'] (.group (some ['b', ',', 'c']) (some 3) (some 6) []),
       Item.chars 7 [',', ',', 'd']] with
    | .ok ps => ps.map (fun P => (P.pos, P.posEnd, verb P.items))
    | .error _ => [])
    = [(some 0, some 1, ['a']), (some 2, some 7, ['{', 'b', ',', 'c', '}']), (some 9, some 10, ['d'])] := by decide

example : Tiles 0 [Item.chars 0 ['a', ','], Item.opq 2 7 ['{', 'b', ',', 'c', '}'] .other, Item.chars 7 [',', ',', 'd']] 10 := by
  simp [Tiles]

/-- the literal-comma matcher answers productively on this input -/
example : (SepD.lit [',']).matcher [',', 'a', ',', 'b'] 1 = .found 2 3 := by decide

/-- `\Z` with `max_split=1`, `keep_empty=True` on `ab`: the empty match at the end is consumed once, no error -/
example : partTexts (splitCharsFixed SepD.eos.matcher (some 1) true true (some 2) [Item.chars 0 ['a', 'b']]) = some [['a', 'b'], []] := by
  decide

/-- split_at_node: three separator nodes, `max_split=2` — two splits, three parts (C18_split_node, repaired code) -/
example : (splitNode { pred := fun it => it.isOpq, skipNone := true, keepSeparators := false, maxSplit := some 2 }
      [Item.opq 0 1 ['~'] .other, Item.opq 1 2 ['~'] .other, Item.opq 2 3 ['~'] .other]).length = 3 := by decide

/-- **F35 (as-is witness).**  With the test `len(nodelists_list) >= max_split` the same call made one split only
    (`max_split=n` gave `n - 1` splits for every `n ≥ 2`). -/
theorem C18_asis_split_node_one_short :
    (nodeLoopAsIs { pred := fun it => it.isOpq, skipNone := true, keepSeparators := false, maxSplit := some 2 }
      [Item.opq 0 1 ['~'] .other, Item.opq 1 2 ['~'] .other, Item.opq 2 3 ['~'] .other] [] 1 false).length = 2 := by decide

end Split
end Pylx
