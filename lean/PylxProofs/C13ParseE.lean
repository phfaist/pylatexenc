/-
  C13, shapes — kernel evaluation of the classifier on both generated tables (`entryClassified`: the replacement text is a
  well-bracketed sequence of items; a macro starved of a mandatory argument occurs exactly in the entries of finding
  F19, which are the single bare accent macros).  One declaration per five chunks of 40 entries.
-/
import PylxProofs.C13ParseDefs
namespace Pylx.C13
open Pylx Pylx.EncB

theorem defaults_classified_0 : ((Gen.uni2latexChunks.drop 0).take 5).all (fun ch => ch.all (entryClassified [])) = true := by decide +kernel
theorem defaults_classified_1 : ((Gen.uni2latexChunks.drop 5).take 5).all (fun ch => ch.all (entryClassified [])) = true := by decide +kernel
theorem defaults_classified_2 : ((Gen.uni2latexChunks.drop 10).take 5).all (fun ch => ch.all (entryClassified [])) = true := by decide +kernel
theorem defaults_classified_3 : ((Gen.uni2latexChunks.drop 15).take 5).all (fun ch => ch.all (entryClassified [])) = true := by decide +kernel
theorem defaults_classified_4 : ((Gen.uni2latexChunks.drop 20).take 5).all (fun ch => ch.all (entryClassified [])) = true := by decide +kernel
theorem defaults_classified_5 : ((Gen.uni2latexChunks.drop 25).take 5).all (fun ch => ch.all (entryClassified [])) = true := by decide +kernel
theorem defaults_classified_6 : ((Gen.uni2latexChunks.drop 30).take 5).all (fun ch => ch.all (entryClassified [])) = true := by decide +kernel
theorem defaults_classified_7 : (Gen.uni2latexChunks.drop 35).all (fun ch => ch.all (entryClassified [])) = true := by decide +kernel

theorem defaults_classified : Gen.uni2latexChunks.all (fun ch => ch.all (entryClassified [])) = true := by
  have h := defaults_classified_0
  have h := slice_join _ _ 0 5 5 h defaults_classified_1
  have h := slice_join _ _ 0 10 5 h defaults_classified_2
  have h := slice_join _ _ 0 15 5 h defaults_classified_3
  have h := slice_join _ _ 0 20 5 h defaults_classified_4
  have h := slice_join _ _ 0 25 5 h defaults_classified_5
  have h := slice_join _ _ 0 30 5 h defaults_classified_6
  exact slice_rest _ Gen.uni2latexChunks 0 35 h defaults_classified_7

theorem xml_classified_0 : ((Gen.uni2latexXmlChunks.drop 0).take 5).all (fun ch => ch.all (entryClassified f19)) = true := by decide +kernel
theorem xml_classified_1 : ((Gen.uni2latexXmlChunks.drop 5).take 5).all (fun ch => ch.all (entryClassified f19)) = true := by decide +kernel
theorem xml_classified_2 : ((Gen.uni2latexXmlChunks.drop 10).take 5).all (fun ch => ch.all (entryClassified f19)) = true := by decide +kernel
theorem xml_classified_3 : ((Gen.uni2latexXmlChunks.drop 15).take 5).all (fun ch => ch.all (entryClassified f19)) = true := by decide +kernel
theorem xml_classified_4 : ((Gen.uni2latexXmlChunks.drop 20).take 5).all (fun ch => ch.all (entryClassified f19)) = true := by decide +kernel
theorem xml_classified_5 : ((Gen.uni2latexXmlChunks.drop 25).take 5).all (fun ch => ch.all (entryClassified f19)) = true := by decide +kernel
theorem xml_classified_6 : ((Gen.uni2latexXmlChunks.drop 30).take 5).all (fun ch => ch.all (entryClassified f19)) = true := by decide +kernel
theorem xml_classified_7 : ((Gen.uni2latexXmlChunks.drop 35).take 5).all (fun ch => ch.all (entryClassified f19)) = true := by decide +kernel
theorem xml_classified_8 : ((Gen.uni2latexXmlChunks.drop 40).take 5).all (fun ch => ch.all (entryClassified f19)) = true := by decide +kernel
theorem xml_classified_9 : ((Gen.uni2latexXmlChunks.drop 45).take 5).all (fun ch => ch.all (entryClassified f19)) = true := by decide +kernel
theorem xml_classified_10 : ((Gen.uni2latexXmlChunks.drop 50).take 5).all (fun ch => ch.all (entryClassified f19)) = true := by decide +kernel
theorem xml_classified_11 : (Gen.uni2latexXmlChunks.drop 55).all (fun ch => ch.all (entryClassified f19)) = true := by decide +kernel

theorem xml_classified : Gen.uni2latexXmlChunks.all (fun ch => ch.all (entryClassified f19)) = true := by
  have h := xml_classified_0
  have h := slice_join _ _ 0 5 5 h xml_classified_1
  have h := slice_join _ _ 0 10 5 h xml_classified_2
  have h := slice_join _ _ 0 15 5 h xml_classified_3
  have h := slice_join _ _ 0 20 5 h xml_classified_4
  have h := slice_join _ _ 0 25 5 h xml_classified_5
  have h := slice_join _ _ 0 30 5 h xml_classified_6
  have h := slice_join _ _ 0 35 5 h xml_classified_7
  have h := slice_join _ _ 0 40 5 h xml_classified_8
  have h := slice_join _ _ 0 45 5 h xml_classified_9
  have h := slice_join _ _ 0 50 5 h xml_classified_10
  exact slice_rest _ Gen.uni2latexXmlChunks 0 55 h xml_classified_11

end Pylx.C13
