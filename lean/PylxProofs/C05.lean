/-
  C05 — parsing raises nothing but `LatexWalkerParseError`, and the error is located inside the input.

  Model-level core: the parser model never returns `Ret.crash` (the image of a Python `IndexError` /
  `TypeError` / `KeyError` / `ValueError` / `AttributeError` …), a strict-mode parse error carries a position
  inside the input, and the reported line / column are the ones of that position (C20).

  The contract and its preservation by every function of the model are in `C05Lemmas`, `C05Tok`, `C05Loop`,
  `C05Raw`; this file derives the property theorems.
-/
import PylxProofs.C05Raw
import PylxProofs.C20
import Pylx.ParseDrv
namespace Pylx

/-! ### hypotheses -/

/-- `StartOk` plus the one extra condition tolerant-mode crash-freedom needs: macros are enabled, or
    environments are disabled.  (Otherwise an escape character that is also a group opener makes the
    expression parser and the group parser disagree on the token at the same position; see
    `C05_no_crash_full_false`.) -/
structure StartOk' (c : Ctx) (f : PSFields) : Prop extends StartOk c f where
  esc : f.enMacros = true ∨ f.enEnvs = false

theorem FOk5.ofStart {tol : Bool} {ctx : Ctx} {s : Str} {f : PSFields} (hf : StartOk ctx f)
    (hesc : tol = true → f.enMacros = true ∨ f.enEnvs = false) : FOk5 { tol := tol, ctx := ctx, s := s } f :=
  ⟨hf.hasCtx, hf.specials, hf.mathDelims, hesc⟩

/-- the contract of the top-level task, for every amount of fuel -/
theorem top_good (env : Env) (hc : env.ctx.Closed) (f : PSFields) (hf : FOk5 env f) (n : Nat) :
    GoodPc env (.general .none true .same) (run env n (topTask f)) :=
  run_good5 hc n (topTask f) ⟨hf, Nat.zero_le _, trivial⟩

/-- the results `top_good` leaves: a node list that ends inside the input, a located error in strict mode, or no fuel -/
theorem top_cases (env : Env) (hc : env.ctx.Closed) (f : PSFields) (hf : FOk5 env f) (n : Nat) :
    (∃ p e ns pos, run env n (topTask f) = .ok (.list p e ns) pos ∧ pos ≤ env.s.length) ∨
    (env.tol = false ∧ ∃ e, run env n (topTask f) = .perr e ∧ ErrOk env e) ∨
    run env n (topTask f) = .fuel := by
  have := top_good env hc f hf n
  cases hr : run env n (topTask f) with
  | ok r q =>
    rw [hr] at this
    obtain ⟨hs, _, hq⟩ := this
    cases r with
    | list p e ns => exact Or.inl ⟨p, e, ns, q, rfl, hq⟩
    | none => exact hs.elim
    | node n => exact hs.elim
    | args a b c => exact hs.elim
  | perr e => rw [hr] at this; exact Or.inr (Or.inl ⟨this.1, e, rfl, this.2⟩)
  | loopEnd e => rw [hr] at this; exact this.elim
  | crash k => rw [hr] at this; exact this.elim
  | fuel => exact Or.inr (Or.inr rfl)

/-! ### no exception other than a parse error -/

/-- **C05 (no crash, strict mode).** With `tolerant_parsing=False`, for every closed-world context, every
    start state, every input and every amount of fuel the model never returns a crash. -/
theorem C05_no_crash_strict (ctx : Ctx) (hc : ctx.Closed) (s : Str) (f : PSFields) (hf : StartOk ctx f)
    (n : Nat) (k : String) :
    run { tol := false, ctx := ctx, s := s } n (topTask f) ≠ .crash k := by
  intro h
  have := top_good { tol := false, ctx := ctx, s := s } hc f (.ofStart hf (fun h => nomatch h)) n
  rw [h] at this
  exact this

/-- **C05 (no crash, both modes), partial**: under `StartOk'` (extra hypothesis `esc`). -/
theorem C05_no_crash_partial (tol : Bool) (ctx : Ctx) (hc : ctx.Closed) (s : Str) (f : PSFields)
    (hf : StartOk' ctx f) (n : Nat) (k : String) :
    run { tol := tol, ctx := ctx, s := s } n (topTask f) ≠ .crash k := by
  intro h
  have := top_good { tol := tol, ctx := ctx, s := s } hc f (.ofStart hf.toStartOk (fun _ => hf.esc)) n
  rw [h] at this
  exact this

/-- the statement without the extra hypothesis -/
def C05_no_crash_full : Prop :=
  ∀ (tol : Bool) (ctx : Ctx), ctx.Closed → ∀ (s : Str) (f : PSFields), StartOk ctx f → ∀ (n : Nat) (k : String),
    run { tol := tol, ctx := ctx, s := s } n (topTask f) ≠ .crash k

def Ret.isCrash : Ret → Bool
  | .crash _ => true
  | _ => false

/-- counterexample context: one specials `~` taking a mandatory argument -/
def cxCtx : Ctx := { specials := [(['~'], .std [⟨.m, .none⟩])] }
/-- counterexample state: macros disabled, the escape character `\` is also a group opener -/
def cxFields : PSFields := { groupDelims := [(['\\'], ['}'])], enMacros := false, specials := [['~']] }
def cxInput : Str := "~\\begin{x}".toList

theorem cxCtx_closed : cxCtx.Closed :=
  ⟨(fun p h => nomatch h), (fun p h => nomatch h),
   (fun p h => by
      simp only [cxCtx, List.mem_singleton] at h
      rw [h]; trivial),
   (fun a h => nomatch h), (fun a h => nomatch h)⟩

theorem cxFields_start : StartOk cxCtx cxFields :=
  ⟨rfl, rfl, by decide, by decide, by decide, rfl⟩

/-- **the full statement is false**: in tolerant mode, with macros disabled and an escape character that is
    also a group opener, `~\begin{x}` makes the model crash (the expression parser, reading with environments
    disabled, sees a `brace_open` token `\`; the group parser re-reads with environments enabled, sees
    `\begin{x}`, raises "expected opening delimiter", tolerant recovery returns an empty node list instead of a
    group node, and `LatexExpressionParser` fails on it). -/
theorem C05_no_crash_full_false : ¬ C05_no_crash_full := by
  intro h
  have hcr : (run { tol := true, ctx := cxCtx, s := cxInput } 12 (topTask cxFields)).isCrash = true := by decide
  cases hr : run { tol := true, ctx := cxCtx, s := cxInput } 12 (topTask cxFields) with
  | crash k => exact h true cxCtx cxCtx_closed cxInput cxFields cxFields_start 12 k hr
  | ok r q => rw [hr] at hcr; cases hcr
  | perr e => rw [hr] at hcr; cases hcr
  | loopEnd e => rw [hr] at hcr; cases hcr
  | fuel => rw [hr] at hcr; cases hcr

/-! ### shape of the result -/

/-- **C05 (shape).** The top-level task returns a node list, or (strict mode only) a parse error, or runs out
    of fuel — never a loop result, never `None`, and in tolerant mode never an error. -/
theorem C05_shape (tol : Bool) (ctx : Ctx) (hc : ctx.Closed) (s : Str) (f : PSFields) (hf : StartOk' ctx f) (n : Nat) :
    (∃ p e ns pos, run { tol := tol, ctx := ctx, s := s } n (topTask f) = .ok (.list p e ns) pos ∧ pos ≤ s.length) ∨
    (tol = false ∧ ∃ e, run { tol := tol, ctx := ctx, s := s } n (topTask f) = .perr e) ∨
    run { tol := tol, ctx := ctx, s := s } n (topTask f) = .fuel := by
  rcases top_cases { tol := tol, ctx := ctx, s := s } hc f (.ofStart hf.toStartOk (fun _ => hf.esc)) n with
    h | ⟨ht, e, h, _⟩ | h
  · exact Or.inl h
  · exact Or.inr (Or.inl ⟨ht, e, h⟩)
  · exact Or.inr (Or.inr h)

/-- **crash-freedom half of C06 / C07 (tolerant mode).** With `tolerant_parsing=True` the top-level parse returns a
    node list (whose end position lies inside the input) unless the model runs out of fuel: no parse error, no
    other exception. -/
theorem C05_tolerant_total (ctx : Ctx) (hc : ctx.Closed) (s : Str) (f : PSFields) (hf : StartOk' ctx f) (n : Nat) :
    (∃ p e ns pos, run { tol := true, ctx := ctx, s := s } n (topTask f) = .ok (.list p e ns) pos ∧ pos ≤ s.length) ∨
    run { tol := true, ctx := ctx, s := s } n (topTask f) = .fuel := by
  rcases C05_shape true ctx hc s f hf n with h | ⟨h, _⟩ | h
  · exact Or.inl h
  · cases h
  · exact Or.inr h

/-- strict mode needs only `StartOk` -/
theorem C05_shape_strict (ctx : Ctx) (hc : ctx.Closed) (s : Str) (f : PSFields) (hf : StartOk ctx f) (n : Nat) :
    (∃ p e ns pos, run { tol := false, ctx := ctx, s := s } n (topTask f) = .ok (.list p e ns) pos ∧ pos ≤ s.length) ∨
    (∃ e, run { tol := false, ctx := ctx, s := s } n (topTask f) = .perr e) ∨
    run { tol := false, ctx := ctx, s := s } n (topTask f) = .fuel := by
  rcases top_cases { tol := false, ctx := ctx, s := s } hc f (.ofStart hf (fun h => nomatch h)) n with
    h | ⟨_, e, h, _⟩ | h
  · exact Or.inl h
  · exact Or.inr (Or.inl ⟨e, h⟩)
  · exact Or.inr (Or.inr h)

/-! ### the error is located inside the input -/

/-- **C05 (located).** A strict-mode parse error carries a position, and the position lies inside the input. -/
theorem C05_located (ctx : Ctx) (hc : ctx.Closed) (s : Str) (f : PSFields) (hf : StartOk ctx f) (n : Nat) (e : PErr)
    (h : run { tol := false, ctx := ctx, s := s } n (topTask f) = .perr e) :
    ∃ p, e.pos = some p ∧ p ≤ s.length := by
  have := top_good { tol := false, ctx := ctx, s := s } hc f (.ofStart hf (fun h => nomatch h)) n
  rw [h] at this
  exact this.2.pos

/-- what the driver prints for a located error: the position and `posToLineCol` of it -/
theorem showRet_perr (s : Str) (e : PErr) (p : Nat) (h : e.pos = some p) :
    showRet s (.perr e) =
      s!"ERR {e.what.show} {p} {(posToLineCol {} s p).1} {(posToLineCol {} s p).2}" := by
  simp only [showRet, h]

/-- **C05 (line and column).** The line and column reported for a strict-mode parse error are those of its
    position in the sense of C20: `line - 1` is the (0-based) index of a line start `st ≤ p`, `p = st + col`,
    and no newline lies between `st` and `p`. -/
theorem C05_line_col (ctx : Ctx) (hc : ctx.Closed) (s : Str) (f : PSFields) (hf : StartOk ctx f) (n : Nat) (e : PErr)
    (h : run { tol := false, ctx := ctx, s := s } n (topTask f) = .perr e) :
    ∃ p, e.pos = some p ∧ p ≤ s.length ∧
      ∃ (idx st : Nat),
        (posToLineCol {} s p).1 = (idx : Int) + 1 ∧
        (lineStarts s)[idx]? = some st ∧ IsLineStart s st ∧ st ≤ p ∧
        (p : Int) = (st : Int) + (posToLineCol {} s p).2 ∧
        (∀ k, st ≤ k → k < p → s[k]? ≠ some '\n') := by
  obtain ⟨p, hp, hle⟩ := C05_located ctx hc s f hf n e h
  obtain ⟨idx, st, h1, h2, h3, h4, h5, h6⟩ := C20_pos_line_col {} s p hle
  refine ⟨p, hp, hle, idx, st, h1, h2, h3, h4, ?_, h6⟩
  have h5' : (p : Int) = (st : Int) + ((posToLineCol {} s p).2 - (if idx = 0 then (0 : Int) else 0)) := h5
  rw [h5']
  split <;> omega

/-! ### `parseTop` instances -/

theorem C05_parseTop_no_crash_strict (ctx : Ctx) (hc : ctx.Closed) (s : Str) (f : PSFields) (hf : StartOk ctx f)
    (k : String) : parseTop { tol := false, ctx := ctx, s := s } f ≠ .crash k :=
  C05_no_crash_strict ctx hc s f hf (fuelFor s) k

theorem C05_parseTop_no_crash_partial (tol : Bool) (ctx : Ctx) (hc : ctx.Closed) (s : Str) (f : PSFields)
    (hf : StartOk' ctx f) (k : String) : parseTop { tol := tol, ctx := ctx, s := s } f ≠ .crash k :=
  C05_no_crash_partial tol ctx hc s f hf (fuelFor s) k

theorem C05_parseTop_located (ctx : Ctx) (hc : ctx.Closed) (s : Str) (f : PSFields) (hf : StartOk ctx f) (e : PErr)
    (h : parseTop { tol := false, ctx := ctx, s := s } f = .perr e) : ∃ p, e.pos = some p ∧ p ≤ s.length :=
  C05_located ctx hc s f hf (fuelFor s) e h

theorem C05_parseTop_line_col (ctx : Ctx) (hc : ctx.Closed) (s : Str) (f : PSFields) (hf : StartOk ctx f) (e : PErr)
    (h : parseTop { tol := false, ctx := ctx, s := s } f = .perr e) :
    ∃ p, e.pos = some p ∧ p ≤ s.length ∧
      ∃ (idx st : Nat),
        (posToLineCol {} s p).1 = (idx : Int) + 1 ∧
        (lineStarts s)[idx]? = some st ∧ IsLineStart s st ∧ st ≤ p ∧
        (p : Int) = (st : Int) + (posToLineCol {} s p).2 ∧
        (∀ k, st ≤ k → k < p → s[k]? ≠ some '\n') :=
  C05_line_col ctx hc s f hf (fuelFor s) e h

theorem C05_parseTop_shape (tol : Bool) (ctx : Ctx) (hc : ctx.Closed) (s : Str) (f : PSFields) (hf : StartOk' ctx f) :
    (∃ p e ns pos, parseTop { tol := tol, ctx := ctx, s := s } f = .ok (.list p e ns) pos ∧ pos ≤ s.length) ∨
    (tol = false ∧ ∃ e, parseTop { tol := tol, ctx := ctx, s := s } f = .perr e) ∨
    parseTop { tol := tol, ctx := ctx, s := s } f = .fuel :=
  C05_shape tol ctx hc s f hf (fuelFor s)

/-! ### non-vacuity -/

instance : DecidablePred ArgsP.Known := fun a => by
  cases a <;> unfold ArgsP.Known <;> infer_instance

set_option maxRecDepth 100000 in
/-- the default walker context is closed -/
theorem defaultCtx_closed : Gen.defaultCtx.Closed :=
  ⟨by decide, by decide, by decide,
   (fun a h => by cases h; trivial), (fun a h => by cases h; trivial)⟩

/-- the default start state satisfies `StartOk'` (hence `StartOk`) -/
example : StartOk' Gen.defaultCtx { specials := Gen.defaultCtx.specials.map (·.1) } :=
  { hasCtx := rfl, specials := rfl, mathDelims := by decide, groupDelims := by decide, comment := by decide,
    normal := rfl, esc := Or.inl rfl }

/-- a small closed context used for the concrete runs below -/
def exCtx5 : Ctx := { macros := [("frac".toList, .std [⟨.m, .none⟩, ⟨.m, .none⟩])], unknownMacro := some (.std []) }

def Ret.errPos : Ret → Option (ErrWhat × Option Nat)
  | .perr e => some (e.what, e.pos)
  | _ => none

/-- strict mode: `\frac{a}` followed by an unmatched `}` — the second argument is missing, the error sits at
    position 8 of 9 -/
example : (parseTop { tol := false, ctx := exCtx5, s := "\\frac{a}}".toList } {}).errPos =
    some (.exprCloseBrace, some 8) := by decide

/-- the line / column reported for an error on the second line -/
example : (parseTop { tol := false, ctx := exCtx5, s := "ab\n}".toList } {}).errPos =
    some (.unexpectedCloseBrace, some 3) ∧ posToLineCol {} "ab\n}".toList 3 = (2, 0) := by decide

/-- tolerant mode recovers from the same input and returns a node list -/
example : (parseTop { tol := true, ctx := exCtx5, s := "ab\n}".toList } {}).isCrash = false := by decide

end Pylx
