/-
  C13 — encoded text is inert, strictly parseable, ASCII-only when asked.

  This file: the theorems about `encode (builtinCfg …)` — `C13_table`, `C13_table_ascii`,
  `C13_active_neutralised`, `C13_inert`, `C13_inert_fail`, `C13_total`, `C13_ascii`, `C13_fail_iff`.
  Lexical vocabulary: `PylxProofs/C13Lex.lean`; kernel-checked table facts: `PylxProofs/C13Table.lean`;
  the link to the parser model: `PylxProofs/C13Parse.lean`.
-/
import PylxProofs.C13Table
namespace Pylx.C13
open Pylx Pylx.EncB

/-! ### The step of the encoder with a built-in rule set -/

theorem lookup_mem {l : List (Nat × Str)} {k : Nat} {v : Str} (h : l.lookup k = some v) : (k, v) ∈ l := by
  induction l with
  | nil => cases h
  | cons x xs ih =>
    rw [List.lookup_cons] at h
    split at h
    · rename_i hk
      cases h
      rw [beq_iff_eq.mp hk]
      exact List.mem_cons_self
    · exact List.mem_cons_of_mem _ (ih h)

theorem tableOf_mem {tb : Table} {k : Nat} {v : Str} (h : (tableOf tb).lookup k = some v) :
    ∃ e ∈ rawTable tb, e.1 = k ∧ S e.2 = v := by
  obtain ⟨e, he, heq⟩ := List.mem_map.mp (lookup_mem h)
  cases heq
  exact ⟨e, he, rfl, rfl⟩

/-- the policies that are plain names (no callable) -/
def NamedPolicy : Policy → Prop
  | .wrap _ _ => False
  | _ => True

/-- one iteration of the loop, with a built-in rule set and `non_ascii_only=False` -/
theorem stepAt_builtin (tb : Table) (pr : Prot) (pol : Policy) (c : Char) :
    stepAt (builtinCfg tb pr pol false) [c] 0 c =
      match (tableOf tb).lookup c.toNat with
      | some r => .emit (protect isAsciiAlpha pr r) 1
      | none => if isCopyChar c then .emit [c] 1 else unknownChar pol c := by
  cases hl : (tableOf tb).lookup c.toNat <;>
    simp [stepAt, skipsAscii, builtinCfg, firstRule, builtinRule, dictRule, ruleProt_none, hl]

theorem builtin_perChar (tb : Table) (pr : Prot) (pol : Policy) (nao : Bool) : PerChar (builtinCfg tb pr pol nao) :=
  perChar_of_dictRules _ (by
    intro r hr
    simp only [builtinCfg, List.mem_singleton] at hr
    exact ⟨_, _, hr⟩)

/-! ### Chunks -/

theorem toNat_mem_of_not_plain {c : Char} (h : plainChar c = false) : c.toNat ∈ [92, 123, 125, 37, 36] := by
  simp only [plainChar, Bool.and_eq_false_iff, bne_eq_false_iff_eq] at h
  rcases h with (((rfl | rfl) | rfl) | rfl) | rfl <;> decide

theorem plain_of_no_rule {tb : Table} {c : Char} (h : (tableOf tb).lookup c.toNat = none) : plainChar c = true := by
  cases hp : plainChar c with
  | true => rfl
  | false =>
    have := List.all_eq_true.mp (active_have_rules tb) _ (toNat_mem_of_not_plain hp)
    rw [h] at this
    cases this

theorem plain_of_not_copy {c : Char} (h : isCopyChar c = false) : plainChar c = true := by
  simp only [plainChar, Bool.and_eq_true, bne_iff_ne, ne_eq]
  refine ⟨⟨⟨⟨?_, ?_⟩, ?_⟩, ?_⟩, ?_⟩ <;> (intro hc; subst hc; revert h; decide)

/-! #### the `unihex` text -/

def hexish (c : Char) : Bool := "0123456789ABCDEF*".toList.contains c

theorem hexish_digitChar (k : Nat) : hexish (Nat.digitChar k).toUpper = true := by
  by_cases h : 16 ≤ k
  · rw [Nat.digitChar_eq_star.mpr h]; decide
  · rcases k with _|_|_|_|_|_|_|_|_|_|_|_|_|_|_|_|k
    all_goals first | decide | omega

theorem toDigitsCore_forall {P : Char → Prop} (hd : ∀ k, P (Nat.digitChar k)) {b : Nat} :
    ∀ (f n : Nat) (ds : List Char), (∀ c ∈ ds, P c) → ∀ c ∈ Nat.toDigitsCore b f n ds, P c := by
  intro f
  induction f with
  | zero => exact fun _ _ h => h
  | succ f ih =>
    intro n ds h
    have h' : ∀ c ∈ Nat.digitChar (n % b) :: ds, P c := List.forall_mem_cons.mpr ⟨hd _, h⟩
    rw [Nat.toDigitsCore]
    split
    · exact h'
    · exact ih _ _ h'

theorem hexish_hexUpper4 (n : Nat) : ∀ c ∈ hexUpper4 n, hexish c = true := by
  intro c hc
  simp only [hexUpper4, List.mem_append, List.mem_replicate, List.mem_map] at hc
  rcases hc with ⟨_, rfl⟩ | ⟨d, hd, rfl⟩
  · decide
  · exact toDigitsCore_forall (P := fun d => hexish d.toUpper = true) hexish_digitChar _ _ [] nofun d hd

theorem hexish_cases {c : Char} (h : hexish c = true) :
    plainChar c = true ∧ c.toNat < 128 := by
  simp only [hexish, List.contains_eq_mem, decide_eq_true_eq] at h
  have : c ∈ ['0','1','2','3','4','5','6','7','8','9','A','B','C','D','E','F','*'] := h
  simp only [List.mem_cons, List.not_mem_nil, or_false] at this
  rcases this with rfl|rfl|rfl|rfl|rfl|rfl|rfl|rfl|rfl|rfl|rfl|rfl|rfl|rfl|rfl|rfl|rfl <;> decide

def uniPre : Str := "\\ensuremath{\\langle}\\texttt{U+".toList
def uniSuf : Str := "}\\ensuremath{\\rangle}".toList

theorem envFree_noslash_append {l r : Str} (h : ∀ c ∈ l, c ≠ '\\') : envFree (l ++ r) = envFree r := by
  induction l with
  | nil => rfl
  | cons c cs ih =>
    have hc : c ≠ '\\' := h c (by simp)
    simp only [List.cons_append, envFree]
    rw [ih (fun d hd => h d (by simp [hd]))]
    simp [hc]

theorem afterLast_append_some {c : Char} {a b t : Str} (h : afterLast c b = some t) :
    afterLast c (a ++ b) = some t := by
  induction a with
  | nil => simpa using h
  | cons x xs ih => simp only [List.cons_append, afterLast, ih]

theorem chunkSafe_unihex (n : Nat) : chunkSafe (uniPre ++ hexUpper4 n ++ uniSuf) = true := by
  have hp : ∀ c ∈ hexUpper4 n, plainChar c = true := fun c hc => (hexish_cases (hexish_hexUpper4 n c hc)).1
  have hns : ∀ c ∈ hexUpper4 n, c ≠ '\\' := fun c hc h => absurd (hp c hc) (by rw [h]; decide)
  have h1 : lexOk (uniPre ++ hexUpper4 n ++ uniSuf) = true := by
    rw [lexOk_iff, List.append_assoc, lexScan_append]
    have e1 : lexScan st0 uniPre = some ⟨false, 1, false⟩ := by decide
    rw [e1]
    simp only [Option.bind_some]
    rw [lexScan_append, lexScan_plain rfl hp]
    decide
  have h2 : envFree (uniPre ++ hexUpper4 n ++ uniSuf) = true := by
    rw [List.append_assoc]
    refine envFree_append (by decide) (by decide) ?_
    rw [envFree_noslash_append hns]
    decide
  have h3 : tailOk (uniPre ++ hexUpper4 n ++ uniSuf) = true := by
    have : afterLast '\\' (uniPre ++ hexUpper4 n ++ uniSuf) = some "rangle}".toList :=
      afterLast_append_some (by decide)
    simp only [tailOk, this]
    decide
  rw [chunkSafe, h1, h2, h3]; rfl

/-- **C13 (tables).**  Every entry of both generated tables, protected by any of the five
    built-in schemes, is a safe chunk: balanced unescaped braces, no unescaped `%`, unescaped `$`
    in pairs, no incomplete escape at its end, no `\begin` / `\end`, and nothing after its last
    backslash that following text could complete to `begin` / `end`. -/
theorem C13_table (tb : Table) : ∀ e ∈ rawTable tb, ∀ pr, BuiltinProt pr →
    ChunkSafe (protect isAsciiAlpha pr (S e.2)) := by
  intro e he pr hpr
  have := table_safe tb e he
  simp only [entrySafe, List.all_eq_true] at this
  exact this pr hpr

/-- **C13 (tables are ASCII).** -/
theorem C13_table_ascii (tb : Table) : ∀ e ∈ rawTable tb, ∀ c ∈ S e.2, c.toNat < 128 := by
  intro e he c hc
  have := table_ascii tb e he
  simp only [entryAscii, List.all_eq_true, decide_eq_true_eq] at this
  exact this c hc

theorem chunkSafe_unknown {pol : Policy} (hn : NamedPolicy pol) {c : Char} (hc : isCopyChar c = false)
    {t : Str} {n : Nat} (h : unknownChar pol c = .emit t n) : chunkSafe t = true := by
  rcases (unknownChar_emit h).2 with ⟨_, rfl⟩ | ⟨_, rfl⟩ | ⟨_, rfl⟩ | ⟨_, rfl⟩ | ⟨a, b, rfl, _⟩
  · exact chunkSafe_plain (plain_of_not_copy hc)
  · decide
  · decide
  · exact chunkSafe_unihex _
  · exact hn.elim

/-- the three ways a chunk arises: a table entry under the protection scheme, the character itself when it has no
    rule and is in the pass-through range, the policy's text otherwise -/
theorem stepAt_builtin_emit {tb : Table} {pr : Prot} {pol : Policy} {c : Char} {t : Str} {n : Nat}
    (h : stepAt (builtinCfg tb pr pol false) [c] 0 c = .emit t n) :
    (∃ e ∈ rawTable tb, e.1 = c.toNat ∧ t = protect isAsciiAlpha pr (S e.2)) ∨
    ((tableOf tb).lookup c.toNat = none ∧ isCopyChar c = true ∧ t = [c]) ∨
    ((tableOf tb).lookup c.toNat = none ∧ isCopyChar c = false ∧ unknownChar pol c = .emit t n) := by
  rw [stepAt_builtin] at h
  cases hl : (tableOf tb).lookup c.toNat with
  | some r =>
    obtain ⟨e, he, hk, rfl⟩ := tableOf_mem hl
    rw [hl] at h
    cases h
    exact .inl ⟨e, he, hk, rfl⟩
  | none =>
    rw [hl] at h
    cases hcp : isCopyChar c with
    | true => rw [hcp] at h; cases h; exact .inr (.inl ⟨rfl, rfl, rfl⟩)
    | false => rw [hcp] at h; exact .inr (.inr ⟨rfl, rfl, h⟩)

theorem chunkSafe_step {tb : Table} {pr : Prot} (hpr : BuiltinProt pr) {pol : Policy} (hn : NamedPolicy pol)
    {c : Char} {t : Str} {n : Nat} (h : stepAt (builtinCfg tb pr pol false) [c] 0 c = .emit t n) :
    chunkSafe t = true := by
  rcases stepAt_builtin_emit h with ⟨e, he, _, rfl⟩ | ⟨hl, _, rfl⟩ | ⟨_, hcp, hu⟩
  · exact C13_table tb e he pr hpr
  · exact chunkSafe_plain (plain_of_no_rule hl)
  · exact chunkSafe_unknown hn hcp hu

/-! ### From chunks to the encoder's result -/

/-- every chunk of a result comes from the step at some character of the input -/
theorem encChars_ok_mem {cfg : Cfg} : ∀ {s : Str} {l : List Str}, encChars cfg s = .ok l →
    ∀ t ∈ l, ∃ c ∈ s, ∃ n, stepAt cfg [c] 0 c = .emit t n := by
  intro s
  induction s with
  | nil => intro l hl t ht; cases hl; cases ht
  | cons c cs ih =>
    intro l hl t ht
    rw [encChars] at hl
    cases hst : stepAt cfg [c] 0 c with
    | raise e => rw [hst] at hl; cases hl
    | emit t' n =>
      rw [hst] at hl
      obtain ⟨l', hrec, rfl⟩ := cons_eq_ok.mp hl
      rcases List.mem_cons.mp ht with rfl | ht
      · exact ⟨c, List.mem_cons_self, n, hst⟩
      · obtain ⟨d, hd, hd'⟩ := ih hrec t ht
        exact ⟨d, List.mem_cons_of_mem _ hd, hd'⟩

theorem encChars_total {cfg : Cfg} (h : ∀ c e, stepAt cfg [c] 0 c ≠ .raise e) :
    ∀ s, ∃ l, encChars cfg s = .ok l := by
  intro s
  induction s with
  | nil => exact ⟨[], rfl⟩
  | cons c cs ih =>
    obtain ⟨l, hl⟩ := ih
    rw [encChars, hl]
    cases hst : stepAt cfg [c] 0 c with
    | raise e => exact absurd hst (h c e)
    | emit t n => exact ⟨t :: l, rfl⟩

theorem encChars_raise_iff {cfg : Cfg} (s : Str) :
    (∃ e, encChars cfg s = .raise e) ↔ ∃ c ∈ s, ∃ e, stepAt cfg [c] 0 c = .raise e := by
  induction s with
  | nil => simp [encChars]
  | cons c cs ih =>
    simp only [encChars, List.mem_cons, exists_eq_or_imp]
    cases hst : stepAt cfg [c] 0 c with
    | raise e => exact iff_of_true ⟨e, rfl⟩ (.inl ⟨e, rfl⟩)
    | emit t n => simp only [cons_eq_raise, ih, reduceCtorEq, exists_false, false_or]

/-- the returned text is the concatenation of chunks, each appended by the step at a character of the input -/
theorem encode_chunks {cfg : Cfg} (hpc : PerChar cfg) {s t : Str} (h : encode cfg s = some t) :
    ∃ l : List Str, t = l.flatten ∧ ∀ x ∈ l, ∃ c ∈ s, ∃ n, stepAt cfg [c] 0 c = .emit x n := by
  rw [encode, encodeChunks_eq_encChars hpc] at h
  cases hl : encChars cfg s with
  | ok l => rw [hl] at h; cases h; exact ⟨l, rfl, encChars_ok_mem hl⟩
  | raise e => rw [hl] at h; cases h
  | diverge => rw [hl] at h; cases h

theorem encode_total {cfg : Cfg} (hpc : PerChar cfg) (h : ∀ c e, stepAt cfg [c] 0 c ≠ .raise e) (s : Str) :
    ∃ t, encode cfg s = some t := by
  obtain ⟨l, hl⟩ := encChars_total h s
  exact ⟨l.flatten, by rw [encode, encodeChunks_eq_encChars hpc, hl]; rfl⟩

/-- a step raises exactly under `fail`, at a character without rule outside the pass-through range -/
theorem stepAt_builtin_raise {tb : Table} {pr : Prot} {pol : Policy} {c : Char} {e : EncExc} :
    stepAt (builtinCfg tb pr pol false) [c] 0 c = .raise e ↔
      (tableOf tb).lookup c.toNat = none ∧ isCopyChar c = false ∧ pol = .fail ∧ e = .valueError c := by
  rw [stepAt_builtin]
  cases (tableOf tb).lookup c.toNat with
  | some r => simp
  | none => cases isCopyChar c <;> simp [unknownChar_raise]

theorem step_no_raise {tb : Table} {pr : Prot} {pol : Policy} (hp : pol ≠ .fail) (c : Char) (e : EncExc) :
    stepAt (builtinCfg tb pr pol false) [c] 0 c ≠ .raise e :=
  fun h => hp (stepAt_builtin_raise.mp h).2.2.1

/-! ### The property theorems -/

/-- occurrences of `a` outside backslash escapes (`esc` = the previous character was an unescaped backslash) -/
def rawOcc (a : Char) : Bool → Str → Bool
  | _, [] => false
  | true, _ :: r => rawOcc a false r
  | false, c :: r => if c == '\\' then rawOcc a true r else (c == a || rawOcc a false r)

/-- the LaTeX-active ASCII characters other than the backslash -/
def activeChars : Str := "{}$%&#_^~".toList

/-- **C13 (active characters are neutralised).**  Each of `{ } $ % & # _ ^ ~` has a rule in both
    tables whose replacement does not contain that character outside a backslash escape; the backslash
    has a rule whose replacement is a safe chunk (`C13_table`). -/
theorem C13_active_neutralised (tb : Table) :
    (∀ a ∈ activeChars, ∃ r, (tableOf tb).lookup a.toNat = some r ∧ rawOcc a false r = false) ∧
    (∃ r, (tableOf tb).lookup ('\\').toNat = some r) := by
  have h : (activeChars.all fun a => match (tableOf tb).lookup a.toNat with
      | some r => !rawOcc a false r | none => false) = true ∧ ((tableOf tb).lookup 92).isSome = true := by
    cases tb <;> constructor <;> decide +kernel
  constructor
  · intro a ha
    have := List.all_eq_true.mp h.1 a ha
    split at this
    · rename_i r hr; exact ⟨r, hr, by simpa using this⟩
    · cases this
  · cases hl : (tableOf tb).lookup 92 with
    | some r => exact ⟨r, hl⟩
    | none => rw [hl] at h; simp at h

/-- whatever a named policy makes the encoder return is inert -/
theorem inert_of_encode {tb : Table} {pr : Prot} (hpr : BuiltinProt pr) {pol : Policy} (hn : NamedPolicy pol) {s t : Str}
    (h : encode (builtinCfg tb pr pol false) s = some t) : Inert t := by
  obtain ⟨l, rfl, hl⟩ := encode_chunks (builtin_perChar tb pr pol false) h
  exact inert_flatten l fun x hx => let ⟨_, _, _, hst⟩ := hl x hx; chunkSafe_step hpr hn hst

/-- **C13 (inert output).**  For every (NFC-normalised) string, each of the five built-in
    protection schemes, both built-in rule sets and each of the policies `keep`, `replace`,
    `ignore`, `unihex`, the encoder returns a text, and that text is inert. -/
theorem C13_inert (tb : Table) (pr : Prot) (hpr : BuiltinProt pr) (pol : Policy) (hn : NamedPolicy pol)
    (hp : pol ≠ .fail) (s : Str) :
    ∃ t, encode (builtinCfg tb pr pol false) s = some t ∧ Inert t := by
  obtain ⟨t, ht⟩ := encode_total (builtin_perChar tb pr pol false) (step_no_raise hp) s
  exact ⟨t, ht, inert_of_encode hpr hn ht⟩

/-- under `fail`, whenever the encoder returns a text it is inert -/
theorem C13_inert_fail (tb : Table) (pr : Prot) (hpr : BuiltinProt pr) (s t : Str)
    (h : encode (builtinCfg tb pr .fail false) s = some t) : Inert t :=
  inert_of_encode hpr (pol := .fail) trivial h

/-- **C13 (no exception without `fail`).** -/
theorem C13_total (tb : Table) (pr : Prot) (pol : Policy) (hp : pol ≠ .fail) (s : Str) :
    ∃ l, encodeChunks (builtinCfg tb pr pol false) s = .ok l := by
  rw [encodeChunks_eq_encChars (builtin_perChar tb pr pol false)]
  exact encChars_total (step_no_raise hp) s

/-- **C13 (`fail`).**  Under `unknown_char_policy='fail'` the encoder raises exactly when some
    character of the string has no conversion rule and is not in the ASCII pass-through range
    (printable ASCII, DEL, `\n \r \t`); what it raises is the `ValueError` (`C04_exceptions`). -/
theorem C13_fail_iff (tb : Table) (pr : Prot) (s : Str) :
    ((∃ e, encodeChunks (builtinCfg tb pr .fail false) s = .raise e) ↔
      ∃ c ∈ s, (tableOf tb).lookup c.toNat = none ∧ isCopyChar c = false) ∧
    (∀ e, encodeChunks (builtinCfg tb pr .fail false) s = .raise e → ∃ c ∈ s, e = .valueError c) := by
  have hpc := builtin_perChar tb pr .fail false
  constructor
  · simp only [encodeChunks_eq_encChars hpc, encChars_raise_iff, stepAt_builtin_raise, true_and, exists_and_left,
      exists_eq, and_true]
  · intro e he
    obtain ⟨p, c, _, hc, rfl, _⟩ :=
      (C04_exceptions _ (perChar_noRaise hpc) (perChar_productive hpc) s e).mp he
    exact ⟨c, List.mem_of_getElem? hc, rfl⟩

/-- the returned string under `fail`: `none` (an exception) exactly in the same case -/
theorem C13_fail_iff_encode (tb : Table) (pr : Prot) (s : Str) :
    encode (builtinCfg tb pr .fail false) s = none ↔
      ∃ c ∈ s, (tableOf tb).lookup c.toNat = none ∧ isCopyChar c = false := by
  rw [← (C13_fail_iff tb pr s).1]
  have hnd := C04_terminates _ (perChar_productive (builtin_perChar tb pr .fail false)) s
  unfold encode
  cases h : encodeChunks (builtinCfg tb pr .fail false) s with
  | ok l => simp [EncRes.joined]
  | raise e => simp [EncRes.joined]
  | diverge => exact absurd h hnd

/-! #### ASCII -/

abbrev asciiStr (t : Str) : Prop := ∀ c ∈ t, c.toNat < 128

theorem asciiStr_append {a b : Str} (ha : asciiStr a) (hb : asciiStr b) : asciiStr (a ++ b) :=
  fun c hc => (List.mem_append.mp hc).elim (ha c) (hb c)

/-- the three shapes a built-in scheme gives a replacement text -/
theorem protect_cases (isAlpha : Char → Bool) {pr : Prot} (hpr : BuiltinProt pr) (r : Str) :
    protect isAlpha pr r = r ∨ protect isAlpha pr r = '{' :: r ++ ['}'] ∨ protect isAlpha pr r = r ++ ['{', '}'] := by
  simp only [BuiltinProt, schemes, List.mem_cons, List.not_mem_nil, or_false] at hpr
  rcases hpr with rfl | rfl | rfl | rfl | rfl
  · exact .inl rfl
  · simp only [protect]; split <;> simp
  · exact .inr (.inl rfl)
  · simp only [protect]; split <;> simp
  · simp only [protect]; split <;> simp

theorem protect_ascii {pr : Prot} (hpr : BuiltinProt pr) {r : Str} (h : asciiStr r) :
    asciiStr (protect isAsciiAlpha pr r) := by
  rcases protect_cases isAsciiAlpha hpr r with he | he | he <;> rw [he]
  · exact h
  · exact asciiStr_append (a := ['{']) (by decide) (asciiStr_append h (by decide))
  · exact asciiStr_append h (by decide)

theorem copy_ascii {c : Char} (h : isCopyChar c = true) : c.toNat < 128 := by
  simp only [isCopyChar, Bool.or_eq_true, Bool.and_eq_true, decide_eq_true_eq, beq_iff_eq] at h
  rcases h with ((⟨_, h⟩ | rfl) | rfl) | rfl
  · omega
  all_goals decide

theorem unknown_ascii {pol : Policy} (hpol : pol = .replace ∨ pol = .ignore ∨ pol = .unihex) {c : Char}
    {t : Str} {n : Nat} (h : unknownChar pol c = .emit t n) : asciiStr t := by
  rcases hpol with rfl | rfl | rfl <;> cases h
  · decide
  · decide
  · exact asciiStr_append (asciiStr_append (by decide) fun d hd => (hexish_cases (hexish_hexUpper4 _ d hd)).2) (by decide)

theorem ascii_step {tb : Table} {pr : Prot} (hpr : BuiltinProt pr) {pol : Policy}
    (hpol : pol = .replace ∨ pol = .ignore ∨ pol = .unihex)
    {c : Char} {t : Str} {n : Nat} (h : stepAt (builtinCfg tb pr pol false) [c] 0 c = .emit t n) :
    asciiStr t := by
  rcases stepAt_builtin_emit h with ⟨e, he, _, rfl⟩ | ⟨_, hcp, rfl⟩ | ⟨_, _, hu⟩
  · exact protect_ascii hpr (C13_table_ascii tb e he)
  · exact fun d hd => by rw [List.mem_singleton.mp hd]; exact copy_ascii hcp
  · exact unknown_ascii hpol hu

/-- **C13 (ASCII).**  Under `unknown_char_policy` `replace`, `ignore` or `unihex` the encoder
    returns a text and every character of it is ASCII. -/
theorem C13_ascii (tb : Table) (pr : Prot) (hpr : BuiltinProt pr) (pol : Policy)
    (hpol : pol = .replace ∨ pol = .ignore ∨ pol = .unihex) (s : Str) :
    ∃ t, encode (builtinCfg tb pr pol false) s = some t ∧ ∀ c ∈ t, c.toNat < 128 := by
  have hp : pol ≠ .fail := by rcases hpol with rfl | rfl | rfl <;> simp
  have hpc := builtin_perChar tb pr pol false
  obtain ⟨t, ht⟩ := encode_total hpc (step_no_raise hp) s
  obtain ⟨l, rfl, hl⟩ := encode_chunks hpc ht
  refine ⟨_, ht, fun c hc => ?_⟩
  obtain ⟨x, hx, hcx⟩ := List.mem_flatten.mp hc
  obtain ⟨_, _, _, hst⟩ := hl x hx
  exact ascii_step hpr hpol hst c hcx

/-- under `keep` a character without rule outside the pass-through range is copied: the output is
    not ASCII in general -/
theorem C13_keep_not_ascii : encode (builtinCfg .defaults .braces .keep false) [Char.ofNat 0x4e7e]
    = some [Char.ofNat 0x4e7e] := by decide +kernel

/-! ### Non-vacuity -/

example : BuiltinProt .bracesAfterMacro := by simp [BuiltinProt, schemes]
example : NamedPolicy .unihex := trivial
-- "é%\\ α~" under the default scheme
example : encode (builtinCfg .defaults .braces .keep false) [Char.ofNat 233, '%', '\\', ' ', Char.ofNat 0x3b1, '~']
    = some "\\'e\\%{\\textbackslash} \\ensuremath{\\alpha}{\\textasciitilde}".toList := by decide +kernel
example : Inert "\\'e\\%{\\textbackslash} \\ensuremath{\\alpha}{\\textasciitilde}".toList := by decide
example : ¬ Inert "a%b".toList := by decide
example : ¬ Inert "a}{".toList := by decide
example : ¬ Inert "x\\".toList := by decide
example : ¬ Inert "\\begin{x}".toList := by decide
example : ¬ Inert "a$b".toList := by decide
-- scheme `none`: the control word fuses with the following letters, the text stays inert
example : encode (builtinCfg .defaults .none .keep false) ['\\', 'a'] = some "\\textbackslasha".toList := by decide +kernel
example : Inert "\\textbackslasha".toList := by decide
-- `fail`: U+4E7E has no rule and is not passed through
example : ∃ c ∈ ['a', Char.ofNat 0x4e7e], (tableOf .defaults).lookup c.toNat = none ∧ isCopyChar c = false :=
  ⟨Char.ofNat 0x4e7e, by simp, by decide +kernel, by decide⟩
example : encodeChunks (builtinCfg .xml .braces .fail false) ['a', Char.ofNat 0x4e7e]
    = .raise (.valueError (Char.ofNat 0x4e7e)) := by decide +kernel
example : encode (builtinCfg .xml .bracesAll .unihex false) [Char.ofNat 0x4e7e]
    = some "\\ensuremath{\\langle}\\texttt{U+4E7E}\\ensuremath{\\rangle}".toList := by decide +kernel

end Pylx.C13
