/-
  C01 — in strict mode every node of a successful parse covers exactly the source text it stands for.
  Theorems about `Pylx.run` / `Pylx.parseTop` (model of `LatexWalker.parse_content`), for every amount of fuel.
-/
import PylxProofs.C01Tok
import PylxProofs.StepLemmas
import Pylx.Gen.WalkerDb
namespace Pylx

section contract
variable (s cs : Str)

def ArgRes (pos pos' : Nat) (res : Res) : Prop :=
  Chain (resToArg res).nodes pos pos' ∧ AllOk s cs (resToArg res).nodes

def CallRes (tpos pos' : Nat) (res : Res) : Prop :=
  ∃ n, res = .node n ∧ n.pos = tpos ∧ n.posEnd = pos' ∧ AllOk s cs [n]

/-- what `parse_content(parser @ pos)` returning `(res, pos')` guarantees, per parser -/
def ResGood : Parser → Nat → Nat → Res → Prop
  | .general stop _ _, pos, pos', res =>
      ∃ p e ns r, res = .list p e ns ∧ Tiles ns pos r ∧ r ≤ pos' ∧ AllOk s cs ns ∧
        (stop = .none → r = pos' ∧ pos' = s.length)
  | .envBody _, pos, pos', res => ∃ p e ns r, res = .list p e ns ∧ Tiles ns pos r ∧ r ≤ pos' ∧ AllOk s cs ns
  | .group _ _ ap, pos, pos', res =>
      (res = .none ∧ pos' = pos) ∨
      ∃ n, res = .node n ∧ pos ≤ n.pos ∧ (ap = false → n.pos = pos) ∧ n.posEnd = pos' ∧ AllOk s cs [n]
  | .math _, pos, pos', res =>
      (res = .none ∧ pos' = pos) ∨ ∃ n, res = .node n ∧ n.pos = pos ∧ n.posEnd = pos' ∧ AllOk s cs [n]
  | .macroCall t _, _, pos', res => CallRes s cs t.pos pos' res
  | .specialsCall t _, _, pos', res => CallRes s cs t.pos pos' res
  | .envCall t _ _, _, pos', res => CallRes s cs t.pos pos' res
  | .arguments _, pos, pos', res =>
      ∃ p e l, res = .args p e l ∧ Chain (l.flatMap Arg.nodes) pos pos' ∧ AllOk s cs (l.flatMap Arg.nodes)
  | .expression _, pos, pos', res => ArgRes s cs pos pos' res
  | .marker _ _ _, pos, pos', res => ArgRes s cs pos pos' res
  | .verbatim _, pos, pos', res => ArgRes s cs pos pos' res

def ChildOk : ChildPS → Prop
  | .same => True
  | .group _ c o => FOk cs c ∧ FOk cs o

def PPre : Parser → Nat → Prop
  | .general _ _ child, _ => ChildOk cs child
  | .macroCall t _, pos => t.pos ≤ pos
  | .specialsCall t _, pos => t.pos ≤ pos
  | .envCall t _ _, pos => t.pos ≤ pos
  | _, _ => True

def Post (p : Parser) (pos : Nat) : Ret → Prop
  | .ok res pos' => pos ≤ pos' ∧ pos' ≤ s.length ∧ ResGood s cs p pos pos' res
  | _ => True

def ExprPost (pos : Nat) : Ret → Prop
  | .ok res pos' => pos ≤ pos' ∧ pos' ≤ s.length ∧ ArgRes s cs pos pos' res
  | _ => True

/-- the collector's invariant: `acc` tiles `[start, m]`, the pending characters are `s[m : pos]` -/
structure LInv (start : Nat) (st : LoopSt) (m : Nat) : Prop where
  tiles : Tiles st.acc start m
  ok : AllOk s cs st.acc
  le : m ≤ st.pos
  inr : st.pos ≤ s.length
  pend : st.pend = slice s m st.pos
  pp : (st.pendPos = some m ∧ m < st.pos) ∨ (st.pendPos = none ∧ m = st.pos)

def EndOk (stop : StopTok) (e : LoopEnd) (r : Nat) : Prop :=
  match e.stopTok with
  | some t => r = t.pos ∧ e.pos = t.pos ∧ t.pos ≤ t.posEnd ∧ t.posEnd ≤ s.length ∧ stop.test t = true
  | none => r = e.pos ∧ e.pos = s.length

def LoopPost (stop : StopTok) (start : Nat) : Ret → Prop
  | .loopEnd e => e.err = none → ∃ r, Tiles e.nodes start r ∧ AllOk s cs e.nodes ∧ EndOk s stop e r
  | _ => True

def Good : Task → Ret → Prop
  | .pc p f pos, r => FOk cs f → pos ≤ s.length → PPre cs p pos → Post s cs p pos r
  | .loop f stop child st, r => FOk cs f → ChildOk cs child → ∀ start m, LInv s cs start st m → LoopPost s cs stop start r
  | .expr _ _ f pos, r => FOk cs f → pos ≤ s.length → ExprPost s cs pos r

end contract

theorem FOk.normalize {cs : Str} {f : PSFields} (h : FOk cs f) : FOk cs f.normalize := by
  unfold PSFields.normalize
  split
  · exact h
  · exact ⟨h.cs_eq, h.delims⟩

theorem FOk.applyDelta {cs : Str} {f : PSFields} (h : FOk cs f) (d : Delta) : FOk cs (applyDelta f d) := by
  cases d
  · exact h
  · exact FOk.normalize (f := { f with inMath := true, mathDelim := none }) ⟨h.cs_eq, h.delims⟩
  · exact FOk.normalize (f := { f with inMath := false, mathDelim := none }) ⟨h.cs_eq, h.delims⟩

theorem FOk.mathFields {cs : Str} {f : PSFields} (h : FOk cs f) (d : Str) : FOk cs (mathFields f d) :=
  FOk.normalize (f := { f with inMath := true, mathDelim := some d }) ⟨h.cs_eq, h.delims⟩

theorem FOk.noEnvs {cs : Str} {f : PSFields} (h : FOk cs f) :
    FOk cs ({ f with enEnvs := false } : PSFields).normalize :=
  FOk.normalize (f := { f with enEnvs := false }) ⟨h.cs_eq, h.delims⟩

theorem FOk.groupState {cs : Str} {f g : PSFields} (h : FOk cs f) {d : GroupDelims} (hg : groupState d f = some g) :
    FOk cs g := by
  rcases groupState_some hg with e | ⟨o, c, _, e⟩
  · rw [e]; exact h
  · rw [e]; exact ⟨h.cs_eq, h.delims⟩

theorem ChildOk.get {cs : Str} {child : ChildPS} (hc : ChildOk cs child) {f : PSFields} (hf : FOk cs f) (t : Token) :
    FOk cs (child.get f t) := by
  cases child with
  | same => exact hf
  | group o c outer =>
    rcases ChildPS.get_group o c outer f t with e | e
    · rw [e]; exact hc.1
    · rw [e]; exact hc.2

section collector
variable {s cs : Str}

theorem flush_spec (f : PSFields) (st : LoopSt) (start m q : Nat) (ht : Tiles st.acc start m)
    (hok : AllOk s cs st.acc) (hmq : m ≤ q) (hq : q ≤ s.length) (hpend : st.pend = slice s m q)
    (hpp : m < q → st.pendPos = some m) :
    Tiles (st.flush f).acc start q ∧ AllOk s cs (st.flush f).acc ∧
    ((st.pendPos = none ∨ m < q) → (st.flush f).pendPos = none) := by
  have hlen : st.pend.length = q - m := by rw [hpend]; exact slice_length s m q hmq hq
  by_cases hnil : st.pend = []
  · rw [LoopSt.flush_nil hnil]
    have : m = q := by rw [hnil, List.length_nil] at hlen; omega
    subst this
    exact ⟨ht, hok, fun h => h.elim id (fun h => absurd h (Nat.lt_irrefl _))⟩
  · rw [LoopSt.flush_cons hnil]
    have hlt : m < q := by have := List.length_pos_iff.mpr hnil; omega
    rw [hpp hlt, Option.getD_some]
    have hq' : m + st.pend.length = q := by omega
    exact ⟨Tiles.snoc' ht rfl hq' hmq,
      allOk_snoc hok (allOk_chars' _ _ _ _ (by omega) (by omega) (hq' ▸ hpend)), fun _ => rfl⟩

theorem loopFinish_err (f : PSFields) (st : LoopSt) (stopTok : Option Token) (e : PErr) (stop : StopTok) (start : Nat) :
    LoopPost s cs stop start (loopFinish f st stopTok (some e)) :=
  fun h => nomatch h

theorem loopFinish_ok (f : PSFields) (st : LoopSt) (stopTok : Option Token) (stop : StopTok) (start m : Nat)
    (ht : Tiles st.acc start m) (hok : AllOk s cs st.acc) (hmq : m ≤ st.pos) (hq : st.pos ≤ s.length)
    (hpend : st.pend = slice s m st.pos) (hpp : m < st.pos → st.pendPos = some m)
    (hend : match stopTok with
      | some t => st.pos = t.pos ∧ t.pos ≤ t.posEnd ∧ t.posEnd ≤ s.length ∧ stop.test t = true
      | none => st.pos = s.length) :
    LoopPost s cs stop start (loopFinish f st stopTok none) := by
  obtain ⟨h1, h2, _⟩ := flush_spec (s := s) (cs := cs) f st start m st.pos ht hok hmq hq hpend hpp
  rw [loopFinish_eq]
  refine fun _ => ⟨st.pos, h1, h2, ?_⟩
  cases stopTok with
  | none => exact ⟨rfl, hend⟩
  | some t => exact ⟨hend.1, hend.1, hend.2⟩

theorem LInv.pp_some {start m : Nat} {st : LoopSt} (h : LInv s cs start st m) (hlt : m < st.pos) : st.pendPos = some m := by
  rcases h.pp with ⟨h1, _⟩ | ⟨_, h2⟩
  · exact h1
  · omega

theorem LInv.ofFlushed {st : LoopSt} {start m : Nat} (ht : Tiles st.acc start m) (hok : AllOk s cs st.acc)
    (hpend : st.pend = []) (hpp : st.pendPos = none) (hm : st.pos = m) (hin : m ≤ s.length) : LInv s cs start st m :=
  { tiles := ht, ok := hok, le := Nat.le_of_eq hm.symm, inr := hm ▸ hin, pend := by rw [hpend, hm, slice_self],
    pp := Or.inr ⟨hpp, hm.symm⟩ }

theorem push_weak {start m : Nat} {st : LoopSt} (h : LInv s cs start st m) (chars : Str) (q p : Nat)
    (hp : p = st.pos) (hq1 : st.pos ≤ q) (hc : chars = slice s st.pos q) :
    (st.push chars p).pend = slice s m q ∧ (st.push chars p).pendPos = some m := by
  constructor
  · show st.pend ++ chars = _
    rw [h.pend, hc]
    exact slice_slice_append s m st.pos q h.le hq1
  · show (match st.pendPos with | some p => some p | none => some p) = some m
    rcases h.pp with ⟨h1, _⟩ | ⟨h1, h2⟩
    · rw [h1]
    · rw [h1, hp, h2]

theorem push_inv {start m : Nat} {st : LoopSt} (h : LInv s cs start st m) (chars : Str) (q p : Nat)
    (hp : p = st.pos) (hq1 : st.pos < q) (hq2 : q ≤ s.length) (hc : chars = slice s st.pos q) :
    LInv s cs start { (st.push chars p) with pos := q } m := by
  obtain ⟨h2, h3⟩ := push_weak h chars q p hp (Nat.le_of_lt hq1) hc
  have := h.le
  exact { tiles := h.tiles, ok := h.ok, le := by show m ≤ q; omega, inr := hq2, pend := h2,
          pp := Or.inl ⟨h3, by show m < q; omega⟩ }

theorem LInv.pend_nil_iff {start m : Nat} {st : LoopSt} (h : LInv s cs start st m) : st.pend = [] ↔ m = st.pos := by
  have hlen : st.pend.length = st.pos - m := by rw [h.pend]; exact slice_length s m st.pos h.le h.inr
  have := h.le
  constructor
  · intro hn; rw [hn, List.length_nil] at hlen; omega
  · intro hm; apply List.eq_nil_of_length_eq_zero; omega

theorem flushBefore_spec (f : PSFields) {st : LoopSt} {start m : Nat} (h : LInv s cs start st m) {t : Token}
    (ht : TokInfo s cs st.pos t) :
    Tiles (st.flushBefore f t).acc start t.pos ∧ AllOk s cs (st.flushBefore f t).acc ∧
    (st.flushBefore f t).pend = [] ∧ (st.flushBefore f t).pendPos = none := by
  have hle := h.le
  have hpos := ht.pos_eq
  have hin := ht.in_range
  have hle2 := ht.le
  by_cases hnil : st.pend = []
  · have hm : m = st.pos := h.pend_nil_iff.mp hnil
    have hpn : st.pendPos = none := by
      rcases h.pp with ⟨_, h2⟩ | ⟨h1, _⟩
      · omega
      · exact h1
    by_cases hpre : t.pre = []
    · rw [LoopSt.flushBefore_nil hnil hpre]
      have : t.pos = m := by rw [hpre, List.length_nil] at hpos; omega
      rw [this]
      exact ⟨h.tiles, h.ok, hnil, hpn⟩
    · rw [LoopSt.flushBefore_pre hnil hpre]
      have hp0 : t.pos - t.pre.length = st.pos := by omega
      exact ⟨Tiles.snoc' h.tiles (hp0.trans hm.symm) rfl (by omega),
        allOk_snoc h.ok (allOk_chars' _ _ _ _ (by omega) (by omega) (hp0 ▸ ht.pre_eq)), hnil, hpn⟩
  · have hlt : m < st.pos := by
      rcases Nat.lt_or_ge m st.pos with h1 | h1
      · exact h1
      · exact absurd (h.pend_nil_iff.mpr (by omega)) hnil
    rw [LoopSt.flushBefore_pend hnil]
    obtain ⟨h1, h2, h5⟩ := flush_spec (s := s) (cs := cs) f ({ st with pend := st.pend ++ t.pre } : LoopSt)
      start m t.pos h.tiles h.ok (by omega) (by omega)
      (by show st.pend ++ t.pre = _
          rw [h.pend, ht.pre_eq]; exact slice_slice_append s m st.pos t.pos hle (by omega))
      (fun _ => h.pp_some hlt)
    exact ⟨h1, h2, LoopSt.flush_pend, h5 (Or.inr (by omega))⟩

end collector

section loop
variable {env : Env} {cs : Str} {rec : Task → Ret}

def ChildPost (s cs : Str) (tpos : Nat) : Ret → Prop
  | .ok (.node n) p => n.pos = tpos ∧ n.posEnd = p ∧ AllOk s cs [n]
  | .ok .none p => p = tpos
  | _ => True

theorem dispatchChild_pre {f : PSFields} {st : LoopSt} {t : Token} {P : Parser} {p : Nat} {b : Bool}
    (hd : DispatchChild env f st t P p b) (hpos : st.pos = t.posEnd) (hle : t.pos ≤ t.posEnd)
    (hin : t.posEnd ≤ env.s.length) : p ≤ env.s.length ∧ PPre cs P p := by
  cases hd with
  | group _ => exact ⟨by omega, trivial⟩
  | mac _ _ => exact ⟨by omega, by show t.pos ≤ st.pos; omega⟩
  | env _ _ => exact ⟨by omega, by show t.pos ≤ st.pos; omega⟩
  | spec _ _ => exact ⟨by omega, by show t.pos ≤ st.pos; omega⟩
  | math _ _ => exact ⟨by omega, trivial⟩

theorem childPost_of_dispatch {f : PSFields} {st : LoopSt} {t : Token} {P : Parser} {p : Nat} {b : Bool}
    (hd : DispatchChild env f st t P p b) {r : Ret} (h : Post env.s cs P p r) : ChildPost env.s cs t.pos r := by
  cases r with
  | ok res q =>
    have call : CallRes env.s cs t.pos q res → ChildPost env.s cs t.pos (.ok res q) := by
      intro ⟨n, h1, h3, h4, h5⟩
      subst h1; exact ⟨h3, h4, h5⟩
    cases hd with
    | mac _ _ => exact call h.2.2
    | env _ _ => exact call h.2.2
    | spec _ _ => exact call h.2.2
    | group _ =>
      rcases h.2.2 with ⟨h1, h2⟩ | ⟨n, h1, _, h3, h4, h5⟩
      · subst h1; exact h2
      · subst h1; exact ⟨h3 rfl, h4, h5⟩
    | math _ _ =>
      rcases h.2.2 with ⟨h1, h2⟩ | ⟨n, h1, h3, h4, h5⟩
      · subst h1; exact h2
      · subst h1; exact ⟨h3, h4, h5⟩
  | _ => trivial

theorem afterChild_post (ih : ∀ t, Good env.s cs t (rec t)) {f : PSFields} {stop : StopTok} {child : ChildPS}
    (hf : FOk cs f) (hc : ChildOk cs child) {st : LoopSt} {start tpos : Nat}
    (ht : Tiles st.acc start tpos) (hok : AllOk env.s cs st.acc) (hpend : st.pend = []) (hpp : st.pendPos = none)
    (htp : tpos ≤ env.s.length) (noneOk : Bool) (r : Ret) (hr : ChildPost env.s cs tpos r) :
    LoopPost env.s cs stop start (afterChild rec f stop child st noneOk r) := by
  apply afterChild_elim
  · intro n p e
    rw [e] at hr
    obtain ⟨h1, h2, h3⟩ := hr
    have hle := h3.pos_le
    exact ih (.loop _ _ _ _) hf hc start p
      (LInv.ofFlushed (Tiles.snoc' ht h1 h2 (by omega)) (allOk_snoc hok h3) hpend hpp rfl (h2 ▸ h3.end_le))
  · intro p e _
    rw [e] at hr
    have hp : p = tpos := hr
    subst hp
    exact ih (.loop _ _ _ _) hf hc start p (LInv.ofFlushed ht hok hpend hpp rfl htp)
  · intro e _; exact loopFinish_err _ _ _ _ _ _
  · intro _; trivial
  · intro _ _; trivial

theorem loopDispatch_post (htol : env.tol = false) (ih : ∀ t, Good env.s cs t (rec t))
    {f : PSFields} {stop : StopTok} {child : ChildPS} (hf : FOk cs f) (hc : ChildOk cs child)
    {st : LoopSt} {start : Nat} {t : Token}
    (hti : Tiles st.acc start t.pos) (hok : AllOk env.s cs st.acc) (hpend : st.pend = []) (hpp : st.pendPos = none)
    (hpos : st.pos = t.posEnd) (hle : t.pos ≤ t.posEnd) (hin : t.posEnd ≤ env.s.length)
    (htext : TokText env.s cs t) :
    LoopPost env.s cs stop start (loopDispatch env rec f stop child st t) := by
  apply loopDispatch_elim
  · intro _ _ _; exact loopFinish_err _ _ _ _ _ _
  · intro hk
    unfold TokText at htext
    rw [hk] at htext
    exact ih (.loop _ _ _ _) hf hc start t.posEnd (LInv.ofFlushed (Tiles.snoc' hti rfl rfl hle)
      (allOk_snoc hok (allOk_leaf rfl hle hin htext)) hpend hpp hpos hin)
  · intro h; rw [htol] at h; cases h
  · intro P p b hd
    obtain ⟨hp, hpre⟩ := dispatchChild_pre (cs := cs) hd hpos hle hin
    exact afterChild_post ih hf hc hti hok hpend hpp (by omega) _ _
      (childPost_of_dispatch hd (ih (.pc P (child.get f t) p) (hc.get hf t) hp hpre))
  · intro _ _; trivial

theorem tokInfo_of_loopTok (htol : env.tol = false) {f : PSFields} (hf : FOk cs f) {st : LoopSt}
    (hin : st.pos ≤ env.s.length) {t : Token} (h : LoopTok env f st t) : TokInfo env.s cs st.pos t := by
  cases h with
  | peek hpk => rw [htol] at hpk; exact tokInfo_of_peek hf hpk
  | @final fs hpk hne =>
    rw [htol] at hpk
    have hfs := eos_of_peek hf hin hpk
    have hlen : fs.length = env.s.length - st.pos := by rw [hfs, List.length_drop]
    have hpos : 0 < fs.length := List.length_pos_iff.mpr hne
    exact { pos_eq := rfl,
            pre_eq := (slice_of_prefix env.s fs st.pos (by rw [hfs]; exact List.prefix_refl _)).symm,
            le := Nat.le_refl _, adv := by show st.pos < st.pos + fs.length; omega,
            in_range := by show st.pos + fs.length ≤ _; omega,
            text := (slice_self _ _).symm }

theorem loopStep_good (htol : env.tol = false) (ih : ∀ t, Good env.s cs t (rec t))
    (f : PSFields) (stop : StopTok) (child : ChildPS) (st : LoopSt) :
    Good env.s cs (.loop f stop child st) (loopStep env rec f stop child st) := by
  intro hf hc start m h
  have hml := h.le
  have hinr := h.inr
  apply loopStep_elim
  · intro hpk
    rw [htol] at hpk
    have hlen := congrArg List.length (eos_of_peek hf hinr hpk)
    rw [List.length_drop, List.length_nil] at hlen
    exact loopFinish_ok f st none stop start m h.tiles h.ok hml hinr h.pend h.pp_some (by show st.pos = _; omega)
  · intro _ _ _ _ _ _; exact loopFinish_err _ _ _ _ _ _
  · intro t hlt hst
    have ht := tokInfo_of_loopTok htol hf hinr hlt
    have hpos := ht.pos_eq
    obtain ⟨h2, h3⟩ := push_weak h t.pre t.pos (t.pos - t.pre.length) (by omega) (by omega) ht.pre_eq
    exact loopFinish_ok f _ (some t) stop start m h.tiles h.ok (by show m ≤ t.pos; omega)
      (by show t.pos ≤ _; have := ht.le; have := ht.in_range; omega) h2 (fun _ => h3) ⟨rfl, ht.le, ht.in_range, hst⟩
  · intro t hlt _ hk
    have ht := tokInfo_of_loopTok htol hf hinr hlt
    have hpos := ht.pos_eq
    have htx := ht.text
    unfold TokText at htx
    rw [hk] at htx
    refine ih (.loop _ _ _ _) hf hc start m
      (push_inv h (t.pre ++ t.arg) t.posEnd (t.pos - t.pre.length) (by omega) ht.adv ht.in_range ?_)
    rw [htx, ht.pre_eq]
    exact slice_slice_append env.s st.pos t.pos t.posEnd (by omega) ht.le
  · intro t hlt _ _
    have ht := tokInfo_of_loopTok htol hf hinr hlt
    obtain ⟨h1, h2, h3, h4⟩ := flushBefore_spec f h ht
    exact loopDispatch_post htol ih hf hc (t := { t with pre := [] }) h1 h2 h3 h4 rfl ht.le ht.in_range ht.text

end loop

section parsers
variable {env : Env} {cs : Str} {rec : Task → Ret}

theorem rawPost_other {s cs : Str} {p : Parser} {pos : Nat} {r : Ret} (h : ∀ res q, r ≠ .ok res q) :
    RawSat false (Post s cs p pos) (.ret r) := by
  cases r with
  | ok res q => exact absurd rfl (h res q)
  | _ => trivial

theorem allOk_around {s cs : Str} {n : Node} {ns : List Node} {a r : Nat} (hc : n.children = ns) (hp : n.pos ≤ a)
    (ht : Tiles ns a r) (hr : r ≤ n.posEnd) (hle : n.pos ≤ n.posEnd) (hin : n.posEnd ≤ s.length)
    (htx : TextOk s cs n) (hok : AllOk s cs ns) : AllOk s cs [n] := by
  rw [allOk_single, hc]
  exact ⟨⟨hle, hin, hc ▸ ht.toChain hp hr, htx⟩, hok⟩

theorem rawGeneral_post (ih : ∀ t, Good env.s cs t (rec t)) {stop : StopTok} {require : Bool} {child : ChildPS}
    {f : PSFields} {pos : Nat} (hf : FOk cs f) (hc : ChildOk cs child) (hpos : pos ≤ env.s.length) :
    RawSat false (Post env.s cs (.general stop require child) pos) (rawGeneral rec stop require child f pos) := by
  have hl := ih (.loop f stop child { pos := pos }) hf hc pos pos
    (LInv.ofFlushed Tiles.nil (allOk_nil _ _) rfl rfl rfl hpos)
  apply rawGeneral_elim
  · intro _ _ _ _; trivial
  · intro _ _ _ _ _ _; trivial
  · intro e t hr he hst
    rw [hr] at hl
    obtain ⟨r, h1, h2, h3⟩ := hl he
    have hle := h1.le
    unfold EndOk at h3
    rw [hst] at h3
    obtain ⟨h4, h5, h6, h7, h8⟩ := h3
    refine ⟨?_, ?_, _, _, e.nodes, r, rfl, h1, ?_, h2, ?_⟩
    · split <;> omega
    · split <;> omega
    · split <;> omega
    · intro hs; rw [hs] at h8; cases h8
  · intro e hr he hst _
    rw [hr] at hl
    obtain ⟨r, h1, h2, h3⟩ := hl he
    have hle := h1.le
    unfold EndOk at h3
    rw [hst] at h3
    exact ⟨by omega, by omega, _, _, e.nodes, r, rfl, h1, by omega, h2, fun _ => ⟨h3.1, h3.2⟩⟩
  · intro _; trivial
  · intro _ _ _; trivial

theorem rawGroup_post (htol : env.tol = false) (ih : ∀ t, Good env.s cs t (rec t)) {d : GroupDelims} {opt ap : Bool}
    {f : PSFields} {pos : Nat} (hf : FOk cs f) (hpos : pos ≤ env.s.length) :
    RawSat false (Post env.s cs (.group d opt ap) pos) (rawGroup env rec d opt ap f pos) := by
  have hnone : Post env.s cs (.group d opt ap) pos (.ok .none pos) := ⟨Nat.le_refl _, hpos, Or.inl ⟨rfl, rfl⟩⟩
  apply rawGroup_elim
  · intro _ _; trivial
  · intro _ _ _ _; exact hnone
  · intro _ _ _ _ _ _ _ _; trivial
  · intro g t hg hpk
    rw [htol] at hpk
    have hgf := hf.groupState hg
    have ht := tokInfo_of_peek hgf hpk
    have h1 := ht.pos_eq
    have h2 := ht.le
    have h3 := ht.in_range
    apply rawGroupTok_elim
    · intro _ _ _; trivial
    · intro c res p hop _ hr
      have := ih (.pc (.general (.braceClose c) true (.group d.opener g f)) g t.posEnd) hgf h3 ⟨hgf, hf⟩
      rw [hr] at this
      obtain ⟨h4, h5, pp, ee, ns, r, h6, h7, h8, h9, _⟩ := this
      subst h6
      refine ⟨by omega, h5, Or.inr ⟨_, rfl, by show pos ≤ t.pos; omega, ?_, rfl, ?_⟩⟩
      · intro hap
        have : t.pre.length = 0 := by rw [hop.1 hap]; rfl
        show t.pos = pos
        omega
      · exact allOk_around rfl h2 h7 h8 (by show t.pos ≤ p; omega) h5 trivial h9
    · intro _ _ _ hne; exact rawPost_other hne
    · intro _ _; rw [← moveToToken_true, moveToToken_of_pos_eq ht.pos_eq]; exact hnone
    · intro _ _; trivial

theorem rawMath_post (htol : env.tol = false) (ih : ∀ t, Good env.s cs t (rec t)) {d : Str}
    {f : PSFields} {pos : Nat} (hf : FOk cs f) (hpos : pos ≤ env.s.length) :
    RawSat false (Post env.s cs (.math d) pos) (rawMath env rec d f pos) := by
  apply rawMath_elim
  · intro _ _; exact ⟨Nat.le_refl _, hpos, Or.inl ⟨rfl, rfl⟩⟩
  · intro _ _ _ _ _ _; trivial
  · intro t hpk
    rw [htol] at hpk
    have ht := tokInfo_of_peek hf hpk
    have h1 := ht.pos_eq
    have h2 := ht.le
    have h3 := ht.in_range
    apply rawMathTok_elim
    · intro _ _ _; trivial
    · intro cd res p hop _ hr
      have := ih (.pc (.general (.mathClose (t.kind == .mathDisplay) cd.1) true .same) (mathFields f t.arg) t.posEnd)
        (hf.mathFields _) h3 trivial
      rw [hr] at this
      obtain ⟨h4, h5, pp, ee, ns, r, h6, h7, h8, h9, _⟩ := this
      subst h6
      have hpre : t.pre.length = 0 := by rw [hop.1]; rfl
      exact ⟨by omega, h5, Or.inr ⟨_, rfl, by show t.pos = pos; omega, rfl,
        allOk_around rfl h2 h7 h8 (by show t.pos ≤ p; omega) h5 trivial h9⟩⟩
    · intro _ _ _ hne; exact rawPost_other hne
    · intro _; trivial

theorem rawEnvBody_post (ih : ∀ t, Good env.s cs t (rec t)) {name : Str}
    {f : PSFields} {pos : Nat} (hf : FOk cs f) (hpos : pos ≤ env.s.length) :
    RawSat false (Post env.s cs (.envBody name) pos) (rawEnvBody rec name f pos) := by
  have := ih (.pc (.general (.endEnv name) true .same) f pos) hf hpos trivial
  apply rawEnvBody_elim
  · intro p hr
    rw [hr] at this
    obtain ⟨_, _, _, _, _, _, h6, _⟩ := this
    cases h6
  · intro res p hr _
    rw [hr] at this
    obtain ⟨h4, h5, pp, ee, ns, r, h6, h7, h8, h9, _⟩ := this
    exact ⟨h4, h5, pp, ee, ns, r, h6, h7, h8, h9⟩
  · exact rawPost_other

theorem rawCall_post (ih : ∀ t, Good env.s cs t (rec t)) {P : Parser} {mk : Nat → Option (List Arg) → Node} {a : ArgsP}
    {f : PSFields} {pos tpos : Nat} (hP : ∀ q res, CallRes env.s cs tpos q res → ResGood env.s cs P pos q res)
    (hf : FOk cs f) (hpos : pos ≤ env.s.length) (htp : tpos ≤ pos)
    (hmk : ∀ e args, (mk e args).pos = tpos ∧ (mk e args).posEnd = e ∧ (mk e args).children = argNodes args ∧
      TextOk env.s cs (mk e args)) :
    RawSat false (Post env.s cs P pos) (rawCall rec mk a f pos) := by
  have := ih (.pc (.arguments a) f pos) hf hpos trivial
  apply rawCall_elim
  · intro res p hr
    rw [hr] at this
    obtain ⟨h4, h5, pp, ee, l, h6, h7, h8⟩ := this
    subst h6
    obtain ⟨m1, m2, m3, m4⟩ := hmk p (argsOf (.args pp ee l))
    refine ⟨h4, h5, hP _ _ ⟨_, rfl, m1, m2, ?_⟩⟩
    rw [allOk_single, m3]
    exact ⟨⟨by omega, by omega, by rw [m3, m1, m2]; exact h7.weaken htp (Nat.le_refl _), m4⟩, h8⟩
  · exact rawPost_other

theorem rawEnvCall_post (ih : ∀ t, Good env.s cs t (rec t)) {t : Token} {a : ArgsP} {bm : Bool}
    {f : PSFields} {pos : Nat} (hf : FOk cs f) (hpos : pos ≤ env.s.length) (htp : t.pos ≤ pos) :
    RawSat false (Post env.s cs (.envCall t a bm) pos) (rawEnvCall rec t a bm f pos) := by
  have ha := ih (.pc (.arguments a) f pos) hf hpos trivial
  have hbf : FOk cs (if bm = true then applyDelta f .enterMath else f) := by
    split
    · exact hf.applyDelta _
    · exact hf
  apply rawEnvCall_elim
  · intro ares p bres p2 hr hr2
    rw [hr] at ha
    obtain ⟨h4, h5, pp, ee, l, h6, h7, h8⟩ := ha
    subst h6
    have hb := ih (.pc (.envBody t.arg) (if bm = true then applyDelta f .enterMath else f) p) hbf h5 trivial
    rw [hr2] at hb
    obtain ⟨g4, g5, pp2, ee2, ns, r, g6, g7, g8, g9⟩ := hb
    subst g6
    refine ⟨by omega, g5, _, rfl, rfl, rfl, ?_⟩
    rw [allOk_single]
    refine ⟨⟨by show t.pos ≤ p2; omega, g5, ?_, trivial⟩, ?_⟩
    · show Chain (argNodes (some l) ++ ns) t.pos p2
      exact (h7.weaken htp (Nat.le_refl _)).append (g7.toChain (Nat.le_refl _) g8)
    · show AllOk _ _ (argNodes (some l) ++ ns)
      exact allOk_append.mpr ⟨h8, g9⟩
  · exact rawPost_other
  · intro _ _ _; exact rawPost_other

theorem findStrFromAux_spec (t : Str) : ∀ (l : Str) (p e : Nat), findStrFromAux t l p = some e → p ≤ e ∧ e ≤ p + l.length := by
  intro l
  induction l with
  | nil =>
    intro p e h
    unfold findStrFromAux at h
    split at h
    · cases h; simp
    · cases h
  | cons c l ih =>
    intro p e h
    unfold findStrFromAux at h
    split at h
    · cases h; simp
    · have := ih _ _ h
      simp only [List.length_cons]
      omega

theorem findStrFrom_spec (s t : Str) (p e : Nat) (h : findStrFrom s t p = some e) : p ≤ e ∧ e ≤ s.length := by
  unfold findStrFrom at h
  split at h
  · cases h
  · have := findStrFromAux_spec t _ _ _ h
    simp only [List.length_drop] at this
    omega

theorem rawLegacyVerb_post {f : PSFields} {pos : Nat} {a : ArgsP} :
    RawSat false (Post env.s cs (.arguments a) pos) (rawLegacyVerb env f pos) := by
  apply rawLegacyVerb_elim
  · intro _ _ _; trivial
  · intro _ _ _ _ _; trivial
  · intro p d e hp hd he
    have hlt := getElem?_lt _ _ _ hd
    obtain ⟨h1, h2⟩ := findCharFrom_spec _ _ _ _ he
    exact ⟨by omega, by omega, _, _, _, rfl,
      Chain.single (by show pos ≤ p + 1; omega) h1 (by show e ≤ e + 1; omega), allOk_chars _ _ _ h1 (by omega)⟩

theorem legacyFinish_post {name : Str} {f : PSFields} {pos p : Nat} {pre : List Arg} {a : ArgsP}
    (hp : pos ≤ p) (hch : Chain (pre.flatMap Arg.nodes) pos p) (hok : AllOk env.s cs (pre.flatMap Arg.nodes)) :
    RawSat false (Post env.s cs (.arguments a) pos) (legacyVerbEnvFinish env name f pos pre p) := by
  apply legacyVerbEnvFinish_elim
  · intro _; trivial
  · intro e he
    obtain ⟨h1, h2⟩ := findStrFrom_spec _ _ _ _ he
    refine ⟨by omega, h2, _, _, _, rfl, ?_, ?_⟩
    · rw [List.flatMap_append]
      exact hch.append (Chain.single (Nat.le_refl _) h1 (Nat.le_refl _))
    · rw [List.flatMap_append]
      exact allOk_append.mpr ⟨hok, allOk_chars _ _ _ h1 h2⟩

theorem rawLegacyVerbEnv_post (ih : ∀ t, Good env.s cs t (rec t)) {name : Str} {optArg : Bool}
    {f : PSFields} {pos : Nat} {a : ArgsP} (hf : FOk cs f) (hpos : pos ≤ env.s.length) :
    RawSat false (Post env.s cs (.arguments a) pos) (rawLegacyVerbEnv env rec name optArg f pos) := by
  have hnil : ∀ l : List Arg, l.flatMap Arg.nodes = [] → RawSat false (Post env.s cs (.arguments a) pos)
      (legacyVerbEnvFinish env name f pos l pos) := by
    intro l hl
    exact legacyFinish_post (Nat.le_refl _) (by rw [hl]; exact Chain.nil (Nat.le_refl _)) (by rw [hl]; exact allOk_nil _ _)
  have := ih (.pc (.group (.pair ['['] [']']) true false) f pos) hf hpos trivial
  apply rawLegacyVerbEnv_elim
  · intro _; exact hnil _ rfl
  · intro _ _; exact hnil _ rfl
  · intro n p _ hr
    rw [hr] at this
    obtain ⟨h4, h5, h6⟩ := this
    rcases h6 with ⟨h6, _⟩ | ⟨n', h6, h7, _, h8, h9⟩
    · cases h6
    · cases h6
      have := h9.pos_le
      exact legacyFinish_post (by omega) (Chain.single h7 h9.pos_le (Nat.le_refl _)) h9
  · intro _ _ _ _ _; exact hnil _ rfl
  · intro _; exact rawPost_other

theorem argParser_ppre (cs : Str) (k : ArgKind) (pos : Nat) : PPre cs (argParser k) pos := by
  cases k <;> trivial

theorem argRes_of_group {s cs : Str} {d : GroupDelims} {o ap : Bool} {pos pos' : Nat} {res : Res} (hle : pos ≤ pos')
    (h : ResGood s cs (.group d o ap) pos pos' res) : ArgRes s cs pos pos' res := by
  rcases h with ⟨h1, _⟩ | ⟨n, h1, h2, _, h4, h5⟩
  · subst h1; exact ⟨Chain.nil hle, allOk_nil _ _⟩
  · subst h1
    exact ⟨Chain.single h2 h5.pos_le (by rw [h4]; exact Nat.le_refl _), h5⟩

theorem argRes_of_argParser {s cs : Str} (k : ArgKind) {pos pos' : Nat} {res : Res} (hle : pos ≤ pos')
    (h : ResGood s cs (argParser k) pos pos' res) : ArgRes s cs pos pos' res := by
  cases k with
  | o ap => exact argRes_of_group hle h
  | r o c => exact argRes_of_group hle h
  | d o c => exact argRes_of_group hle h
  | _ => exact h

theorem argsLoop_post (ih : ∀ t, Good env.s cs t (rec t)) {f : PSFields} (hf : FOk cs f)
    (a : ArgsP) (pos0 : Nat) :
    ∀ (l : List ArgSpec) (acc : List Arg) (pos : Nat), pos0 ≤ pos → pos ≤ env.s.length →
      Chain (acc.flatMap Arg.nodes) pos0 pos → AllOk env.s cs (acc.flatMap Arg.nodes) →
      Post env.s cs (.arguments a) pos0 (argsLoop env rec f l acc pos) := by
  intro l
  induction l with
  | nil =>
    intro acc pos h1 h2 h3 h4
    rw [argsLoop_nil]
    exact ⟨h1, h2, _, _, acc, rfl, h3, h4⟩
  | cons x rest ihl =>
    intro acc pos h1 h2 h3 h4
    have := ih (.pc (argParser x.kind) (applyDelta f x.delta) pos) (hf.applyDelta _) h2 (argParser_ppre _ _ _)
    apply argsLoop_cons_elim
    · intro _ _ _ _ _ _; trivial
    · intro res p hr
      rw [hr] at this
      obtain ⟨g1, g2, g3⟩ := this
      obtain ⟨g4, g5⟩ := argRes_of_argParser x.kind g1 g3
      refine ihl _ p (by omega) g2 ?_ ?_
      · rw [List.flatMap_append, List.flatMap_singleton]
        exact h3.append g4
      · rw [List.flatMap_append, List.flatMap_singleton]
        exact allOk_append.mpr ⟨h4, g5⟩
    · intro hne
      cases hr : rec (.pc (argParser x.kind) (applyDelta f x.delta) pos) with
      | ok res q => exact absurd hr (hne res q)
      | _ => trivial

theorem rawArguments_post (ih : ∀ t, Good env.s cs t (rec t)) {a : ArgsP}
    {f : PSFields} {pos : Nat} (hf : FOk cs f) (hpos : pos ≤ env.s.length) :
    RawSat false (Post env.s cs (.arguments a) pos) (rawArguments env rec a f pos) := by
  cases a with
  | std l =>
    exact rawSat_strict.mpr
      (argsLoop_post ih hf _ pos l [] pos (Nat.le_refl _) hpos (Chain.nil (Nat.le_refl _)) (allOk_nil _ _))
  | legacyVerb => exact rawLegacyVerb_post
  | legacyVerbEnv name optArg => exact rawLegacyVerbEnv_post ih hf hpos
  | unknown => trivial

end parsers

section single
variable {env : Env} {cs : Str} {rec : Task → Ret}

theorem ExprPost.weaken {s cs : Str} {pos pos1 : Nat} {r : Ret} (hle : pos ≤ pos1) (h : ExprPost s cs pos1 r) :
    ExprPost s cs pos r := by
  cases r with
  | ok res p =>
    obtain ⟨h1, h2, h3, h4⟩ := h
    exact ⟨by omega, h2, h3.weaken hle (Nat.le_refl _), h4⟩
  | _ => trivial

theorem exprLeaf_post {s cs : Str} {pos : Nat} {t : Token} (ht : TokInfo s cs pos t) (f : PSFields) (sk : List Node)
    (x : Node) (hp : x.pos = t.pos) (he : x.posEnd = t.posEnd) (hc : x.children = []) (htx : TextOk s cs x) :
    ExprPost s cs pos (exprFinish f (sk ++ [x]) t.posEnd) := by
  rw [exprFinish_snoc]
  have h1 := ht.pos_eq
  have h2 := ht.le
  have h3 := ht.in_range
  refine ⟨by omega, h3, ?_, ?_⟩
  · exact Chain.single (by rw [hp]; omega) (by rw [hp, he]; exact h2) (by rw [he]; exact Nat.le_refl _)
  · exact allOk_leaf hc (by rw [hp, he]; exact h2) (by rw [he]; exact h3) htx

theorem exprOnTok_post (htol : env.tol = false) (ih : ∀ t, Good env.s cs t (rec t)) {ap : Bool} {sk : List Node}
    {f : PSFields} {pos : Nat} {t : Token} (hf : FOk cs f) (ht : TokInfo env.s cs pos t) :
    ExprPost env.s cs pos (exprOnTok env rec ap sk f t) := by
  have h1 := ht.pos_eq
  have h2 := ht.le
  have h3 := ht.in_range
  apply exprOnTok_elim
  · intro _ _; exact ExprPost.weaken (by omega) (ih (.expr ap _ f t.posEnd) hf h3)
  · intro _ _ h; rw [htol] at h; cases h
  · intro _ _ _; trivial
  · intro n p _ hr
    have := ih (.pc (.group (.auto t.arg) false false) f t.pos) hf (by omega) trivial
    rw [hr] at this
    obtain ⟨g1, g2, g3⟩ := this
    rcases g3 with ⟨g3, _⟩ | ⟨n', g3, g4, _, g5, g6⟩
    · cases g3
    · cases g3
      rw [exprFinish_snoc]
      exact ⟨by omega, g2, Chain.single (by omega) g6.pos_le (by rw [g5]; exact Nat.le_refl _), g6⟩
  · intro _ hne
    cases hr : rec (.pc (.group (.auto t.arg) false false) f t.pos) with
    | ok res q => exact absurd hr (hne res q)
    | _ => trivial
  · intro _; trivial
  · intro hk
    have htx := ht.text
    unfold TokText at htx
    rw [hk] at htx
    exact exprLeaf_post ht f sk _ rfl rfl rfl htx
  · intro _; trivial
  · intro _ _; trivial

theorem exprTok_post (htol : env.tol = false) (ih : ∀ t, Good env.s cs t (rec t)) {ap : Bool} {sk : List Node}
    {f : PSFields} {pos : Nat} {t : Token} (hf : FOk cs f) (ht : TokInfo env.s cs pos t) :
    ExprPost env.s cs pos (exprTok env rec ap sk f t) := by
  have h1 := ht.pos_eq
  have h3 := ht.in_range
  apply exprTok_elim
  · intro _ _ h; rw [htol] at h; cases h
  · intro _ _ _; trivial
  · intro _ _; exact exprLeaf_post ht f sk _ rfl rfl rfl trivial
  · intro _; exact exprLeaf_post ht f sk _ rfl rfl rfl trivial
  · intro _ _ _ _; exact ExprPost.weaken (by omega) (ih (.expr ap _ f t.pos) hf (by have := ht.le; omega))
  · intro _ _ _ _ h; rw [htol] at h; cases h
  · intro _ _ _ _ _; trivial
  · intro _ _ _; exact exprOnTok_post htol ih hf ht

theorem exprStep_good (htol : env.tol = false) (ih : ∀ t, Good env.s cs t (rec t)) (ap : Bool) (sk : List Node)
    (f : PSFields) (pos : Nat) : Good env.s cs (.expr ap sk f pos) (exprStep env rec ap sk f pos) := by
  intro hf hpos
  apply exprStep_elim
  · intro _ _ _ _ _ _; trivial
  · intro h; rw [htol] at h; cases h
  · intro _; trivial
  · intro t hpk
    rw [htol] at hpk
    exact exprTok_post htol ih hf (tokInfo_of_peek hf.noEnvs hpk)

theorem argRes_none {s cs : Str} {pos pos' : Nat} (h : pos ≤ pos') : ArgRes s cs pos pos' .none :=
  ⟨Chain.nil h, allOk_nil _ _⟩

theorem rawMarker_post (htol : env.tol = false) {c : Char} {fl ap : Bool} {f : PSFields} {pos : Nat}
    (hf : FOk cs f) (hpos : pos ≤ env.s.length) :
    RawSat false (Post env.s cs (.marker c fl ap) pos) (rawMarker env c fl ap f pos) := by
  have hnone : Post env.s cs (.marker c fl ap) pos (.ok .none pos) :=
    ⟨Nat.le_refl _, hpos, argRes_none (Nat.le_refl _)⟩
  apply rawMarker_elim
  · intro _ _; exact hnone
  · intro _ _ _ _ _ _; trivial
  · intro t hpk _ hk harg
    rw [htol] at hpk
    have ht := tokInfo_of_peek hf hpk
    have h1 := ht.pos_eq
    have h2 := ht.le
    have h3 := ht.in_range
    have htx := ht.text
    unfold TokText at htx
    have hsl : [c] = slice env.s t.pos t.posEnd := by
      rcases hk with hk | hk
      · rw [hk] at htx
        rw [← harg]; exact htx
      · rw [hk] at htx
        rcases htx with htx | htx
        · rw [← harg]; exact htx
        · rw [harg] at htx; cases htx
    have hn : AllOk env.s cs [Node.chars t.pos t.posEnd (psInfo f) [c]] := allOk_chars' _ _ _ _ h2 h3 hsl
    have hch : Chain [Node.chars t.pos t.posEnd (psInfo f) [c]] pos t.posEnd :=
      Chain.single (by show pos ≤ t.pos; omega) h2 (Nat.le_refl _)
    refine ⟨by omega, h3, ?_⟩
    cases fl
    · exact ⟨hch, hn⟩
    · exact ⟨hch, hn⟩
  · intro _ _ _ _; exact hnone
  · intro _ _; exact hnone

theorem verbScan_spec (o c : Char) : ∀ (l : Str) (d i e : Nat), verbScan o c l d i = some e → i ≤ e ∧ e < i + l.length := by
  intro l
  induction l with
  | nil => intro d i e h; unfold verbScan at h; cases h
  | cons ch rest ih =>
    intro d i e h
    unfold verbScan at h
    simp only [List.length_cons]
    split at h
    · split at h
      · cases h; omega
      · have := ih _ _ _ h; omega
    · split at h
      · have := ih _ _ _ h; omega
      · have := ih _ _ _ h; omega

theorem rawVerbatim_post {delims : Option (Char × Char)} {f : PSFields} {pos : Nat} (hpos : pos ≤ env.s.length) :
    RawSat false (Post env.s cs (.verbatim delims) pos) (rawVerbatim env delims f pos) := by
  have hsp := spaceRun_length_le env.s pos
  apply rawVerbatim_elim
  · intro p hp _; exact ⟨by omega, by omega, argRes_none (by omega)⟩
  · intro _ _ _ _ _; trivial
  · intro p first o c e hp hfirst _ he
    have hlt := getElem?_lt _ _ _ hfirst
    obtain ⟨g1, g2⟩ := verbScan_spec _ _ _ _ _ _ he
    rw [List.length_drop] at g2
    have hcn : AllOk env.s cs [Node.chars (p + 1) e (psInfo f) (slice env.s (p + 1) e)] :=
      allOk_chars _ _ _ g1 (by omega)
    refine ⟨by omega, by omega, ?_, ?_⟩
    · exact Chain.single (by show pos ≤ p; omega) (by show p ≤ e + 1; omega) (Nat.le_refl _)
    · show AllOk _ _ [_]
      rw [allOk_single]
      refine ⟨⟨by show p ≤ e + 1; omega, by show e + 1 ≤ _; omega, ?_, trivial⟩, hcn⟩
      exact Chain.single (by show p ≤ p + 1; omega) g1 (by show e ≤ e + 1; omega)
  · intro _ _ _ _ _ _ _ _; trivial

end single

section main
variable {env : Env} {cs : Str}

theorem step_good (htol : env.tol = false) {rec : Task → Ret} (ih : ∀ t, Good env.s cs t (rec t)) :
    ∀ t, Good env.s cs t (step env rec t) := by
  intro t
  cases t with
  | loop f stop child st => exact loopStep_good htol ih f stop child st
  | expr ap sk f pos => exact exprStep_good htol ih ap sk f pos
  | pc p f pos =>
    intro hf hpos hpre
    show RawSat env.tol (Post env.s cs p pos) (rawParse env rec p f pos)
    rw [htol]
    cases p with
    | general stop require child => exact rawGeneral_post ih hf hpre hpos
    | group d o a => exact rawGroup_post htol ih hf hpos
    | math d => exact rawMath_post htol ih hf hpos
    | envBody n => exact rawEnvBody_post ih hf hpos
    | macroCall t a => exact rawCall_post ih (fun _ _ h => h) hf hpos hpre (fun e args => ⟨rfl, rfl, rfl, trivial⟩)
    | specialsCall t a => exact rawCall_post ih (fun _ _ h => h) hf hpos hpre (fun e args => ⟨rfl, rfl, rfl, trivial⟩)
    | envCall t a bm => exact rawEnvCall_post ih hf hpos hpre
    | arguments a => exact rawArguments_post ih hf hpos
    | expression ap => exact rawSat_strict.mpr (ih (.expr ap [] f pos) hf hpos)
    | marker c fl ap => exact rawMarker_post htol hf hpos
    | verbatim d => exact rawVerbatim_post hpos

theorem good_fuel (s cs : Str) : ∀ t, Good s cs t .fuel := by
  intro t
  cases t with
  | pc p f pos => intro _ _ _; trivial
  | loop f stop child st => intro _ _ _ _ _; trivial
  | expr ap sk f pos => intro _ _; trivial

theorem run_good (htol : env.tol = false) : ∀ n t, Good env.s cs t (run env n t) :=
  run_inv (good_fuel _ _) (fun _ => step_good htol)

end main

/-- **C01 (strict), strongest form.**  The only fact about the starting state that the proof uses is that its
    math delimiters are non-empty strings (`DelimsOk f`, i.e. the field `mathDelims` of `StartOk`). -/
theorem C01_strict_of_delims (ctx : Ctx) (s : Str) (f : PSFields) (hd : DelimsOk f) (n : Nat)
    (p e : Option Nat) (ns : List Node) (pos : Nat)
    (h : run { tol := false, ctx := ctx, s := s } n (topTask f) = .ok (.list p e ns) pos) :
    Tiles ns 0 s.length ∧ pos = s.length ∧ ∀ x ∈ subnodesList ns, NodeOk s f.commentStart x := by
  have := run_good (env := { tol := false, ctx := ctx, s := s }) (cs := f.commentStart) rfl n (topTask f)
    ⟨rfl, hd⟩ (Nat.zero_le _) trivial
  rw [h] at this
  obtain ⟨_, _, p', e', ns', r, h1, h2, h3, h4, h5⟩ := this
  cases h1
  obtain ⟨h6, h7⟩ := h5 rfl
  have h7 : pos = s.length := h7
  subst h6
  rw [h7] at h2
  exact ⟨h2, h7, h4⟩

/-- **C01 (strict).**  For every amount of fuel: if the strict parse of `s` succeeds, the top-level nodes tile
    the whole input, the reader ends at the end of the input, and every node of the tree is inside the input,
    has its children chained inside its span in document order, and (chars / comment nodes) carries exactly
    the source text at its position. -/
theorem C01_strict (ctx : Ctx) (s : Str) (f : PSFields) (hf : StartOk ctx f) (n : Nat)
    (p e : Option Nat) (ns : List Node) (pos : Nat)
    (h : run { tol := false, ctx := ctx, s := s } n (topTask f) = .ok (.list p e ns) pos) :
    Tiles ns 0 s.length ∧ pos = s.length ∧ ∀ x ∈ subnodesList ns, NodeOk s f.commentStart x :=
  C01_strict_of_delims ctx s f hf.mathDelims n p e ns pos h

/-- **C01 (verbatim).**  Concatenating the verbatim source of the top-level nodes reproduces the input. -/
theorem C01_verbatim (ctx : Ctx) (s : Str) (f : PSFields) (hf : StartOk ctx f) (n : Nat)
    (p e : Option Nat) (ns : List Node) (pos : Nat)
    (h : run { tol := false, ctx := ctx, s := s } n (topTask f) = .ok (.list p e ns) pos) :
    (ns.map (fun x => slice s x.pos x.posEnd)).flatten = s := by
  have := (C01_strict ctx s f hf n p e ns pos h).1
  rw [this.verbatim s, slice_zero_length]

/-- **C01 (top).**  The instance for `parseTop` (fuel `fuelFor s`). -/
theorem C01_top (ctx : Ctx) (s : Str) (f : PSFields) (hf : StartOk ctx f)
    (p e : Option Nat) (ns : List Node) (pos : Nat)
    (h : parseTop { tol := false, ctx := ctx, s := s } f = .ok (.list p e ns) pos) :
    Tiles ns 0 s.length ∧ pos = s.length ∧ (∀ x ∈ subnodesList ns, NodeOk s f.commentStart x) ∧
    (ns.map (fun x => slice s x.pos x.posEnd)).flatten = s :=
  have h' : run { tol := false, ctx := ctx, s := s } (fuelFor s) (topTask f) = .ok (.list p e ns) pos := h
  ⟨(C01_strict ctx s f hf _ p e ns pos h').1, (C01_strict ctx s f hf _ p e ns pos h').2.1,
   (C01_strict ctx s f hf _ p e ns pos h').2.2, C01_verbatim ctx s f hf _ p e ns pos h'⟩

/-- the results of sub-parses satisfy the same statement (every `parse_content` call of a strict run):
    the contract `Good` holds for every task and every amount of fuel -/
theorem C01_contract (ctx : Ctx) (s : Str) (cs : Str) (n : Nat) (t : Task) :
    Good s cs t (run { tol := false, ctx := ctx, s := s } n t) :=
  run_good (env := { tol := false, ctx := ctx, s := s }) rfl n t

/-- the walker's default state for the default context satisfies the hypothesis -/
example : StartOk Gen.defaultCtx { specials := Gen.defaultCtx.specials.map (·.1) } :=
  { hasCtx := rfl, specials := rfl, mathDelims := by decide, groupDelims := by decide,
    comment := by decide, normal := rfl }

def c01ExFields : PSFields := { specials := Gen.defaultCtx.specials.map (·.1) }
def c01ExInput : Str := "a \\textbf{b}%c\n$x$".toList

def isOkList (r : Ret) (k pos : Nat) : Bool :=
  match r with
  | .ok (.list _ _ ns) p => ns.length == k && p == pos
  | _ => false

theorem isOkList_spec {r : Ret} {k pos : Nat} (h : isOkList r k pos = true) :
    ∃ p e ns, r = .ok (.list p e ns) pos ∧ ns.length = k := by
  unfold isOkList at h
  split at h
  · rename_i p e ns q
    simp only [Bool.and_eq_true, beq_iff_eq] at h
    exact ⟨p, e, ns, by rw [h.2], h.1⟩
  · cases h

/-- a strict parse with the default context that succeeds with four top-level nodes (chars, macro with a group
    argument, comment, inline math): the hypotheses of `C01_top` are satisfiable on a non-trivial input -/
example : ∃ p e ns, parseTop { tol := false, ctx := Gen.defaultCtx, s := c01ExInput } c01ExFields
    = .ok (.list p e ns) 18 ∧ ns.length = 4 :=
  isOkList_spec (by decide)

/-- the same with explicit fuel (hypothesis of `C01_strict` / `C01_verbatim`); 12 units are enough here -/
example : ∃ p e ns, run { tol := false, ctx := Gen.defaultCtx, s := c01ExInput } 12 (topTask c01ExFields)
    = .ok (.list p e ns) 18 ∧ ns.length = 4 :=
  isOkList_spec (by decide)

end Pylx
