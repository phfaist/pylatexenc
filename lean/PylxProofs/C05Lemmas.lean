/-
  C05Lemmas — the contract (`Pre`, `Good5`) used to prove C05 and the invariants of the parsing-state fields.
-/
import PylxProofs.ParseSpec
import PylxProofs.C05Tok
import PylxProofs.StepLemmas
namespace Pylx

/-! ### small list facts -/

theorem lookupLast_some_of_any {β : Type} (k : Str) (l : List (Str × β))
    (h : l.any (fun d => d.1 == k) = true) : ∃ v, lookupLast k l = some v := by
  induction l with
  | nil => simp at h
  | cons a l ih =>
    obtain ⟨a1, a2⟩ := a
    unfold lookupLast
    cases hl : lookupLast k l with
    | some r => exact ⟨r, rfl⟩
    | none =>
      simp only [List.any_cons, Bool.or_eq_true] at h
      rcases h with h | h
      · refine ⟨a2, ?_⟩
        have h' : (a1 == k) = true := h
        simp only [h', if_true]
      · obtain ⟨v, hv⟩ := ih h
        rw [hl] at hv; cases hv

theorem lookupFirst_mem {β : Type} (k : Str) (l : List (Str × β)) (v : β) (h : lookupFirst k l = some v) :
    ∃ p ∈ l, p.2 = v := by
  induction l with
  | nil => cases h
  | cons a l ih =>
    obtain ⟨a1, a2⟩ := a
    unfold lookupFirst at h
    split at h
    · cases h; exact ⟨_, List.mem_cons_self, rfl⟩
    · obtain ⟨p, hp, hv⟩ := ih h
      exact ⟨p, List.mem_cons_of_mem _ hp, hv⟩

theorem lookupFirst_some_of_mem {β : Type} (k : Str) (l : List (Str × β)) (h : k ∈ l.map (·.1)) :
    ∃ v, lookupFirst k l = some v := by
  induction l with
  | nil => simp at h
  | cons a l ih =>
    obtain ⟨a1, a2⟩ := a
    unfold lookupFirst
    by_cases hk : (a1 == k) = true
    · exact ⟨a2, by simp only [hk, if_true]⟩
    · simp only [hk, if_false, Bool.false_eq_true]
      apply ih
      simp only [List.map_cons, List.mem_cons] at h
      rcases h with h | h
      · exfalso; apply hk; simp [h]
      · exact h

theorem findStrFromAux_le (t : Str) : ∀ (l : Str) (p e : Nat), findStrFromAux t l p = some e → e ≤ p + l.length := by
  intro l
  induction l with
  | nil =>
    intro p e h
    unfold findStrFromAux at h
    split at h
    · cases h; simp
    · cases h
  | cons c cs ih =>
    intro p e h
    unfold findStrFromAux at h
    split at h
    · cases h; simp
    · have := ih _ _ h
      simp only [List.length_cons]; omega

theorem findStrFrom_le (s t : Str) (p e : Nat) (h : findStrFrom s t p = some e) : e ≤ s.length := by
  unfold findStrFrom at h
  split at h
  · cases h
  · have := findStrFromAux_le t _ _ _ h
    simp only [List.length_drop] at this
    omega

theorem verbScan_lt (o c : Char) : ∀ (l : Str) (d i e : Nat), verbScan o c l d i = some e → e < i + l.length := by
  intro l
  induction l with
  | nil => intro d i e h; simp [verbScan] at h
  | cons ch rest ih =>
    intro d i e h
    unfold verbScan at h
    simp only [List.length_cons]
    split at h
    · split at h
      · cases h; omega
      · have := ih _ _ _ h; omega
    · split at h
      · have := ih _ _ _ h; omega
      · have := ih _ _ _ h; omega

/-! ### field invariants -/

/-- what every parsing state derived from the walker's initial one satisfies -/
structure FOk5 (env : Env) (f : PSFields) : Prop where
  hasCtx : f.hasCtx = true
  specials : f.specials = env.ctx.specials.map (·.1)
  delims : DelimsOk f
  /-- only needed for tolerant parsing: an escape character that opens a group cannot start `\begin{…}` -/
  esc : env.tol = true → f.enMacros = true ∨ f.enEnvs = false

theorem FOk5.upd {env : Env} {f : PSFields} (h : FOk5 env f) (b : Bool) (d : Option Str) (g : Pairs) :
    FOk5 env { f with inMath := b, mathDelim := d, groupDelims := g } :=
  ⟨h.hasCtx, h.specials, h.delims, h.esc⟩

theorem FOk5.normalize {env : Env} {f : PSFields} (h : FOk5 env f) : FOk5 env f.normalize := by
  unfold PSFields.normalize
  split
  · exact h
  · exact h.upd f.inMath none f.groupDelims

theorem FOk5.applyDelta {env : Env} {f : PSFields} (h : FOk5 env f) (d : Delta) : FOk5 env (applyDelta f d) := by
  cases d
  · exact h
  · exact (h.upd true none f.groupDelims).normalize
  · exact (h.upd false none f.groupDelims).normalize

theorem FOk5.mathFields {env : Env} {f : PSFields} (h : FOk5 env f) (d : Str) : FOk5 env (mathFields f d) :=
  (h.upd true (some d) f.groupDelims).normalize

theorem FOk5.tables {env : Env} {f : PSFields} (h : FOk5 env f) : TablesOk (mkPS f) :=
  tablesOk_of_fields f h.delims

theorem SameBut.refl (f : PSFields) : SameBut f f := rfl

theorem SameBut.inline {f g : PSFields} (h : SameBut f g) : g.inlineDelims = f.inlineDelims := by
  rw [h]
theorem SameBut.display {f g : PSFields} (h : SameBut f g) : g.displayDelims = f.displayDelims := by
  rw [h]

/-! ### tables of `mkPS` -/

theorem mkPS_specials (f : PSFields) : (mkPS f).f.specials = f.specials := by
  unfold mkPS PState.fresh PSFields.normalize
  split <;> rfl

def byOpenOf (f : PSFields) : List (Str × (Str × Bool)) :=
  f.inlineDelims.map (fun p => (p.1, (p.2, false))) ++ f.displayDelims.map (fun p => (p.1, (p.2, true)))

theorem mkPS_mathByOpen (f : PSFields) : (mkPS f).t.mathByOpen = byOpenOf f := by
  unfold mkPS PState.fresh PSFields.normalize
  split <;> rfl

theorem expectClose_mathFields (f : PSFields) (d : Str) :
    (mkPS (mathFields f d)).t.expectClose = lookupLast d (byOpenOf f) := by
  rfl

theorem byOpenOf_sameBut {f g : PSFields} (h : SameBut f g) : byOpenOf g = byOpenOf f := by
  unfold byOpenOf; rw [h.inline, h.display]

theorem ef_enEnvs (f : PSFields) : (mkPS ({ f with enEnvs := false } : PSFields).normalize).f.enEnvs = false := by
  cases h : f.inMath <;> simp [mkPS, PState.fresh, PSFields.normalize]

theorem ef_groupDelims (f : PSFields) : (({ f with enEnvs := false } : PSFields).normalize).groupDelims = f.groupDelims := by
  unfold PSFields.normalize
  split <;> rfl

/-! ### child parsing states -/

/-- the relation between a collector's state `f` and its `make_child_parsing_state` -/
def ChildOk5 (env : Env) (f : PSFields) : ChildPS → Prop
  | .same => True
  | .group o g outer =>
    g = f ∧ FOk5 env outer ∧ SameBut f outer ∧ f.groupDelims.any (fun d => d.1 == o) = true ∧
    (∀ a, (a == o) = false → f.groupDelims.any (fun d => d.1 == a) = true →
          outer.groupDelims.any (fun d => d.1 == a) = true)

theorem childGet_FOk {env : Env} {f : PSFields} {child : ChildPS} (hf : FOk5 env f) (hch : ChildOk5 env f child)
    (t : Token) : FOk5 env (child.get f t) := by
  cases child with
  | same => exact hf
  | group o g outer =>
    obtain ⟨hg, ho, _⟩ := hch
    unfold ChildPS.get
    dsimp only
    split
    · rw [hg]; exact hf
    · exact ho

theorem childGet_sameBut {env : Env} {f : PSFields} {child : ChildPS} (hch : ChildOk5 env f child)
    (t : Token) : SameBut f (child.get f t) := by
  cases child with
  | same => exact SameBut.refl f
  | group o g outer =>
    obtain ⟨hg, _, hsb, _⟩ := hch
    unfold ChildPS.get
    dsimp only
    split
    · rw [hg]; exact SameBut.refl f
    · exact hsb

theorem childGet_opener {env : Env} {f : PSFields} {child : ChildPS} (hch : ChildOk5 env f child)
    (t : Token) (hk : t.kind = .braceOpen) (hop : f.groupDelims.any (fun d => d.1 == t.arg) = true) :
    (child.get f t).groupDelims.any (fun d => d.1 == t.arg) = true := by
  cases child with
  | same => exact hop
  | group o g outer =>
    obtain ⟨hg, _, _, _, hother⟩ := hch
    unfold ChildPS.get
    dsimp only
    split
    · rw [hg]; exact hop
    · rename_i hne
      apply hother _ _ hop
      rw [hk] at hne
      have hb : (TokKind.braceOpen == TokKind.braceOpen) = true := by decide
      rw [hb, Bool.true_and] at hne
      simpa using hne

/-! ### the contract -/

def NodeIn (env : Env) (n : Node) : Prop := n.pos ≤ env.s.length ∧ n.posEnd ≤ env.s.length

def ResIn (env : Env) : Res → Prop
  | .node n => NodeIn env n
  | _ => True

def isNode : Res → Prop
  | .node _ => True
  | _ => False

def isNodeOrNone : Res → Prop
  | .node _ => True
  | .none => True
  | _ => False

def isList : Res → Prop
  | .list _ _ _ => True
  | _ => False

def GroupDelims.isAuto : GroupDelims → Bool
  | .auto _ => true
  | .pair _ _ => false

/-- the shape of what `parse_content(parser)` returns -/
def ResShape (p : Parser) (r : Res) : Prop :=
  match p with
  | .general _ _ _ => isList r
  | .group d opt _ => d.isAuto = true → opt = false → isNode r
  | .math _ => isNodeOrNone r
  | .macroCall _ _ => isNode r
  | .envCall _ _ _ => isNode r
  | .specialsCall _ _ => isNode r
  | _ => True

structure ErrOk (env : Env) (e : PErr) : Prop where
  pos : ∃ p, e.pos = some p ∧ p ≤ env.s.length
  rpos : e.rpos ≤ env.s.length
  recAt : ∀ t, e.recAt = some t → t.pos ≤ env.s.length
  recPast : ∀ t, e.recPast = some t → t.posEnd ≤ env.s.length
  recNodes : ResIn env e.recNodes

def GoodPc (env : Env) (p : Parser) : Ret → Prop
  | .ok r q => ResShape p r ∧ ResIn env r ∧ q ≤ env.s.length
  | .perr e => env.tol = false ∧ ErrOk env e
  | .loopEnd _ => False
  | .crash _ => False
  | .fuel => True

def GoodLoop (env : Env) : Ret → Prop
  | .loopEnd e =>
    e.pos ≤ env.s.length ∧ (∀ n ∈ e.nodes, n.pos ≤ env.s.length) ∧
    (∀ pe, e.err = some pe → ∃ p, pe.pos = some p ∧ p ≤ env.s.length) ∧
    (∀ t, e.stopTok = some t → t.posEnd ≤ env.s.length)
  | .fuel => True
  | _ => False

def GoodExpr (env : Env) : Ret → Prop
  | .ok r q => ResIn env r ∧ q ≤ env.s.length
  | .perr e => ErrOk env e
  | .fuel => True
  | _ => False

def Good5 (env : Env) : Task → Ret → Prop
  | .pc p _ _, r => GoodPc env p r
  | .loop _ _ _ _, r => GoodLoop env r
  | .expr _ _ _ _, r => GoodExpr env r

/-- preconditions of a `parse_content` call, per parser -/
def PPre5 (env : Env) (p : Parser) (f : PSFields) (pos : Nat) : Prop :=
  match p with
  | .general _ _ child => ChildOk5 env f child
  | .group d _ _ => ∀ o, d = .auto o →
      f.groupDelims.any (fun d => d.1 == o) = true ∧ NonSpaceAt env.s pos ∧
      (env.tol = true → ∃ t, peekImpl (mkPS f) env.s pos = .tok t ∧ t.kind = .braceOpen ∧ t.arg = o ∧ t.pre = [])
  | .math d =>
      (byOpenOf f).any (fun x => x.1 == d) = true ∧
      (env.tol = true → ∃ t, peekImpl (mkPS f) env.s pos = .tok t ∧
          (t.kind = .mathInline ∨ t.kind = .mathDisplay) ∧ t.arg = d ∧ t.pre = [])
  | .macroCall t a => a.Known ∧ t.pos ≤ env.s.length
  | .envCall t a _ => a.Known ∧ t.pos ≤ env.s.length
  | .specialsCall t a => a.Known ∧ t.pos ≤ env.s.length
  | .arguments a => a.Known
  | _ => True

structure StOk (env : Env) (st : LoopSt) : Prop where
  pos : st.pos ≤ env.s.length
  pend : ∀ p, st.pendPos = some p → p ≤ env.s.length
  acc : ∀ n ∈ st.acc, n.pos ≤ env.s.length

def Pre (env : Env) : Task → Prop
  | .pc p f pos => FOk5 env f ∧ pos ≤ env.s.length ∧ PPre5 env p f pos
  | .loop f _ child st => FOk5 env f ∧ ChildOk5 env f child ∧ StOk env st
  | .expr _ skipped f pos => FOk5 env f ∧ pos ≤ env.s.length ∧ (∀ n ∈ skipped, NodeIn env n)

def RecOk (env : Env) (rec : Task → Ret) : Prop := ∀ t, Pre env t → Good5 env t (rec t)

theorem RecOk.pc {env : Env} {rec : Task → Ret} (h : RecOk env rec) {p : Parser} {f : PSFields} {pos : Nat}
    (hf : FOk5 env f) (hpos : pos ≤ env.s.length) (hp : PPre5 env p f pos) : GoodPc env p (rec (.pc p f pos)) :=
  h (.pc p f pos) ⟨hf, hpos, hp⟩

theorem RecOk.loop {env : Env} {rec : Task → Ret} (h : RecOk env rec) {f : PSFields} {stop : StopTok}
    {child : ChildPS} {st : LoopSt}
    (hf : FOk5 env f) (hch : ChildOk5 env f child) (hst : StOk env st) : GoodLoop env (rec (.loop f stop child st)) :=
  h (.loop f stop child st) ⟨hf, hch, hst⟩

theorem RecOk.expr {env : Env} {rec : Task → Ret} (h : RecOk env rec) {ap : Bool} {sk : List Node} {f : PSFields}
    {pos : Nat} (hf : FOk5 env f) (hpos : pos ≤ env.s.length) (hsk : ∀ n ∈ sk, NodeIn env n) :
    GoodExpr env (rec (.expr ap sk f pos)) :=
  h (.expr ap sk f pos) ⟨hf, hpos, hsk⟩

/-- the result of a parser's own `parse()` -/
def RawGood (env : Env) (p : Parser) : Raw → Prop
  | .eos q => ResShape p .none ∧ q ≤ env.s.length
  | .ret r =>
    match r with
    | .ok res q => ResShape p res ∧ ResIn env res ∧ q ≤ env.s.length
    | .perr e => ErrOk env e ∧ (env.tol = true → ResShape p e.recNodes)
    | .fuel => True
    | _ => False

theorem RawGood.ofPc {env : Env} {p : Parser} {r : Ret} (h : GoodPc env p r) : RawGood env p (.ret r) := by
  cases r with
  | ok res q => exact h
  | perr e => exact ⟨h.2, fun ht => by rw [h.1] at ht; cases ht⟩
  | loopEnd e => exact h
  | crash k => exact h
  | fuel => trivial

theorem parseContent_good {env : Env} {p : Parser} {raw : Raw} (h : RawGood env p raw) :
    GoodPc env p (parseContent env.tol raw) := by
  cases raw with
  | eos q => exact ⟨h.1, trivial, h.2⟩
  | ret r =>
    cases r with
    | ok res q => exact h
    | perr e =>
      obtain ⟨he, hs⟩ := h
      unfold parseContent
      cases ht : env.tol with
      | false => exact ⟨ht, he⟩
      | true =>
        refine ⟨hs ht, he.recNodes, ?_⟩
        cases hra : e.recAt with
        | some t =>
          have := he.recAt t hra
          simp only [moveToToken, if_true]; omega
        | none =>
          cases hrp : e.recPast with
          | some t => have := he.recPast t hrp; simp only [movePastToken, if_true]; omega
          | none => exact he.rpos
    | loopEnd e => exact h
    | crash k => exact h
    | fuel => trivial

/-- non-`ok` results of a sub-parse propagate unchanged -/
theorem GoodPc.transfer {env : Env} {p q : Parser} {r : Ret} (h : GoodPc env q r)
    (hne : ∀ res pos, r ≠ .ok res pos) : GoodPc env p r := by
  cases r with
  | ok res pos => exact absurd rfl (hne res pos)
  | perr e => exact h
  | loopEnd e => exact h
  | crash k => exact h
  | fuel => trivial

/-- a sub-parse that did not succeed is handed on as it is -/
theorem RawGood.other {env : Env} {p q : Parser} {r : Ret} (h : GoodPc env q r) (hne : ∀ res pos, r ≠ .ok res pos) :
    RawGood env p (.ret r) :=
  .ofPc (h.transfer hne)

theorem bindOk_good {env : Env} {p q : Parser} {r : Ret} (hr : GoodPc env q r) {k : Res → Nat → Raw}
    (hk : ∀ res pos, ResShape q res → ResIn env res → pos ≤ env.s.length → RawGood env p (k res pos)) :
    RawGood env p (bindOk r k) := by
  apply bindOk_elim
  · intro res pos e
    rw [e] at hr
    exact hk res pos hr.1 hr.2.1 hr.2.2
  · exact .other hr

/-! ### token errors and token positions -/

theorem peekTok_err_le {tol : Bool} {ps : PState} (hok : TablesOk ps) {s : Str} {pos : Nat} {w : TokErr} {ep : Nat}
    {t : Token} {r : Nat} (h : peekTok tol ps s pos = .err w ep t r) : ep ≤ s.length := by
  have hr := peekImpl_ok ps hok s pos
  unfold peekTok at h
  split at h
  · rename_i w' ep' t' r' heq
    rw [heq] at hr
    split at h
    · cases h
    · cases h
      obtain ⟨hs, _, h1, h2⟩ := hr
      have := hs.in_range
      omega
  · rename_i hne
    exact absurd h (hne w ep t r)

/-- where a token sits -/
structure TokLoc (env : Env) (t : Token) : Prop where
  pos_le : t.pos ≤ t.posEnd
  end_le : t.posEnd ≤ env.s.length

theorem TokLoc.ofSpan {env : Env} {p0 : Nat} {t : Token} (h : TokSpan env.s p0 t) : TokLoc env t :=
  ⟨Nat.le_of_lt h.nonempty, h.in_range⟩

theorem TokLoc.pos_len {env : Env} {t : Token} (h : TokLoc env t) : t.pos ≤ env.s.length :=
  Nat.le_trans h.pos_le h.end_le

end Pylx
