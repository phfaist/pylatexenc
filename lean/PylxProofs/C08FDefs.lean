/-
  C08, all strings — definitions.

  * `exactC`: the exact tree (`xW` of `PylxProofs/C08FTree.lean`, merged) a document of the encoder-output grammar is
    written with; `badChars`: the characters its plain characters must avoid (`safeI`).
  * the chunk check `chunkChk` evaluated by the kernel for every alphabet character (files `C08FChk*`).
-/
import PylxProofs.C13Full
import PylxProofs.C03SRender
import PylxProofs.C08Defs
namespace Pylx.C08.Full
open Pylx Pylx.EncB Pylx.L2T Pylx.L2T.C03S Pylx.C13.Full

/-- **the exact tree a document of the encoder-output grammar is written with** -/
def exactC (d : List CItem) : List XNode := mergeX (xW [] d)

/-- the characters the longer specials strings of the default context are made of (`- ' \``), the newline of the
    paragraph break excepted -/
def badChars : Str := ['-', '\'', '`']

/-! ### top-level form of a chunk -/

def isWsItemC : CItem → Bool
  | .ch c => isPySpace c
  | _ => false

/-- the first top-level item exists and is not a whitespace character -/
def startsSolid : List CItem → Bool
  | [] => false
  | it :: _ => !isWsItemC it

/-- the last top-level item exists and is not a whitespace character -/
def endsSolid : List CItem → Bool
  | [] => false
  | [it] => !isWsItemC it
  | _ :: it2 :: tl => endsSolid (it2 :: tl)

/-- neither the first nor the last top-level item is a whitespace character, and there is one -/
def solid (d : List CItem) : Bool := startsSolid d && endsSolid d

/-! ### the renderer on the exact tree -/

/-- the renderer's environment of the property: default databases, the NFC table of the alphabet -/
def xe (pol : SlsSpec) : XE := { opts := { sls := pol }, db := Gen.defaultTextDb, ctx := Gen.defaultCtx, lib := lib }

def stEmpty (st : St) : Bool := st.title.isNone && st.author.isNone && st.date.isNone

/-- rendering the nodes `ns` from a fresh converter state gives exactly `t` and leaves the state fresh -/
def rendersTo (pol : SlsSpec) (ns : List XNode) (t : Str) : Bool :=
  match renderXList (xe pol) (parseSls pol) none [] ns {} with
  | .ok (r, st) => r == t && stEmpty st
  | .crash _ => false

/-- `_is_bare_macro_node` does not raise on the last node -/
def bareOk (pol : SlsSpec) (ns : List XNode) : Bool :=
  match isBareX (xe pol) ns.getLast? with
  | .ok _ => true
  | .crash _ => false

/-- what the kernel checks for one protected chunk `u` of the character `c` -/
def docChk (c : Char) (u : Str) : Bool :=
  match chunkDoc u with
  | some d =>
    unI d == u && cwfI Gen.defaultCtx false none none d && safeI badChars d &&
    solid d &&
    policies.all (fun pol => rendersTo pol (xW [] d) [c] && bareOk pol (xW [] d))
  | none => false

/-- the document a chunk is classified as (`[]` if the classifier fails — the kernel check then fails too) -/
def docOf (pr : Prot) (c : Char) : List CItem := (chunkDoc (chunk pr c)).getD []

mutual
/-- equality of documents, decided -/
def beqI : List CItem → List CItem → Bool
  | [], [] => true
  | .ch a :: s, .ch b :: t => a == b && beqI s t
  | .grp a :: s, .grp b :: t => beqI a b && beqI s t
  | .mac n p a :: s, .mac m q b :: t => n == m && p == q && beqA a b && beqI s t
  | .math a :: s, .math b :: t => beqI a b && beqI s t
  | _, _ => false
def beqA : List CArg → List CArg → Bool
  | [], [] => true
  | .absent :: s, .absent :: t => beqA s t
  | .grp a :: s, .grp b :: t => beqI a b && beqA s t
  | .br a :: s, .br b :: t => beqI a b && beqA s t
  | .tok a :: s, .tok b :: t => a == b && beqA s t
  | .mtok a :: s, .mtok b :: t => a == b && beqA s t
  | _, _ => false
end

mutual
theorem beqI_eq : ∀ (a b : List CItem), beqI a b = true → a = b
  | [], b, h => by
    cases b with
    | nil => rfl
    | cons _ _ => simp [beqI] at h
  | .ch a :: s, b, h => by
    rcases b with _ | ⟨_ | _ | _ | _, t⟩ <;> simp only [beqI, Bool.and_eq_true, beq_iff_eq, Bool.false_eq_true] at h
    rw [h.1, beqI_eq s t h.2]
  | .grp a :: s, b, h => by
    rcases b with _ | ⟨_ | _ | _ | _, t⟩ <;> simp only [beqI, Bool.and_eq_true, Bool.false_eq_true] at h
    rw [beqI_eq a _ h.1, beqI_eq s t h.2]
  | .mac n p a :: s, b, h => by
    rcases b with _ | ⟨_ | _ | _ | _, t⟩ <;> simp only [beqI, Bool.and_eq_true, beq_iff_eq, Bool.false_eq_true] at h
    rw [h.1.1.1, h.1.1.2, beqA_eq a _ h.1.2, beqI_eq s t h.2]
  | .math a :: s, b, h => by
    rcases b with _ | ⟨_ | _ | _ | _, t⟩ <;> simp only [beqI, Bool.and_eq_true, Bool.false_eq_true] at h
    rw [beqI_eq a _ h.1, beqI_eq s t h.2]
theorem beqA_eq : ∀ (a b : List CArg), beqA a b = true → a = b
  | [], b, h => by
    cases b with
    | nil => rfl
    | cons _ _ => simp [beqA] at h
  | .absent :: s, b, h => by
    rcases b with _ | ⟨_ | _ | _ | _ | _, t⟩ <;> simp only [beqA, Bool.false_eq_true] at h
    rw [beqA_eq s t h]
  | .grp a :: s, b, h => by
    rcases b with _ | ⟨_ | _ | _ | _ | _, t⟩ <;> simp only [beqA, Bool.and_eq_true, Bool.false_eq_true] at h
    rw [beqI_eq a _ h.1, beqA_eq s t h.2]
  | .br a :: s, b, h => by
    rcases b with _ | ⟨_ | _ | _ | _ | _, t⟩ <;> simp only [beqA, Bool.and_eq_true, Bool.false_eq_true] at h
    rw [beqI_eq a _ h.1, beqA_eq s t h.2]
  | .tok a :: s, b, h => by
    rcases b with _ | ⟨_ | _ | _ | _ | _, t⟩ <;> simp only [beqA, Bool.and_eq_true, beq_iff_eq, Bool.false_eq_true] at h
    rw [h.1, beqA_eq s t h.2]
  | .mtok a :: s, b, h => by
    rcases b with _ | ⟨_ | _ | _ | _ | _, t⟩ <;> simp only [beqA, Bool.and_eq_true, beq_iff_eq, Bool.false_eq_true] at h
    rw [h.1, beqA_eq s t h.2]
end

/-- the wrapped form `{r}` of a chunk `r` that is checked itself: only the classifier runs again, and must answer with the
    document of `r` in a group -/
def wrapChk (r u : Str) : Bool :=
  match chunkDoc r, chunkDoc u with
  | some d, some [.grp d'] => beqI d' d
  | _, _ => false

/-- the check of one alphabet code point: each of its (at most three distinct) protected chunks passes `docChk` — the
    wrapped form `{r}` through `r` where `r` is a chunk too (`Good.wrap` in `C08F`); space and newline are handled in general -/
def chunkChk (k : Nat) : Bool :=
  k == 10 || k == 32 ||
  force (repl (Char.ofNat k)) fun o =>
    let us := (schemes.map (fun pr => chunkOf pr (Char.ofNat k) o)).eraseDups
    us.all fun u =>
      match o with
      | some r => if u == '{' :: r ++ ['}'] && us.contains r then wrapChk r u else docChk (Char.ofNat k) u
      | none => docChk (Char.ofNat k) u

def ChunksOk (ch : List Nat) : Bool := ch.all chunkChk

/-- every chunk of the code point passes `docChk`, or is the wrapped form of one that does -/
theorem chunkChk_spec {k : Nat} (h : chunkChk k = true) (h10 : k ≠ 10) (h32 : k ≠ 32) :
    ∀ pr ∈ schemes, docChk (Char.ofNat k) (chunk pr (Char.ofNat k)) = true ∨
      ∃ r, chunk pr (Char.ofNat k) = '{' :: r ++ ['}'] ∧ docChk (Char.ofNat k) r = true ∧
        wrapChk r (chunk pr (Char.ofNat k)) = true := by
  intro pr hpr
  unfold chunkChk at h
  have e1 : (k == 10) = false := by simpa using h10
  have e2 : (k == 32) = false := by simpa using h32
  rw [e1, e2, Bool.false_or, Bool.false_or, force_eq] at h
  have hall := List.all_eq_true.mp h
  have hmem : chunk pr (Char.ofNat k) ∈ (schemes.map (fun pr => chunkOf pr (Char.ofNat k) (repl (Char.ofNat k)))).eraseDups :=
    List.mem_eraseDups.mpr (List.mem_map.mpr ⟨pr, hpr, rfl⟩)
  have hu := hall _ hmem
  cases ho : repl (Char.ofNat k) with
  | none => rw [ho] at hu; exact Or.inl hu
  | some r =>
    rw [ho] at hu hall
    dsimp only at hu
    split at hu
    · rename_i hc
      rw [Bool.and_eq_true, beq_iff_eq, List.contains_iff_mem] at hc
      have hr := hall r hc.2
      dsimp only at hr
      have hne : (r == '{' :: r ++ ['}']) = false := by
        rw [beq_eq_false_iff_ne]
        intro h
        have := congrArg List.length h
        simp at this; omega
      rw [hne, Bool.false_and, if_neg (by decide)] at hr
      exact Or.inr ⟨r, hc.1, hr, hu⟩
    · exact Or.inl hu

end Pylx.C08.Full
