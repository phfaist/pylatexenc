/-
  C01TTok — what the *tolerant* reader guarantees about the tokens the parser proofs of C01 (tolerant clause)
  use: spans (from C11) and, for `char` tokens and recovery placeholders, the length of the carried text.
-/
import PylxProofs.C01
import PylxProofs.C05Tok
namespace Pylx

/-- a recovery placeholder is a `char` token whose text fits in its span; the only placeholder with an empty
    text (escape character at the very end) ends at the end of the input -/
def PhOkT (s : Str) (t : Token) : Prop :=
  t.kind = .char ∧ t.pos + t.arg.length ≤ t.posEnd ∧ (t.arg = [] → t.posEnd = s.length)

def ErrResT (s : Str) : PeekRes → Prop
  | .err _ _ t _ => PhOkT s t
  | _ => True

theorem peekAtChar_errT {ps : PState} {s : Str} {p : Nat} {pre : Str} {c : Char} (hc : s[p]? = some c) :
    ErrResT s (peekAtChar ps s p c pre) := by
  apply peekAtChar_leaves
  case envErr =>
    intro b _ _
    refine ⟨rfl, ?_, fun h => by cases h⟩
    show p + (ps.f.escapeChar :: envWordStr b).length ≤ p + (1 + envWordLen b)
    rw [List.length_cons, envWordStr_length]; omega
  case escEnd =>
    intro _ hnone
    have := getElem?_lt _ _ _ hc
    have := List.getElem?_eq_none_iff.mp hnone
    exact ⟨rfl, by simp, fun _ => by show p + 1 = s.length; omega⟩
  case bad => exact fun _ => ⟨rfl, by simp, fun h => by cases h⟩
  all_goals intros; trivial

theorem peekImpl_errT (ps : PState) (s : Str) (p0 : Nat) : ErrResT s (peekImpl ps s p0) :=
  peekImpl_cases rfl rfl (fun _ _ => by rw [peekPar_eq]; trivial) (fun _ _ => trivial)
    (fun _ hc _ _ => peekAtChar_errT hc)

/-- everything the tolerant parser proofs need about a token read with the reader at `p0` -/
structure TokInfoT (s : Str) (p0 : Nat) (t : Token) : Prop where
  pos_eq : t.pos = p0 + t.pre.length
  le : t.pos ≤ t.posEnd
  adv : p0 < t.posEnd
  in_range : t.posEnd ≤ s.length
  charLen : t.kind = .char → t.pos + t.arg.length ≤ t.posEnd
  charEmpty : t.kind = .char → t.arg = [] → t.posEnd = s.length

theorem tokInfoT_of_peek {s cs : Str} {f : PSFields} (hf : FOk cs f) {p : Nat} {t : Token}
    (h : peekTok true (mkPS f) s p = .tok t) : TokInfoT s p t := by
  have hs := C11_tolerant_span (mkPS f) (tablesOk_of_fields f hf.delims) s p t h
  have hpe := hs.pos_eq
  have hne := hs.nonempty
  have hin := hs.in_range
  have hchar : (t.kind = .char → t.pos + t.arg.length ≤ t.posEnd) ∧ (t.kind = .char → t.arg = [] → t.posEnd = s.length) := by
    have he := peekImpl_errT (mkPS f) s p
    have ht := peekImpl_text (mkPS f) s p
    unfold peekTok at h
    split at h
    · rename_i w ep t' r heq
      rw [heq] at he
      simp only [if_true] at h
      cases h
      exact ⟨fun _ => he.2.1, fun _ => he.2.2⟩
    · rw [h] at ht
      have hlen : t.kind = .char → t.arg.length = t.posEnd - t.pos := by
        intro hk
        have ht : TokText s _ t := ht
        unfold TokText at ht
        rw [hk] at ht
        dsimp only at ht
        rw [ht]
        exact slice_length s _ _ (by omega) hin
      constructor
      · intro hk; have := hlen hk; omega
      · intro hk ha
        have := hlen hk
        rw [ha] at this
        simp at this
        omega
  exact { pos_eq := hpe, le := by omega, adv := by omega, in_range := hin,
          charLen := hchar.1, charEmpty := hchar.2 }

/-- at the end of the stream the final space is all that is left (tolerant reader) -/
theorem eos_of_peekT {s cs : Str} {f : PSFields} (hf : FOk cs f) {p : Nat} {fs : Str} (hp : p ≤ s.length)
    (h : peekTok true (mkPS f) s p = .eos fs) : fs = s.drop p := by
  have h' := peekTok_eos h
  have hr := peekImpl_ok (mkPS f) (tablesOk_of_fields f hf.delims) s p
  rw [h'] at hr
  rcases hr with hr | hr
  · exact hr
  · omega

end Pylx
