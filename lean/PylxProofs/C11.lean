/-
  C11 — the tokenizer is lossless, always advances, and peeking has no effect.
  Theorems about `Pylx.peekImpl` / `Pylx.peekTok` (model of LatexTokenReader).
-/
import PylxProofs.TokLemmas
namespace Pylx

/-- What the real code assumes of a parsing state's tables: math delimiters are non-empty strings. -/
def TablesOk (ps : PState) : Prop :=
  (∀ d ∈ ps.t.mathAll, d.1 ≠ []) ∧ (∀ c d, ps.t.expectClose = some (c, d) → c ≠ [])

/-- A token read with the reader at `p0` sits exactly where the source says. -/
structure TokSpan (s : Str) (p0 : Nat) (t : Token) : Prop where
  pos_eq : t.pos = p0 + t.pre.length
  pre_eq : slice s p0 t.pos = t.pre
  nonempty : t.pos < t.posEnd
  in_range : t.posEnd ≤ s.length
  post_le : t.post.length ≤ t.posEnd - t.pos
  post_eq : slice s (t.posEnd - t.post.length) t.posEnd = t.post

/-- the situation after the leading whitespace has been skipped -/
structure AtChar (s : Str) (p0 : Nat) (pre : Str) (p : Nat) (c : Char) : Prop where
  hpre : pre = spaceRun s p0
  hp : p = p0 + pre.length
  hc : s[p]? = some c

namespace AtChar
variable {s : Str} {p0 p : Nat} {pre : Str} {c : Char}

theorem lt (h : AtChar s p0 pre p c) : p < s.length := getElem?_lt _ _ _ h.hc

theorem pre_slice (h : AtChar s p0 pre p c) : slice s p0 p = pre := by
  rw [h.hp, h.hpre]; exact slice_of_prefix _ _ _ (spaceRun_prefix s p0)

/-- a token that starts at `p`, carries `pre`, has no post-space and ends at `e` -/
theorem simpleTok (h : AtChar s p0 pre p c) (k : TokKind) (a : Str) (e : Nat) (h1 : p < e) (h2 : e ≤ s.length) :
    TokSpan s p0 { kind := k, arg := a, pos := p, posEnd := e, pre := pre } :=
  { pos_eq := h.hp, pre_eq := h.pre_slice, nonempty := h1, in_range := h2,
    post_le := by simp, post_eq := by simp [slice] }

/-- a token that starts at `p`, carries `pre`, and ends with the post-space found at `e` -/
theorem postTok (h : AtChar s p0 pre p c) (k : TokKind) (a : Str) (e : Nat) (h1 : p < e) (h2 : e ≤ s.length) :
    TokSpan s p0 { kind := k, arg := a, pos := p, posEnd := e + (postSpaceAt s e).length, pre := pre,
                   post := postSpaceAt s e } := by
  have hpp := postSpaceAt_prefix s e
  have hpl := prefix_length_le _ _ _ hpp
  exact { pos_eq := h.hp, pre_eq := h.pre_slice,
          nonempty := by show p < e + _; omega,
          in_range := by show e + _ ≤ _; omega,
          post_le := by show (postSpaceAt s e).length ≤ e + (postSpaceAt s e).length - p; omega,
          post_eq := by
            show slice s (e + (postSpaceAt s e).length - (postSpaceAt s e).length) (e + (postSpaceAt s e).length) = _
            rw [Nat.add_sub_cancel]; exact slice_of_prefix _ _ _ hpp }
end AtChar

/-! ### the pieces -/

theorem firstNl_le (l : Str) : firstNl l ≤ l.length := List.findIdx_le_length

theorem lastNlEnd_le (l : Str) : lastNlEnd l ≤ l.length := by
  induction l with
  | nil => simp [lastNlEnd]
  | cons c l ih =>
    unfold lastNlEnd
    split
    · simp; omega
    · split <;> simp

theorem lastNlEnd_pos (l : Str) (h : '\n' ∈ l) : firstNl l < lastNlEnd l := by
  induction l with
  | nil => cases h
  | cons c l ih =>
    unfold lastNlEnd firstNl
    rw [List.findIdx_cons]
    by_cases hm : '\n' ∈ l
    · have := ih hm
      have hpos : lastNlEnd l > 0 := by omega
      rw [if_pos hpos]
      unfold firstNl at this
      cases (c == '\n') <;> simp <;> omega
    · have hc : c = '\n' := by
        rcases List.mem_cons.mp h with h | h
        · exact h.symm
        · exact absurd h hm
      subst hc
      simp
      split <;> omega

theorem findCharFrom_spec (s : Str) (c : Char) (p i : Nat) (h : findCharFrom s c p = some i) :
    p ≤ i ∧ i < s.length := by
  unfold findCharFrom at h
  split at h
  · rename_i j hj
    cases h
    have := (List.findIdx?_eq_some_iff_getElem.mp hj).1
    simp at this
    omega
  · cases h

theorem testSpecials_spec (keys : List Str) (s : Str) (p : Nat) (k : Str) (h : testSpecials keys s p = some k) :
    k ≠ [] ∧ startsWithAt s k p = true :=
  (testSpecials_some h).2

/-! ### every reader returns a well-placed token -/

/-- outcome-level statement: tokens and recovery placeholders are well placed; end of stream reports all
    remaining input as final space -/
def ResOk (s : Str) (p0 : Nat) : PeekRes → Prop
  | .tok t => TokSpan s p0 t
  | .err _ ep t r => TokSpan s p0 t ∧ r = t.posEnd ∧ t.pos ≤ ep ∧ ep ≤ t.posEnd
  | .eos f => f = s.drop p0 ∨ s.length < p0

section readers
variable {ps : PState} {s : Str} {p0 p : Nat} {pre : Str} {c : Char}

theorem readEnvName_spec (s : Str) (q : Nat) (name : Str) (e : Nat) (h : readEnvName s q = some (name, e)) :
    q < e ∧ e ≤ s.length := by
  unfold readEnvName at h
  dsimp only at h
  split at h
  · split at h
    · cases h
    · split at h
      · rename_i hb
        have := getElem?_lt _ _ _ hb
        cases h
        omega
      · cases h
  · cases h

theorem envWordAt_spec {b : Bool} (h : envWordAt ps s p = some b) : startsWithAt s (envWordStr b) (p+1) = true :=
  (envWordAt_some h).2.1

theorem peekAtChar_ok (hok : TablesOk ps) (h : AtChar s p0 pre p c) : ResOk s p0 (peekAtChar ps s p c pre) := by
  have hlt := h.lt
  have hnext : ∀ {c1}, s[p+1]? = some c1 → p + 1 < s.length := fun h1 => getElem?_lt _ _ _ h1
  apply peekAtChar_leaves
  case math =>
    intro t _ ht
    obtain ⟨d, disp, rfl, hsw, hsrc⟩ := readMath_eq_some.mp ht
    have hne : d ≠ [] := by
      rcases hsrc with ⟨_, hec⟩ | ⟨_, hf⟩
      · exact hok.2 d disp hec
      · exact hok.1 _ (List.mem_of_find?_eq_some hf)
    have := startsWithAt_le hsw hne
    have := List.length_pos_iff.mpr hne
    exact h.simpleTok _ _ _ (by omega) (by omega)
  case envErr =>
    intro b _ hb
    have := envWordAt_le hb
    exact ⟨h.simpleTok _ _ _ (by omega) (by omega), rfl, Nat.le_refl _, by show p ≤ p + (1 + envWordLen b); omega⟩
  case env =>
    intro b name e _ hb hrn
    have := envWordLen_pos b
    obtain ⟨h1, h2⟩ := readEnvName_spec _ _ _ _ hrn
    exact h.simpleTok _ _ _ (by omega) h2
  case escEnd =>
    intro _ hnone
    have hlen : s.length = p + 1 := by
      have := List.getElem?_eq_none_iff.mp hnone
      omega
    exact ⟨h.simpleTok _ _ _ (by omega) (by omega), hlen, by show p ≤ p + 1; omega, by show p + 1 ≤ p + 1; omega⟩
  case word =>
    intro c1 rest post _ h1 hrest hpost
    have := hnext h1
    have hr := prefix_length_le s rest (p+2) (by rw [hrest]; exact List.takeWhile_prefix _)
    rw [hpost]
    exact h.postTok _ _ _ (by omega) (by omega)
  case sym =>
    intro c1 _ h1
    have := hnext h1
    exact h.simpleTok _ _ _ (by omega) (by omega)
  case comEof =>
    intro _ _
    exact h.simpleTok _ _ _ hlt (Nat.le_refl _)
  case comNl =>
    intro n post _ hne hn hpost
    obtain ⟨h1, h2⟩ := findCharFrom_spec _ _ _ _ hn
    have := List.length_pos_iff.mpr hne
    rw [hpost]
    exact h.postTok _ _ _ (by omega) (by omega)
  case open_ => exact fun _ => h.simpleTok _ _ _ (by omega) (by omega)
  case close => exact fun _ => h.simpleTok _ _ _ (by omega) (by omega)
  case spec =>
    intro k hk
    obtain ⟨_, hne, hsw⟩ := testSpecials_some hk
    have := startsWithAt_le hsw hne
    have := List.length_pos_iff.mpr hne
    exact h.simpleTok _ _ _ (by omega) (by omega)
  case bad => exact fun _ => ⟨h.simpleTok _ _ _ (by omega) (by omega), rfl, Nat.le_refl _, by simp⟩
  case chr => exact fun _ => h.simpleTok _ _ _ (by omega) (by omega)

end readers

theorem peekPar_ok (ps : PState) (s : Str) (p0 : Nat) (hn : countNl (spaceRun s p0) ≥ 2) :
    ResOk s p0 (peekPar ps s p0 (spaceRun s p0)) := by
  have hpre := spaceRun_prefix s p0
  have hlen := spaceRun_length_le s p0
  generalize spaceRun s p0 = pre at *
  have hmem : '\n' ∈ pre := List.count_pos_iff.mp (by unfold countNl at hn; omega)
  have h1 := lastNlEnd_pos pre hmem
  have h2 := lastNlEnd_le pre
  have h3 := firstNl_le pre
  rw [peekPar_eq]
  exact { pos_eq := by simp [List.length_take]; omega,
          pre_eq := slice_of_prefix_take _ _ _ _ hpre h3,
          nonempty := by show p0 + _ < p0 + _; omega,
          in_range := by show p0 + _ ≤ _; omega,
          post_le := by simp, post_eq := by simp [slice] }

/-- Every outcome of `impl_peek_token` is well placed. -/
theorem peekImpl_ok (ps : PState) (hok : TablesOk ps) (s : Str) (p0 : Nat) : ResOk s p0 (peekImpl ps s p0) := by
  refine peekImpl_cases rfl rfl (fun _ hn => peekPar_ok ps s p0 hn) (fun hnone _ => ?_)
    (fun c hc _ _ => peekAtChar_ok hok ⟨rfl, rfl, hc⟩)
  rcases Nat.lt_or_ge s.length p0 with hlt | hge
  · right; exact hlt
  · left
    have hlen := spaceRun_length_le s p0
    have hge2 := List.getElem?_eq_none_iff.mp hnone
    have heq : (spaceRun s p0).length = (s.drop p0).length := by simp; omega
    exact (spaceRun_prefix s p0).eq_of_length heq

/-! ### the property theorems -/

theorem span_of_peekTok (tol : Bool) (ps : PState) (hok : TablesOk ps) (s : Str) (p : Nat) (t : Token)
    (h : peekTok tol ps s p = .tok t) : TokSpan s p t := by
  have hr := peekImpl_ok ps hok s p
  rcases peekTok_tok_iff.mp h with h | ⟨_, w, ep, r, h⟩ <;> rw [h] at hr
  · exact hr
  · exact hr.1

/-- **C11 (span).** A token returned by a read at `p` starts right after its leading whitespace, which is
    exactly the source text `s[p : t.pos]`; its span is non-empty and inside the input; its post-space is
    the tail of its span. For every parsing-state configuration with non-empty math delimiters. -/
theorem C11_span (ps : PState) (hok : TablesOk ps) (s : Str) (p : Nat) (t : Token)
    (h : peekImpl ps s p = .tok t) : TokSpan s p t := by
  have := peekImpl_ok ps hok s p
  rw [h] at this
  exact this

/-- **C11 (tolerant).** The same holds for what the tolerant reader returns instead of a token error
    (the recovery placeholder), whose end is the recovery position. -/
theorem C11_tolerant_span (ps : PState) (hok : TablesOk ps) (s : Str) (p : Nat) (t : Token)
    (h : peekTok true ps s p = .tok t) : TokSpan s p t :=
  span_of_peekTok true ps hok s p t h

/-- **C11 (progress).** A successful read (strict or tolerant) leaves the reader strictly further. -/
theorem C11_progress (tol : Bool) (ps : PState) (hok : TablesOk ps) (s : Str) (p : Nat) (t : Token)
    (h : peekTok tol ps s p = .tok t) : p < movePastToken t true ∧ movePastToken t true ≤ s.length := by
  have hs := span_of_peekTok tol ps hok s p t h
  have := hs.pos_eq
  have := hs.nonempty
  have := hs.in_range
  simp [movePastToken]; omega

/-- **C11 (rewind).** Going back to a token (with its leading whitespace) and reading again gives the same token;
    peeking is a function of the position only. -/
theorem C11_rewind (tol : Bool) (ps : PState) (hok : TablesOk ps) (s : Str) (p : Nat) (t : Token)
    (h : peekTok tol ps s p = .tok t) : peekTok tol ps s (moveToToken t true) = .tok t := by
  have hs := span_of_peekTok tol ps hok s p t h
  have : moveToToken t true = p := by simp [moveToToken, hs.pos_eq]
  rw [this]; exact h

/-- reading tokens one after another from `p` until the end of the stream (or a token error in strict mode) -/
inductive Reads (tol : Bool) (ps : PState) (s : Str) : Nat → List Token → Option Str → Prop where
  | eos (p : Nat) (fin : Str) : peekTok tol ps s p = .eos fin → Reads tol ps s p [] (some fin)
  | err (p : Nat) (w : TokErr) (ep : Nat) (t : Token) (r : Nat) : peekTok tol ps s p = .err w ep t r → Reads tol ps s p [] none
  | tok (p : Nat) (t : Token) (ts : List Token) (fin : Option Str) :
      peekTok tol ps s p = .tok t → Reads tol ps s (movePastToken t true) ts fin → Reads tol ps s p (t :: ts) fin

/-- what the tokens of a reading spell out -/
def spell (s : Str) (ts : List Token) : Str := ts.flatMap (fun t => t.pre ++ slice s t.pos t.posEnd)

/-- **C11 (lossless).** Leading whitespace plus source slice of each token, in order, followed by the final
    whitespace reported at the end of the stream, reproduce the input from the starting position; if reading
    stops at a token error (strict mode), they reproduce the input up to where reading stopped. -/
theorem C11_lossless (tol : Bool) (ps : PState) (hok : TablesOk ps) (s : Str) (p : Nat) (hp : p ≤ s.length)
    (ts : List Token) (fin : Option Str) (h : Reads tol ps s p ts fin) :
    (∀ f, fin = some f → spell s ts ++ f = s.drop p) ∧
    (fin = none → ∃ q, p ≤ q ∧ q ≤ s.length ∧ spell s ts = slice s p q) := by
  induction h with
  | eos p fin hpk =>
    have hr := peekImpl_ok ps hok s p
    rw [peekTok_eos_iff.mp hpk] at hr
    constructor
    · intro f hf; cases hf
      rcases hr with hr | hr
      · simp [spell, hr]
      · omega
    · intro hf; cases hf
  | err p w ep t r hpk =>
    constructor
    · intro f hf; cases hf
    · intro _; exact ⟨p, Nat.le_refl _, hp, by simp [spell, slice_self]⟩
  | tok p t ts fin hpk _ ih =>
    have hs := span_of_peekTok tol ps hok s p t hpk
    have hpe : movePastToken t true = t.posEnd := by simp [movePastToken]
    rw [hpe] at ih
    have ih := ih hs.in_range
    have hle1 : p ≤ t.pos := by have := hs.pos_eq; omega
    have hle2 : t.pos ≤ t.posEnd := Nat.le_of_lt hs.nonempty
    have hhead : t.pre ++ slice s t.pos t.posEnd = slice s p t.posEnd := by
      rw [← hs.pre_eq]; exact slice_slice_append s p t.pos t.posEnd hle1 hle2
    constructor
    · intro f hf
      have := ih.1 f hf
      simp only [spell, List.flatMap_cons] at this ⊢
      rw [List.append_assoc, this, hhead]
      rw [← slice_drop_end s t.posEnd, slice_slice_append s p t.posEnd s.length (by omega) hs.in_range, slice_drop_end]
    · intro hf
      obtain ⟨q, hq1, hq2, hq3⟩ := ih.2 hf
      refine ⟨q, by omega, hq2, ?_⟩
      simp only [spell, List.flatMap_cons] at hq3 ⊢
      rw [hq3, hhead]
      exact slice_slice_append s p t.posEnd q (by omega) hq1

/-- **C11 (bounded).** Tokenizing from `p` takes at most `len(s) - p` successful reads. -/
theorem C11_reads_bounded (tol : Bool) (ps : PState) (hok : TablesOk ps) (s : Str) (p : Nat)
    (ts : List Token) (fin : Option Str) (h : Reads tol ps s p ts fin) : p + ts.length ≤ max p s.length := by
  induction h with
  | eos p fin _ => simp only [List.length_nil, Nat.add_zero]; exact Nat.le_max_left _ _
  | err p w ep t r _ => simp only [List.length_nil, Nat.add_zero]; exact Nat.le_max_left _ _
  | tok p t ts fin hpk _ ih =>
    have hpr := C11_progress tol ps hok s p t hpk
    simp only [List.length_cons]
    omega

/-! ### `TablesOk` follows from the fields -/

/-- the configured math delimiters are non-empty strings -/
def DelimsOk (f : PSFields) : Prop := ∀ pr ∈ f.inlineDelims ++ f.displayDelims, pr.1 ≠ [] ∧ pr.2 ≠ []

theorem mem_insertDesc (x y : Str × Bool) (l : List (Str × Bool)) (h : y ∈ insertDesc x l) : y = x ∨ y ∈ l := by
  induction l with
  | nil => simp [insertDesc] at h; left; exact h
  | cons z l ih =>
    unfold insertDesc at h
    split at h
    · rcases List.mem_cons.mp h with h | h
      · right; rw [h]; exact List.mem_cons_self
      · rcases ih h with h | h
        · left; exact h
        · right; exact List.mem_cons_of_mem _ h
    · rcases List.mem_cons.mp h with h | h
      · left; exact h
      · right; exact h

theorem mem_sortDesc_aux (l acc : List (Str × Bool)) (y : Str × Bool)
    (h : y ∈ l.foldl (fun acc x => insertDesc x acc) acc) : y ∈ l ∨ y ∈ acc := by
  induction l generalizing acc with
  | nil => right; exact h
  | cons x l ih =>
    rw [List.foldl_cons] at h
    rcases ih _ h with h | h
    · left; exact List.mem_cons_of_mem _ h
    · rcases mem_insertDesc _ _ _ h with h | h
      · left; rw [h]; exact List.mem_cons_self
      · right; exact h

theorem mem_sortDesc (l : List (Str × Bool)) (y : Str × Bool) (h : y ∈ sortDesc l) : y ∈ l := by
  rcases mem_sortDesc_aux l [] y h with h | h
  · exact h
  · cases h

theorem mem_dedup (l : List Str) (x : Str) (h : x ∈ dedup l) : x ∈ l := by
  induction l with
  | nil => cases h
  | cons a l ih =>
    unfold dedup at h
    rcases List.mem_cons.mp h with h | h
    · rw [h]; exact List.mem_cons_self
    · exact List.mem_cons_of_mem _ (ih (List.mem_filter.mp h).1)

theorem mem_flattenPairs (l : Pairs) (x : Str) (h : x ∈ flattenPairs l) : ∃ pr ∈ l, x = pr.1 ∨ x = pr.2 := by
  unfold flattenPairs at h
  obtain ⟨pr, hpr, hx⟩ := List.mem_flatMap.mp h
  refine ⟨pr, hpr, ?_⟩
  simp at hx
  exact hx

theorem lookupLast_mem {β : Type} (k : Str) (l : List (Str × β)) (v : β) (h : lookupLast k l = some v) : (k, v) ∈ l := by
  induction l with
  | nil => cases h
  | cons a l ih =>
    obtain ⟨a1, a2⟩ := a
    unfold lookupLast at h
    cases hl : lookupLast k l with
    | some r =>
      rw [hl] at h
      cases h
      exact List.mem_cons_of_mem _ (ih hl)
    | none =>
      rw [hl] at h
      dsimp only at h
      split at h
      · rename_i heq
        cases h
        have : a1 = k := by simpa using heq
        rw [this]; exact List.mem_cons_self
      · cases h

/-- the expected closing delimiter is the second component of an entry of the table of opening delimiters -/
theorem expectCloseOf_mem {f : PSFields} {bo : List (Str × (Str × Bool))} {cd : Str × Bool}
    (h : expectCloseOf f bo = some cd) : ∃ o, (o, cd) ∈ bo := by
  unfold expectCloseOf at h
  split at h
  · cases h
  · split at h
    · cases h
    · rename_i d _
      exact ⟨d, lookupLast_mem _ _ _ h⟩

/-- **Every** freshly built parsing state whose configured math delimiters are non-empty strings has good tables. -/
theorem tablesOk_of_fields (f : PSFields) (hf : DelimsOk f) : TablesOk (mkPS f) := by
  have hn : DelimsOk f.normalize := by
    unfold PSFields.normalize
    split
    · exact hf
    · exact hf
  generalize hg : f.normalize = g at hn
  have hps : mkPS f = { f := g, t := computeTables g } := by simp [mkPS, PState.fresh, hg]
  rw [hps]
  constructor
  · intro d hd
    simp only [computeTables, mathTables] at hd
    have hd := mem_sortDesc _ _ hd
    rcases List.mem_append.mp hd with hd | hd
    · obtain ⟨x, hx, rfl⟩ := List.mem_map.mp hd
      obtain ⟨pr, hpr, hx⟩ := mem_flattenPairs _ _ (mem_dedup _ _ hx)
      have := hn pr (List.mem_append_left _ hpr)
      rcases hx with hx | hx <;> simp [hx, this]
    · obtain ⟨x, hx, rfl⟩ := List.mem_map.mp hd
      obtain ⟨pr, hpr, hx⟩ := mem_flattenPairs _ _ (mem_dedup _ _ hx)
      have := hn pr (List.mem_append_right _ hpr)
      rcases hx with hx | hx <;> simp [hx, this]
  · intro c d hcd
    obtain ⟨o, hm⟩ := expectCloseOf_mem (show expectCloseOf g (mathTables g).2.2 = some (c, d) from hcd)
    rcases List.mem_append.mp hm with hm | hm
    · obtain ⟨pr, hpr, he⟩ := List.mem_map.mp hm
      cases he
      exact (hn pr (List.mem_append_left _ hpr)).2
    · obtain ⟨pr, hpr, he⟩ := List.mem_map.mp hm
      cases he
      exact (hn pr (List.mem_append_right _ hpr)).2

theorem tablesOk_default : TablesOk (mkPS {}) := tablesOk_of_fields {} (by
  intro pr hpr
  have : pr ∈ [((['$'], ['$']) : Str × Str), (['\\', '('], ['\\', ')']), (['$', '$'], ['$', '$']), (['\\', '['], ['\\', ']'])] := hpr
  simp only [List.mem_cons, List.not_mem_nil, or_false] at this
  rcases this with h | h | h | h <;> subst h <;> simp)

/-- Non-vacuity: a reading of a concrete string under the default configuration. -/
example : peekImpl (mkPS {}) "  \\alpha  x".toList 0 =
    .tok { kind := .macro, arg := "alpha".toList, pos := 2, posEnd := 10, pre := "  ".toList, post := "  ".toList } := by
  rfl
example : peekImpl (mkPS { specials := [['\n','\n']] }) "a \n \n b".toList 1 =
    .tok { kind := .specials, arg := ['\n','\n'], pos := 2, posEnd := 5, pre := [' '] } := by rfl
example : peekTok true (mkPS {}) "\\begin x".toList 0 =
    .tok { kind := .char, arg := "\\begin".toList, pos := 0, posEnd := 6 } := by rfl

end Pylx
