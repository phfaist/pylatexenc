/-
  C01Tok — what the tokenizer guarantees about the *text* a token carries (`TokText`), and the
  packaged facts (`TokInfo`) the parser proofs of C01 use for every token read in strict mode.
-/
import PylxProofs.C01Lemmas
namespace Pylx

/-- the text carried by char / single-key specials / comment tokens is the source at the token's span -/
def TokText (s cs : Str) (t : Token) : Prop :=
  match t.kind with
  | .char => t.arg = slice s t.pos t.posEnd
  | .specials => t.arg = slice s t.pos t.posEnd ∨ t.arg.length = 2
  | .comment => cs ++ t.arg ++ t.post = slice s t.pos t.posEnd
  | _ => True

def TextRes (s cs : Str) : PeekRes → Prop
  | .tok t => TokText s cs t
  | _ => True

section readers
variable {ps : PState} {s : Str} {p : Nat} {pre : Str} {c : Char}

theorem comment_join (s cs : Str) (p e : Nat) (hsl : slice s p (p + cs.length) = cs) (h : p + cs.length ≤ e) :
    cs ++ slice s (p + cs.length) e = slice s p e := by
  have := slice_slice_append s p (p + cs.length) e (by omega) h
  rw [hsl] at this
  exact this

theorem peekAtChar_text (hc : s[p]? = some c) : TextRes s ps.f.commentStart (peekAtChar ps s p c pre) := by
  apply peekAtChar_leaves
  case math =>
    intro t _ ht
    obtain ⟨d, disp, rfl, _⟩ := readMath_eq_some.mp ht
    cases disp <;> trivial
  case env => intro b; cases b <;> (intros; trivial)
  case comEof =>
    intro hcs hne
    simp only [TextRes, TokText, List.append_nil]
    exact comment_join s _ p _ (startsWithAt_slice s _ p hcs) (startsWithAt_le hcs hne)
  case comNl =>
    intro n post hcs _ hn hpost
    obtain ⟨h1, h2⟩ := findCharFrom_spec _ _ _ _ hn
    have h3 : slice s n (n + post.length) = post := slice_of_prefix _ _ _ (hpost ▸ postSpaceAt_prefix s n)
    simp only [TextRes, TokText]
    rw [comment_join s _ p _ (startsWithAt_slice s _ p hcs) h1]
    conv => lhs; rw [← h3]
    exact slice_slice_append s _ _ _ (by omega) (by omega)
  case spec => exact fun k hk => Or.inl (startsWithAt_slice s k p (testSpecials_some hk).2.2).symm
  case chr => exact fun _ => (slice_one s p c hc).symm
  all_goals intros; trivial

end readers

theorem peekImpl_text (ps : PState) (s : Str) (p0 : Nat) : TextRes s ps.f.commentStart (peekImpl ps s p0) := by
  refine peekImpl_cases rfl rfl (fun _ _ => ?_) (fun _ _ => trivial) (fun c hc _ _ => peekAtChar_text hc)
  rw [peekPar_eq]
  cases parSpecials ps <;> simp [TextRes, TokText]

/-! ### packaged token facts -/

/-- the field facts every parsing state of a run shares -/
structure FOk (cs : Str) (f : PSFields) : Prop where
  cs_eq : f.commentStart = cs
  delims : DelimsOk f

/-- everything the parser proofs need about a token read with the reader at `p0` -/
structure TokInfo (s cs : Str) (p0 : Nat) (t : Token) : Prop where
  pos_eq : t.pos = p0 + t.pre.length
  pre_eq : t.pre = slice s p0 t.pos
  le : t.pos ≤ t.posEnd
  adv : p0 < t.posEnd
  in_range : t.posEnd ≤ s.length
  text : TokText s cs t

theorem mkPS_commentStart (f : PSFields) : (mkPS f).f.commentStart = f.commentStart := by
  rcases f with ⟨_ | _⟩ <;> rfl

theorem tokInfo_of_peek {s cs : Str} {f : PSFields} (hf : FOk cs f) {p : Nat} {t : Token}
    (h : peekTok false (mkPS f) s p = .tok t) : TokInfo s cs p t := by
  rw [peekTok_false] at h
  have hs := C11_span (mkPS f) (tablesOk_of_fields f hf.delims) s p t h
  have ht := peekImpl_text (mkPS f) s p
  rw [h, mkPS_commentStart, hf.cs_eq] at ht
  exact { pos_eq := hs.pos_eq, pre_eq := hs.pre_eq.symm, le := Nat.le_of_lt hs.nonempty,
          adv := by have := hs.pos_eq; have := hs.nonempty; omega,
          in_range := hs.in_range, text := ht }

/-- at the end of the stream the final space is all that is left -/
theorem eos_of_peek {s cs : Str} {f : PSFields} (hf : FOk cs f) {p : Nat} {fs : Str} (hp : p ≤ s.length)
    (h : peekTok false (mkPS f) s p = .eos fs) : fs = s.drop p := by
  rw [peekTok_false] at h
  have hr := peekImpl_ok (mkPS f) (tablesOk_of_fields f hf.delims) s p
  rw [h] at hr
  rcases hr with hr | hr
  · exact hr
  · omega

end Pylx
