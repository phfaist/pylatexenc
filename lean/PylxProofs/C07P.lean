/-
  C07P — the parser half of C07: every tree the parser model returns satisfies the argument-list invariant
  `ListOk` of `PylxProofs.C07`, hence `latexToText` is total (`C07_full`).

  Method: a contract over `step` (open recursion) lifted by induction on fuel, for both parsing modes and for
  an arbitrary pair (text database, walker context) satisfying the decidable predicate `ctxOkB`; the default
  pair satisfies it by kernel evaluation.
-/
import PylxProofs.C07
namespace Pylx.L2T.C07P

/-- argument types whose parser can only leave `None` or a single node in the argument slot (a `t<c>` marker
    leaves a node *list*; a required delimited argument `r<o><c>` leaves, in tolerant mode, the empty recovery
    node list when the opening delimiter is missing) -/
def kindSafe : ArgKind → Bool
  | .t _ => false
  | .r _ _ => false
  | _ => true

def isStd : ArgsP → Bool
  | .std _ => true
  | _ => false

def argsPSafe : ArgsP → Bool
  | .std l => l.all (fun a => kindSafe a.kind)
  | _ => true

/-- a walker specification is harmless for the renderer: only slot-safe argument types, and if its arguments
    parser can raise by itself (the legacy verbatim parsers) the replacement of that name tolerates
    `nodeargd is None` -/
def SpecOk (db : TextDb) (k : Kind) (name : Str) (a : ArgsP) : Prop :=
  argsPSafe a = true ∧ (isStd a = true ∨ noneSafe db k name = true)

def specOkB (db : TextDb) (k : Kind) (name : Str) (a : ArgsP) : Bool :=
  argsPSafe a && (isStd a || noneSafe db k name)

theorem specOk_of_B {db : TextDb} {k : Kind} {name : Str} {a : ArgsP} (h : specOkB db k name a = true) :
    SpecOk db k name a := by
  simp only [specOkB, Bool.and_eq_true, Bool.or_eq_true] at h
  exact h

structure CtxOk (db : TextDb) (ctx : Ctx) : Prop where
  mac : ∀ name a, ctx.macroSpec name = some a → SpecOk db .mac name a
  env : ∀ name ab, ctx.envSpec name = some ab → SpecOk db .env name ab.1
  sp : ∀ name a, lookupFirst name ctx.specials = some a → SpecOk db .specials name a
  /-- tolerant mode turns a `\begin` / `\end` token met by the expression parser into a macro node without
      `nodeargd` -/
  beginOk : noneSafe db .mac "begin".toList = true
  endOk : noneSafe db .mac "end".toList = true

def unkOkB (a : ArgsP) : Bool := argsPSafe a && isStd a

def ctxOkB (db : TextDb) (ctx : Ctx) : Bool :=
  ctx.macros.all (fun p => specOkB db .mac p.1 p.2) &&
  ctx.envs.all (fun p => specOkB db .env p.1 p.2.1) &&
  ctx.specials.all (fun p => specOkB db .specials p.1 p.2) &&
  (match ctx.unknownMacro with | some a => unkOkB a | none => true) &&
  (match ctx.unknownEnv with | some a => unkOkB a.1 | none => true) &&
  noneSafe db .mac "begin".toList && noneSafe db .mac "end".toList

theorem specOk_of_unk {db : TextDb} {k : Kind} {name : Str} {a : ArgsP} (h : unkOkB a = true) : SpecOk db k name a := by
  simp only [unkOkB, Bool.and_eq_true] at h
  exact ⟨h.1, Or.inl h.2⟩

theorem ctxOk_of_B {db : TextDb} {ctx : Ctx} (h : ctxOkB db ctx = true) : CtxOk db ctx := by
  simp only [ctxOkB, Bool.and_eq_true, List.all_eq_true] at h
  obtain ⟨⟨⟨⟨⟨⟨hm, he⟩, hs⟩, hum⟩, hue⟩, hb⟩, hen⟩ := h
  refine ⟨?_, ?_, ?_, hb, hen⟩
  · intro name a hl
    simp only [Ctx.macroSpec] at hl
    split at hl
    · cases hl
      exact specOk_of_B (hm _ (lookupFirst_mem' ‹_›))
    · rw [hl] at hum; exact specOk_of_unk hum
  · intro name ab hl
    simp only [Ctx.envSpec] at hl
    split at hl
    · cases hl
      exact specOk_of_B (he _ (lookupFirst_mem' ‹_›))
    · rw [hl] at hue; exact specOk_of_unk hue
  · intro name a hl
    exact specOk_of_B (hs _ (lookupFirst_mem' hl))

section
variable {db : TextDb} {ctx : Ctx}

theorem nodeOk_chars (p e : Nat) (ps : PSInfo) (c : Str) : NodeOk db ctx (.chars p e ps c) := trivial

theorem nodeOk_comment (p e : Nat) (ps : PSInfo) (c post : Str) : NodeOk db ctx (.comment p e ps c post) := trivial

theorem listOk_nil : ListOk db ctx [] := trivial

theorem listOk_append (a b : List Node) : ListOk db ctx (a ++ b) ↔ ListOk db ctx a ∧ ListOk db ctx b := by
  induction a with
  | nil => exact ⟨fun h => ⟨trivial, h⟩, fun h => h.2⟩
  | cons n ns ih => exact (and_congr_right fun _ => ih).trans and_assoc.symm

theorem listOk_snoc (a : List Node) (n : Node) (ha : ListOk db ctx a) (hn : NodeOk db ctx n) :
    ListOk db ctx (a ++ [n]) :=
  (listOk_append a [n]).mpr ⟨ha, hn, trivial⟩

theorem listOk_getLast (a : List Node) (n : Node) (ha : ListOk db ctx a) (h : a.getLast? = some n) :
    NodeOk db ctx n := by
  obtain ⟨ys, rfl⟩ := List.getLast?_eq_some_iff.mp h
  exact ((listOk_append ys [n]).mp ha).2.1

theorem argsOk_nil : ArgsOk db ctx [] := trivial

theorem argsOk_node {n : Node} (h : NodeOk db ctx n) : ArgsOk db ctx [.node n] := ⟨h, trivial⟩

theorem argsOk_append (a b : List Arg) : ArgsOk db ctx (a ++ b) ↔ ArgsOk db ctx a ∧ ArgsOk db ctx b := by
  induction a with
  | nil => exact ⟨fun h => ⟨trivial, h⟩, fun h => h.2⟩
  | cons n ns ih => exact (and_congr_right fun _ => ih).trans and_assoc.symm

theorem nodeOk_bareMac (p e : Nat) (ps : PSInfo) (name post : Str) :
    NodeOk db ctx (.mac p e ps name post (some [])) :=
  ⟨Or.inl rfl, trivial⟩

theorem nodeOk_bareSpecials (p e : Nat) (ps : PSInfo) (ch : Str) :
    NodeOk db ctx (.specials p e ps ch (some [])) :=
  ⟨Or.inl rfl, trivial⟩

theorem nodeOk_noArgMac (p e : Nat) (ps : PSInfo) (name post : Str) (h : noneSafe db .mac name = true) :
    NodeOk db ctx (.mac p e ps name post none) :=
  ⟨h, trivial⟩

end

section
variable (db : TextDb) (ctx : Ctx) (tol : Bool)

def ResOk7 : Res → Prop
  | .none => True
  | .node n => NodeOk db ctx n
  | .list _ _ ns => ListOk db ctx ns
  | .args _ _ l => ArgsOk db ctx l

/-- what may be put into an argument slot: `None` or one node -/
def SlotRes7 : Res → Prop
  | .none => True
  | .node n => NodeOk db ctx n
  | .list _ _ _ => False
  | .args _ _ _ => False

/-- result of the arguments parser `a`: an argument list with one slot per declared argument, or — only for
    arguments parsers that raise by themselves — a recovery value that leaves `nodeargd = None` -/
def ArgsRes7 (a : ArgsP) : Res → Prop
  | .args _ _ l => ArgsOk db ctx l ∧ (l = [] ∨ l.length = sigLen a)
  | .none => isStd a = false
  | .node _ => isStd a = false
  | .list _ _ _ => isStd a = false

def PRes7 : Parser → Res → Prop
  | .arguments a, res => ArgsRes7 db ctx a res
  | .group _ opt _, res => ResOk7 db ctx res ∧ (opt = true → SlotRes7 db ctx res)
  | .marker _ fl _, res => ResOk7 db ctx res ∧ (fl = false → SlotRes7 db ctx res)
  | .expression _, res => SlotRes7 db ctx res
  | .verbatim _, res => SlotRes7 db ctx res
  | .general .., res | .math .., res | .envBody .., res | .macroCall .., res
  | .envCall .., res | .specialsCall .., res => ResOk7 db ctx res

def ParserPre7 : Parser → Prop
  | .macroCall t a => ctx.macroSpec t.arg = some a
  | .envCall t a bm => ctx.envSpec t.arg = some (a, bm)
  | .specialsCall t a => lookupFirst t.arg ctx.specials = some a
  | .arguments a => argsPSafe a = true
  | _ => True

def LoopGood7 : Ret → Prop
  | .loopEnd e => ListOk db ctx e.nodes
  | _ => True

/-- the contract: a call parser started for a name the context knows, a collector or an expression parser started
    with nodes that satisfy the invariant, returns only what satisfies it -/
def Good7 : Task → Ret → Prop
  | .pc p _ _, r => ParserPre7 ctx p → PcContract tol (PRes7 db ctx p) r
  | .loop _ _ _ st, r => ListOk db ctx st.acc → LoopGood7 db ctx r
  | .expr _ skipped _ _, r => ListOk db ctx skipped → ExprContract tol (SlotRes7 db ctx) r

variable {db ctx tol}

theorem slotRes_resOk {res : Res} (h : SlotRes7 db ctx res) : ResOk7 db ctx res := by
  cases res with
  | none => trivial
  | node n => exact h
  | list _ _ _ => exact h.elim
  | args _ _ _ => exact h.elim

theorem slotRes_node {n : Node} (h : NodeOk db ctx n) : SlotRes7 db ctx (.node n) := h

theorem bodyOf_ok7 (res : Res) (h : ResOk7 db ctx res) : BodyOk db ctx (bodyOf res) := by
  cases res with
  | list _ _ ns => exact h
  | _ => trivial

theorem resToArg_ok7 (res : Res) (h : SlotRes7 db ctx res) : ArgOk db ctx (resToArg res) := by
  cases res with
  | none => trivial
  | node n => exact h
  | list _ _ _ => exact h.elim
  | args _ _ _ => exact h.elim

theorem slot_of_argParser (k : ArgKind) (hk : kindSafe k = true) (res : Res)
    (h : PRes7 db ctx (argParser k) res) : SlotRes7 db ctx res := by
  cases k with
  | m => exact h
  | o ap => exact h.2 rfl
  | s => exact h.2 rfl
  | t c => cases hk
  | r o c => cases hk
  | d o c => exact h.2 rfl
  | v => exact h
  | vd o c => exact h
  | m0 => exact h

theorem callArgs_ok7 {k : Kind} {name : Str} {a : ArgsP} (hs : SpecOk db k name a)
    (hw : walkerSpecC ctx k name = some a) {res : Res} (h : ArgsRes7 db ctx a res) :
    Shape db ctx k name (argsOf res) ∧ ArgsOOk db ctx (argsOf res) := by
  have hnone : isStd a = false → Shape db ctx k name none ∧ ArgsOOk db ctx none := by
    intro hf
    rcases hs.2 with h1 | h1
    · rw [hf] at h1; cases h1
    · exact ⟨h1, trivial⟩
  cases res with
  | none => exact hnone h
  | node n => exact hnone h
  | list _ _ _ => exact hnone h
  | args _ _ l =>
    refine ⟨?_, h.1⟩
    show l = [] ∨ l.length = wlen ctx k name
    rw [wlen, hw]
    exact h.2

theorem flush_acc7 (f : PSFields) (st : LoopSt) (h : ListOk db ctx st.acc) : ListOk db ctx (st.flush f).acc := by
  unfold LoopSt.flush
  split
  · exact h
  · exact listOk_snoc _ _ h (nodeOk_chars _ _ _ _)

theorem flushBefore_acc7 (f : PSFields) (st : LoopSt) (t : Token) (h : ListOk db ctx st.acc) :
    ListOk db ctx (st.flushBefore f t).acc := by
  unfold LoopSt.flushBefore
  split
  · exact flush_acc7 f _ h
  · split
    · exact listOk_snoc _ _ h (nodeOk_chars _ _ _ _)
    · exact h

theorem loopFinish_good7 {f : PSFields} {st : LoopSt} {stopTok : Option Token} {err : Option PErr}
    (h : ListOk db ctx st.acc) : LoopGood7 db ctx (loopFinish f st stopTok err) := by
  rw [loopFinish_eq]; exact flush_acc7 f st h

end

section
variable {db : TextDb} {env : Pylx.Env} {rec : Task → Ret}

theorem dispatchChild_pre7 {f : PSFields} {st : LoopSt} {t : Token} {P : Parser} {start : Nat} {b : Bool}
    (hd : DispatchChild env f st t P start b) :
    ParserPre7 env.ctx P ∧ ∀ res, PRes7 db env.ctx P res → ResOk7 db env.ctx res := by
  cases hd with
  | group _ => exact ⟨trivial, fun _ h => h.1⟩
  | mac _ hm => exact ⟨hm, fun _ h => h⟩
  | env _ hm => exact ⟨hm, fun _ h => h⟩
  | spec _ hm => exact ⟨hm, fun _ h => h⟩
  | math _ _ => exact ⟨trivial, fun _ h => h⟩

variable (ih : ∀ t, Good7 db env.ctx env.tol t (rec t))
include ih

theorem pc_ok7 {p : Parser} {f : PSFields} {pos : Nat} {res : Res} {q : Nat}
    (hr : rec (.pc p f pos) = .ok res q) (hp : ParserPre7 env.ctx p) : PRes7 db env.ctx p res := by
  have h := ih (.pc p f pos) hp
  rw [hr] at h
  exact h

theorem pc_pass7 {P p : Parser} {f : PSFields} {pos : Nat}
    (hne : ∀ res q, rec (.pc p f pos) ≠ .ok res q) (hp : ParserPre7 env.ctx p) :
    RawSat env.tol (PcContract env.tol (PRes7 db env.ctx P)) (.ret (rec (.pc p f pos))) :=
  pcContract_pass (ih (.pc p f pos) hp) hne

theorem loopDispatch_good7 {f : PSFields} {stop : StopTok} {child : ChildPS} {st : LoopSt} {t : Token}
    (hacc : ListOk db env.ctx st.acc) : LoopGood7 db env.ctx (loopDispatch env rec f stop child st t) := by
  apply loopDispatch_elim
  · intro _ _ _; exact loopFinish_good7 hacc
  · intro _; exact ih (.loop _ _ _ _) (listOk_snoc _ _ hacc (nodeOk_comment _ _ _ _ _))
  · intro _; exact ih (.loop _ _ _ _) hacc
  · intro P start b hd
    obtain ⟨hpre, hres⟩ := dispatchChild_pre7 (db := db) hd
    apply afterChild_elim
    · intro n p hr; exact ih (.loop _ _ _ _) (listOk_snoc _ _ hacc (hres _ (pc_ok7 ih hr hpre)))
    · intro p _ _; exact ih (.loop _ _ _ _) hacc
    · intro _ _; exact loopFinish_good7 hacc
    · intro _; trivial
    · intro _ _; trivial
  · intro _ _; trivial

theorem loopStep_good7 {f : PSFields} {stop : StopTok} {child : ChildPS} {st : LoopSt}
    (hacc : ListOk db env.ctx st.acc) : LoopGood7 db env.ctx (loopStep env rec f stop child st) := by
  apply loopStep_elim
  · intro _; exact loopFinish_good7 hacc
  · intro _ _ _ _ _ _; exact loopFinish_good7 hacc
  · intro _ _ _; exact loopFinish_good7 hacc
  · intro _ _ _ _; exact ih (.loop _ _ _ _) hacc
  · intro t _ _ _; exact loopDispatch_good7 ih (flushBefore_acc7 f st t hacc)

theorem rawGeneral_good7 (stop : StopTok) (require : Bool) (child : ChildPS) (f : PSFields) (pos : Nat) :
    RawSat env.tol (PcContract env.tol (PRes7 db env.ctx (.general stop require child))) (rawGeneral rec stop require child f pos) := by
  have h := ih (.loop f stop child { pos := pos }) listOk_nil
  apply rawGeneral_elim
  · intro e _ hr _; rw [hr] at h; exact pcContract_perr fun _ => h
  · intro e hr _ _ _ _; rw [hr] at h; exact pcContract_perr fun _ => h
  · intro e _ hr _ _; rw [hr] at h; exact h
  · intro e hr _ _ _; rw [hr] at h; exact h
  · intro _; trivial
  · intro _ _ _; trivial

theorem rawGroup_good7 (d : GroupDelims) (opt ap : Bool) (f : PSFields) (pos : Nat) :
    RawSat env.tol (PcContract env.tol (PRes7 db env.ctx (.group d opt ap))) (rawGroup env rec d opt ap f pos) := by
  have hnone : PRes7 db env.ctx (.group d opt ap) .none := ⟨trivial, fun _ => trivial⟩
  apply rawGroup_elim
  · intro _ _; trivial
  · intro _ _ _ _; exact hnone
  · intro _ _ _ _ _ _ _ htol; exact pcContract_strict htol
  · intro g t _ _
    apply rawGroupTok_elim
    · intro _ _ _; trivial
    · intro c res p _ _ hr
      have hn : NodeOk db env.ctx (Node.group t.pos p (psInfo g) d.opener c (bodyOf res)) :=
        bodyOf_ok7 _ (pc_ok7 ih hr trivial)
      exact ⟨hn, fun _ => hn⟩
    · intro _ _ _ hne; exact pc_pass7 ih hne trivial
    · intro _ _; exact hnone
    · intro _ hopt; exact pcContract_perr fun _ => ⟨(listOk_nil : ListOk db env.ctx []), fun h => nomatch hopt.symm.trans h⟩

theorem rawMath_good7 (delim : Str) (f : PSFields) (pos : Nat) :
    RawSat env.tol (PcContract env.tol (PRes7 db env.ctx (.math delim))) (rawMath env rec delim f pos) := by
  apply rawMath_elim
  · intro _ _; trivial
  · intro _ _ _ _ _ htol; exact pcContract_strict htol
  · intro t _
    apply rawMathTok_elim
    · intro _ _ _; trivial
    · intro _ res _ _ _ hr; exact bodyOf_ok7 res (pc_ok7 ih hr trivial)
    · intro _ _ _ hne; exact pc_pass7 ih hne trivial
    · intro _; exact pcContract_perr fun _ => (listOk_nil : ListOk db env.ctx [])

theorem rawEnvBody_good7 (name : Str) (f : PSFields) (pos : Nat) :
    RawSat env.tol (PcContract env.tol (PRes7 db env.ctx (.envBody name))) (rawEnvBody rec name f pos) := by
  apply rawEnvBody_elim
  · intro _ _; exact (listOk_nil : ListOk db env.ctx [])
  · intro _ _ hr _; exact pc_ok7 ih hr trivial
  · intro hne; exact pc_pass7 ih hne trivial

/-- macro and specials calls: `P` is the call parser, `k` and `name` are what the renderer looks the node up by -/
theorem rawCall_good7 {P : Parser} {k : Kind} {name : Str} {mk : Nat → Option (List Arg) → Node} {a : ArgsP}
    (f : PSFields) (pos : Nat) (hso : SpecOk db k name a) (hw : walkerSpecC env.ctx k name = some a)
    (hmk : ∀ e args, Shape db env.ctx k name args ∧ ArgsOOk db env.ctx args → PRes7 db env.ctx P (.node (mk e args))) :
    RawSat env.tol (PcContract env.tol (PRes7 db env.ctx P)) (rawCall rec mk a f pos) := by
  apply rawCall_elim
  · intro _ _ hr; exact hmk _ _ (callArgs_ok7 hso hw (pc_ok7 ih hr hso.1))
  · intro hne; exact pc_pass7 ih hne hso.1

theorem rawEnvCall_good7 (hC : CtxOk db env.ctx) (t : Token) (a : ArgsP) (bm : Bool) (f : PSFields) (pos : Nat)
    (hspec : env.ctx.envSpec t.arg = some (a, bm)) :
    RawSat env.tol (PcContract env.tol (PRes7 db env.ctx (.envCall t a bm))) (rawEnvCall rec t a bm f pos) := by
  have hso : SpecOk db .env t.arg a := hC.env _ _ hspec
  have hw : walkerSpecC env.ctx .env t.arg = some a := by rw [walkerSpecC, hspec]; rfl
  apply rawEnvCall_elim
  · intro _ _ _ _ hr hr2
    have hsa := callArgs_ok7 hso hw (pc_ok7 ih hr hso.1)
    exact ⟨hsa.1, hsa.2, bodyOf_ok7 _ (pc_ok7 ih hr2 trivial)⟩
  · intro hne; exact pc_pass7 ih hne hso.1
  · intro _ _ _ hne; exact pc_pass7 ih hne trivial

theorem argsLoop_good7 {a : ArgsP} (f : PSFields) : ∀ (specs : List ArgSpec) (acc : List Arg) (pos : Nat),
    specs.all (fun x => kindSafe x.kind) = true → ArgsOk db env.ctx acc → acc.length + specs.length = sigLen a →
    RawSat env.tol (PcContract env.tol (PRes7 db env.ctx (.arguments a))) (.ret (argsLoop env rec f specs acc pos)) := by
  intro specs
  induction specs with
  | nil => intro acc pos _ hacc hlen; rw [argsLoop_nil]; exact ⟨hacc, Or.inr hlen⟩
  | cons x rest ihl =>
    intro acc pos hall hacc hlen
    rw [List.all_cons, Bool.and_eq_true] at hall
    have hpre : ParserPre7 env.ctx (argParser x.kind) := by cases x.kind <;> trivial
    refine argsLoop_cons_elim
      (motive := fun r => RawSat env.tol (PcContract env.tol (PRes7 db env.ctx (.arguments a))) (.ret r)) ?_ ?_ ?_
    · intro _ _ _ _ _ htol; exact pcContract_strict htol
    · intro res p hr
      refine ihl _ p hall.2 ?_ ?_
      · exact (argsOk_append _ _).mpr ⟨hacc, resToArg_ok7 _ (slot_of_argParser _ hall.1 _ (pc_ok7 ih hr hpre)), trivial⟩
      · rw [List.length_cons] at hlen; rw [List.length_append, List.length_singleton]; omega
    · intro hne; exact pc_pass7 ih hne hpre

omit ih in
theorem rawLegacyVerb_good7 (f : PSFields) (pos : Nat) :
    RawSat env.tol (PcContract env.tol (PRes7 db env.ctx (.arguments .legacyVerb))) (rawLegacyVerb env f pos) := by
  apply rawLegacyVerb_elim
  · intro _ _ _; exact pcContract_perr fun _ => rfl
  · intro _ _ _ _ _; exact pcContract_perr fun _ => rfl
  · intro _ _ _ _ _ _; exact ⟨argsOk_node (nodeOk_chars _ _ _ _), Or.inr rfl⟩

omit ih in
theorem legacyVerbEnvFinish_good7 (name : Str) (optArg : Bool) (f : PSFields) (pos : Nat) (pre : List Arg) (p : Nat)
    (hpre : ArgsOk db env.ctx pre) (hlen : pre.length + 1 = sigLen (.legacyVerbEnv name optArg)) :
    RawSat env.tol (PcContract env.tol (PRes7 db env.ctx (.arguments (.legacyVerbEnv name optArg))))
      (legacyVerbEnvFinish env name f pos pre p) := by
  apply legacyVerbEnvFinish_elim
  · intro _; exact pcContract_perr fun _ => rfl
  · intro _ _
    refine ⟨(argsOk_append _ _).mpr ⟨hpre, argsOk_node (nodeOk_chars _ _ _ _)⟩, Or.inr ?_⟩
    rw [List.length_append]; exact hlen

theorem rawLegacyVerbEnv_good7 (name : Str) (optArg : Bool) (f : PSFields) (pos : Nat) :
    RawSat env.tol (PcContract env.tol (PRes7 db env.ctx (.arguments (.legacyVerbEnv name optArg))))
      (rawLegacyVerbEnv env rec name optArg f pos) := by
  cases optArg with
  | false => exact legacyVerbEnvFinish_good7 name false f pos [] pos argsOk_nil rfl
  | true =>
    have habs : ArgsOk db env.ctx [.absent] := ⟨trivial, trivial⟩
    apply rawLegacyVerbEnv_elim
    · intro h; cases h
    · intro _ _; exact legacyVerbEnvFinish_good7 name true f pos _ pos habs rfl
    · intro n _ _ hr
      exact legacyVerbEnvFinish_good7 name true f pos _ _ (argsOk_node (pc_ok7 ih hr trivial).1) rfl
    · intro _ _ _ _ _; exact legacyVerbEnvFinish_good7 name true f pos _ pos habs rfl
    · intro _ hne; exact pc_pass7 ih hne trivial

theorem rawArguments_good7 (a : ArgsP) (f : PSFields) (pos : Nat) (ha : argsPSafe a = true) :
    RawSat env.tol (PcContract env.tol (PRes7 db env.ctx (.arguments a))) (rawArguments env rec a f pos) := by
  cases a with
  | std l => exact argsLoop_good7 ih f l [] pos ha argsOk_nil (Nat.zero_add _)
  | legacyVerb => exact rawLegacyVerb_good7 f pos
  | legacyVerbEnv name optArg => exact rawLegacyVerbEnv_good7 ih name optArg f pos
  | unknown => trivial

omit ih in
theorem exprFinish_good7 {f : PSFields} {nodes : List Node} {pos : Nat} (h : ListOk db env.ctx nodes) :
    ExprContract env.tol (SlotRes7 db env.ctx) (exprFinish f nodes pos) := by
  unfold exprFinish
  split
  · next n hn => exact listOk_getLast _ _ h hn
  · exact (listOk_nil : ListOk db env.ctx [])

omit ih in
theorem exprFinish_snoc7 {f : PSFields} {skipped : List Node} {x : Node} {pos : Nat} (h : NodeOk db env.ctx x) :
    ExprContract env.tol (SlotRes7 db env.ctx) (exprFinish f (skipped ++ [x]) pos) := by
  rw [exprFinish_snoc]; exact h

theorem exprOnTok_good7 {ap : Bool} {skipped : List Node} {f : PSFields} {t : Token}
    (hsk : ListOk db env.ctx skipped) : ExprContract env.tol (SlotRes7 db env.ctx) (exprOnTok env rec ap skipped f t) := by
  apply exprOnTok_elim
  · intro _ _; exact ih (.expr _ _ _ _) (listOk_snoc _ _ hsk (nodeOk_comment _ _ _ _ _))
  · intro _ _ _; exact ih (.expr _ _ _ _) hsk
  · intro _ _ htol; exact Or.inl htol
  · intro n p _ hr; exact exprFinish_snoc7 (pc_ok7 ih hr trivial).1
  · intro _ hne; exact exprContract_pass (ih (.pc (.group (.auto t.arg) false false) f t.pos) trivial) hne
  · intro _; exact Or.inr (slotRes_node (nodeOk_chars _ _ _ _))
  · intro _; exact exprFinish_snoc7 (nodeOk_chars _ _ _ _)
  · intro _
    refine Or.inr ?_
    show NodeOk db env.ctx (if _ then _ else _)
    split
    · exact nodeOk_bareMac _ _ _ _ _
    · exact nodeOk_chars _ _ _ _
  · intro _ _; trivial

theorem exprTok_good7 (hC : CtxOk db env.ctx) {ap : Bool} {skipped : List Node} {f : PSFields} {t : Token}
    (hsk : ListOk db env.ctx skipped) : ExprContract env.tol (SlotRes7 db env.ctx) (exprTok env rec ap skipped f t) := by
  apply exprTok_elim
  · intro _ hb _
    refine exprFinish_snoc7 (nodeOk_noArgMac _ _ _ _ _ ?_)
    rcases hb with h | h
    · rw [h]; exact hC.beginOk
    · rw [h]; exact hC.endOk
  · intro _ _ htol; exact Or.inl htol
  · intro _ _; exact exprFinish_snoc7 (nodeOk_bareMac _ _ _ _ _)
  · intro _; exact exprFinish_snoc7 (nodeOk_bareSpecials _ _ _ _)
  · intro _ _ _ _; exact ih (.expr _ _ _ _) (listOk_snoc _ _ hsk (nodeOk_chars _ _ _ _))
  · intro _ _ _ _ _; exact ih (.expr _ _ _ _) hsk
  · intro _ _ _ _ htol; exact Or.inl htol
  · intro _ _ _; exact exprOnTok_good7 ih hsk

theorem exprStep_good7 (hC : CtxOk db env.ctx) {ap : Bool} {skipped : List Node} {f : PSFields} {pos : Nat}
    (hsk : ListOk db env.ctx skipped) : ExprContract env.tol (SlotRes7 db env.ctx) (exprStep env rec ap skipped f pos) := by
  apply exprStep_elim
  · intro _ _ _ _ _ htol; exact Or.inl htol
  · intro _; exact exprFinish_good7 hsk
  · intro htol; exact Or.inl htol
  · intro _ _; exact exprTok_good7 ih hC hsk

omit ih in
theorem rawMarker_good7 (c : Char) (fl ap : Bool) (f : PSFields) (pos : Nat) :
    RawSat env.tol (PcContract env.tol (PRes7 db env.ctx (.marker c fl ap))) (rawMarker env c fl ap f pos) := by
  have hnone : PRes7 db env.ctx (.marker c fl ap) .none := ⟨trivial, fun _ => trivial⟩
  apply rawMarker_elim
  · intro _ _; exact hnone
  · intro _ _ _ _ _ htol; exact pcContract_strict htol
  · intro t _ _ _ _
    have hn : NodeOk db env.ctx (Node.chars t.pos t.posEnd (psInfo f) [c]) := nodeOk_chars _ _ _ _
    cases fl with
    | true => exact ⟨⟨hn, trivial⟩, fun h => nomatch h⟩
    | false => exact ⟨hn, fun _ => hn⟩
  · intro _ _ _ _; exact hnone
  · intro _ _; exact hnone

omit ih in
theorem rawVerbatim_good7 (d : Option (Char × Char)) (f : PSFields) (pos : Nat) :
    RawSat env.tol (PcContract env.tol (PRes7 db env.ctx (.verbatim d))) (rawVerbatim env d f pos) := by
  apply rawVerbatim_elim
  · intro _ _ _; trivial
  · intro _ _ _ _ _; exact pcContract_perr fun _ => trivial
  · intro _ _ _ _ _ _ _ _ _; exact ⟨nodeOk_chars _ _ _ _, trivial⟩
  · intro _ _ _ _ _ _ _ _; exact pcContract_perr fun _ => slotRes_node (nodeOk_chars _ _ _ _)

theorem step_good7 (hC : CtxOk db env.ctx) : ∀ t, Good7 db env.ctx env.tol t (step env rec t) := by
  intro t
  cases t with
  | loop f stop child st => exact loopStep_good7 ih
  | expr ap skipped f pos => exact exprStep_good7 ih hC
  | pc p f pos =>
    intro hp
    show RawSat env.tol (PcContract env.tol (PRes7 db env.ctx p)) (rawParse env rec p f pos)
    cases p with
    | general stop require child => exact rawGeneral_good7 ih stop require child f pos
    | group d o a => exact rawGroup_good7 ih d o a f pos
    | math d => exact rawMath_good7 ih d f pos
    | envBody n => exact rawEnvBody_good7 ih n f pos
    | macroCall t a => exact rawCall_good7 ih (k := .mac) f pos (hC.mac _ _ hp) hp fun _ _ h => h
    | specialsCall t a => exact rawCall_good7 ih (k := .specials) f pos (hC.sp _ _ hp) hp fun _ _ h => h
    | envCall t a bm => exact rawEnvCall_good7 ih hC t a bm f pos hp
    | arguments a => exact rawArguments_good7 ih a f pos hp
    | expression ap =>
      exact pcContract_expr (ih (.expr ap [] f pos) listOk_nil)
    | marker c fl ap => exact rawMarker_good7 c fl ap f pos
    | verbatim d => exact rawVerbatim_good7 d f pos

end

theorem run_good7 {db : TextDb} {env : Pylx.Env} (hC : CtxOk db env.ctx) :
    ∀ (n : Nat) (t : Task), Good7 db env.ctx env.tol t (run env n t) :=
  run_inv (fun t => by cases t <;> exact fun _ => trivial) (fun _ ih => step_good7 ih hC)

/-- **generic parser invariant** (both parsing modes, any fuel, any start state): for every text database and
    walker context satisfying `CtxOk`, every node list returned by the parser model satisfies the argument-list
    invariant of C07. -/
theorem C07_parsed_args_length_generic (db : TextDb) (ctx : Ctx) (hC : CtxOk db ctx) (tol : Bool) (s : Str)
    (f : PSFields) (n : Nat) (p e : Option Nat) (ns : List Node) (pos : Nat)
    (h : run { tol := tol, ctx := ctx, s := s } n (.pc (.general .none true .same) f 0) = .ok (.list p e ns) pos) :
    ListOk db ctx ns := by
  have hg := run_good7 (db := db) (env := { tol := tol, ctx := ctx, s := s }) hC n
    (.pc (.general .none true .same) f 0) trivial
  rw [h] at hg
  exact hg

theorem C07_parsed_args_length_of_ctxOk (db : TextDb) (ctx : Ctx) (hC : CtxOk db ctx) :
    C07_parsed_args_length_stmt db ctx := by
  intro s p e ns pos h
  exact C07_parsed_args_length_generic db ctx hC true s (startFields ctx) _ p e ns pos h

set_option maxRecDepth 100000 in
/-- the default walker context declares only `{`, `[`, `*` arguments (no `t<c>` marker, no required delimited
    argument), its unknown-macro / unknown-environment specifications take no arguments, and the names whose
    arguments parser can raise by itself (`\verb`, `verbatim`, `lstlisting`) as well as `\begin` / `\end` have
    text replacements that tolerate `nodeargd is None` -/
theorem C07_ctx_ok : ctxOkB Gen.defaultTextDb Gen.defaultCtx = true := by decide +kernel

/-! ### non-vacuity, and the hypotheses cannot be dropped -/

def headNoArgd : Ret → Bool
  | .ok (.list _ _ (.mac _ _ _ _ _ none :: _)) _ => true
  | _ => false

def headListSlot : Ret → Bool
  | .ok (.list _ _ (.mac _ _ _ _ _ (some (.list _ _ _ :: _)) :: _)) _ => true
  | _ => false

theorem not_listOk_of_headListSlot {db : TextDb} {ctx : Ctx} {r : Ret} (h : headListSlot r = true) :
    ∃ p e ns pos, r = .ok (.list p e ns) pos ∧ ¬ ListOk db ctx ns := by
  unfold headListSlot at h
  split at h
  · exact ⟨_, _, _, _, rfl, fun hl => hl.1.2.1⟩
  · cases h

def exVerb : Str := ['\\', 'v', 'e', 'r', 'b']
def exEmphEnd : Str := ['\\', 'e', 'm', 'p', 'h', '\\', 'e', 'n', 'd', ' ', 'x']

set_option maxRecDepth 100000 in
/-- the `nodeargd = None` case of the invariant is exercised by the default context: `\verb` at the end of the
    input (the legacy verbatim parser raises, tolerant recovery keeps the macro node without arguments) -/
example : headNoArgd (parseTop { tol := true, ctx := Gen.defaultCtx, s := exVerb } (startFields Gen.defaultCtx)) = true := by
  decide +kernel

/-- the hypothesis of `C07_parsed_args_length` is satisfiable for every input: the tolerant parse of the default
    context always returns a node list (C06), and that list satisfies the invariant -/
example (s : Str) : ∃ p e ns pos,
    parseTop { tol := true, ctx := Gen.defaultCtx, s := s } (startFields Gen.defaultCtx) = .ok (.list p e ns) pos ∧
    ListOk Gen.defaultTextDb Gen.defaultCtx ns := by
  obtain ⟨p, e, ns, pos, h, _⟩ := C06_total_list Gen.defaultCtx defaultCtx_closed s _ startOk_default
  exact ⟨p, e, ns, pos, h,
    C07_parsed_args_length_of_ctxOk _ _ (ctxOk_of_B C07_ctx_ok) s p e ns pos h⟩

def exCtx : Ctx := { macros := [("textbf".toList, .std [{ kind := .m }]), ("verb".toList, .legacyVerb)] }

set_option maxRecDepth 100000 in
example : CtxOk Gen.defaultTextDb exCtx := ctxOk_of_B (by decide +kernel)

/-- a context with a required delimited argument `r<>`: in tolerant mode a missing opening delimiter leaves the
    empty recovery node *list* in the argument slot, so the invariant fails — `kindSafe` cannot be dropped from
    `CtxOk` (the default context has no such argument, `C07_ctx_ok`) -/
def exCtxR : Ctx := { macros := [(['x'], .std [{ kind := .r '<' '>' }])] }
def exCtxT : Ctx := { macros := [(['x'], .std [{ kind := .t '!' }])] }

set_option maxRecDepth 100000 in
example : ¬ C07_parsed_args_length_stmt Gen.defaultTextDb exCtxR := by
  intro h
  have hb : headListSlot (parseTop { tol := true, ctx := exCtxR, s := ['\\', 'x', ' ', 'a'] } (startFields exCtxR)) = true := by
    decide +kernel
  obtain ⟨p, e, ns, pos, hr, hn⟩ := not_listOk_of_headListSlot (db := Gen.defaultTextDb) (ctx := exCtxR) hb
  exact hn (h _ p e ns pos hr)

set_option maxRecDepth 100000 in
/-- the same for a marker argument `t!` -/
example : ¬ C07_parsed_args_length_stmt Gen.defaultTextDb exCtxT := by
  intro h
  have hb : headListSlot (parseTop { tol := true, ctx := exCtxT, s := ['\\', 'x', '!'] } (startFields exCtxT)) = true := by
    decide +kernel
  obtain ⟨p, e, ns, pos, hr, hn⟩ := not_listOk_of_headListSlot (db := Gen.defaultTextDb) (ctx := exCtxT) hb
  exact hn (h _ p e ns pos hr)

end Pylx.L2T.C07P

namespace Pylx.L2T

/-- **C07 (parser half).**  Every tree the tolerant parser returns for the default context satisfies the
    argument-list invariant of the default databases. -/
theorem C07_parsed_args_length : C07_parsed_args_length_stmt Gen.defaultTextDb Gen.defaultCtx :=
  C07P.C07_parsed_args_length_of_ctxOk _ _ (C07P.ctxOk_of_B C07P.C07_ctx_ok)

/-- **C07.**  For every option set (repaired switch on), all library oracles and every input string,
    `latex_to_text` returns a string. -/
theorem C07 : C07_full := fun opts hrep lib s => C07_partial C07_parsed_args_length opts hrep lib s

set_option maxRecDepth 100000 in
/-- non-vacuity of `C07`: concrete inputs that reach the `nodeargd = None` cases, with the repaired switch on -/
example : (latexToText { repaired := true } idLib C07P.exVerb).isOkB = true := by decide +kernel

set_option maxRecDepth 100000 in
example : (latexToText { repaired := true } idLib C07P.exEmphEnd).isOkB = true := by decide +kernel

end Pylx.L2T

#print axioms Pylx.L2T.C07P.C07_parsed_args_length_generic
#print axioms Pylx.L2T.C07P.C07_ctx_ok
#print axioms Pylx.L2T.C07_parsed_args_length
#print axioms Pylx.L2T.C07
