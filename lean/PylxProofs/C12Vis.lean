/-
  C12, part B — rendered positions.  `InNode E t n`: the node `t` sits in a position of `n` the renderer descends
  into AND whose text reaches the output unchanged (bodies of groups, arguments / bodies of constructs without
  replacement and `discard = False`, arguments of positional %-format replacements that fit, the title argument of
  a sectioning callable without upper-casing, bodies of environments with a positional %-format, formula bodies and
  bodies of equation environments when `math_mode` is `text` / `with-delimiters`).
  `vis_node`: every property `P` of output strings that is monotone for "is an infix of" (and survives `strip` /
  block indentation where the path crosses a formula) passes from what `t` emits to what `n` emits.
-/
import PylxProofs.C12Sim
namespace Pylx.L2T.C12
open Pylx Pylx.L2T

/-! ### state-transformer plumbing -/

/-- every successful run of `x` returns a string satisfying `P` -/
def Emits (P : Str → Prop) (x : R Str) : Prop := ∀ st out st', x st = .ok (out, st') → P out

/-- every successful run of `x` returns a value satisfying `Q` (`Emits` is the case of strings) -/
def Returns {α : Type} (Q : α → Prop) (x : R α) : Prop := ∀ st a st', x st = .ok (a, st') → Q a

theorem Returns.any {α : Type} (x : R α) : Returns (fun _ => True) x := fun _ _ _ _ => trivial

theorem Returns.pure {α : Type} {Q : α → Prop} {a : α} (h : Q a) : Returns Q (R.pure a) := by
  intro st out st' hr
  cases R.pure_ok hr
  exact h

theorem Returns.bind {α β : Type} {Q : α → Prop} {P : β → Prop} {x : R α} {f : α → R β} (hx : Returns Q x)
    (hf : ∀ a, Q a → Returns P (f a)) : Returns P (R.bind x f) := by
  intro st out st' hr
  obtain ⟨a, st1, h1, hr⟩ := R.bind_ok hr
  exact hf a (hx _ _ _ h1) _ _ _ hr

theorem emits_pure {P : Str → Prop} {a : Str} (h : P a) : Emits P (R.pure a) := Returns.pure h

/-- monotone for "is an infix of" -/
def Up (P : Str → Prop) : Prop := ∀ x y, x <:+: y → P x → P y
/-- survives Python's `str.strip()` -/
def StripOk (P : Str → Prop) : Prop := ∀ x, P x → P (strip x)
/-- survives the indentation of a block by four blanks -/
def IndentOk (P : Str → Prop) : Prop := ∀ x, P x → P (indentLines "    ".toList x)

theorem infix_mid {α : Type} (a x b : List α) : x <:+: a ++ x ++ b := ⟨a, b, rfl⟩
theorem infix_right {α : Type} (a x : List α) : x <:+: a ++ x := ⟨a, [], by simp⟩
theorem infix_left {α : Type} (x b : List α) : x <:+: x ++ b := ⟨[], b, by simp⟩

theorem indentLines_nil : ∀ s : Str, indentLines [] s = s
  | [] => rfl
  | c :: r => by
    unfold indentLines
    split
    · rename_i h
      have : c = '\n' := by simpa using h
      subst this
      simp only [List.nil_append, indentLines_nil r]
    · rw [indentLines_nil r]

theorem indentedBlock_nil (s : Str) : indentedBlock s [] = '\n' :: (s ++ ['\n']) := by
  unfold indentedBlock
  simp only [List.nil_append, indentLines_nil]

theorem infix_indentedBlock (s ind : Str) : indentLines ind s <:+: indentedBlock s ind := by
  unfold indentedBlock
  exact ⟨'\n' :: ind, ['\n'], by simp⟩

/-! ### the loop only appends -/

theorem renderList_prefix (E : Env) (c : Sls) (ns : List Node) (prev : Option Node) (acc : Str) :
    Emits (acc <+: ·) (renderList E c prev acc ns) := by
  rw [renderList_acc]
  exact Returns.bind (Returns.any _) fun t _ => Returns.pure ⟨t, rfl⟩

theorem argsEach_length (E : Env) (c : Sls) : ∀ l : List Arg, Returns (·.length = l.length) (argsEach E c l)
  | [] => Returns.pure rfl
  | _ :: l => Returns.bind (Returns.any _) fun _ _ => Returns.bind (argsEach_length E c l) fun _ hr =>
    Returns.pure (congrArg (· + 1) hr)

/-! ### positional %-formatting -/

/-- the positional format consumes exactly `n` values (so `simplify_repl % tuple` succeeds) -/
def tupleFits : List Seg → Nat → Bool
  | [], n => n == 0
  | .lit _ :: r, n => tupleFits r n
  | .pct :: r, n => tupleFits r n
  | .pos :: r, n + 1 => tupleFits r n
  | .pos :: _, 0 => false
  | .key _ :: _, _ => false

/-- a positional format that fits succeeds, and every value is found in the result -/
theorem fmtTuple_fits : ∀ (segs : List Seg) (xs : List Str), tupleFits segs xs.length = true →
    ∃ r, fmtTuple segs xs = some r ∧ ∀ x ∈ xs, x <:+: r
  | [], [], _ => ⟨[], rfl, fun _ h => nomatch h⟩
  | [], _ :: _, h => by simp [tupleFits] at h
  | .lit s :: segs, xs, h => by
    obtain ⟨r, hr, hs⟩ := fmtTuple_fits segs xs (by simpa only [tupleFits] using h)
    exact ⟨s ++ r, by simp only [fmtTuple, hr, Option.map_some], fun x hx => (hs x hx).trans (infix_right _ _)⟩
  | .pct :: segs, xs, h => by
    obtain ⟨r, hr, hs⟩ := fmtTuple_fits segs xs (by simpa only [tupleFits] using h)
    exact ⟨'%' :: r, by simp only [fmtTuple, hr, Option.map_some], fun x hx => (hs x hx).trans (infix_right ['%'] _)⟩
  | .pos :: segs, [], h => by simp [tupleFits] at h
  | .pos :: segs, y :: xs, h => by
    obtain ⟨r, hr, hs⟩ := fmtTuple_fits segs xs (by simpa only [List.length_cons, tupleFits] using h)
    refine ⟨y ++ r, by simp only [fmtTuple, hr, Option.map_some], fun x hx => ?_⟩
    rcases List.mem_cons.1 hx with rfl | hx
    · exact infix_left _ _
    · exact (hs x hx).trans (infix_right _ _)
  | .key _ :: _, _, h => by simp [tupleFits] at h

/-! ### which parts of a construct reach the output unchanged -/

/-- no replacement and `discard = False`: the default rendering (arguments of a macro / specials, body of an
    environment) -/
def Transparent (E : Env) (sp : TSpec) : Prop :=
  replTruthy E.lib sp.repl = false ∧ sp.hasDiscard = true ∧ sp.discard = false

/-- `len(spec.arguments_spec_list)` of the walker entry of the name -/
def padOf (E : Env) (kind : Kind) (name : Str) : Nat := ((walkerSpec E kind name).map sigLen).getD 0

/-- all written arguments of the macro / specials reach the output through `_groupnodecontents_to_text` -/
def ShowsArgs (E : Env) (kind : Kind) (name : Str) (sp : TSpec) (nargs : Nat) : Prop :=
  Transparent E sp ∨
  ∃ raw segs, sp.repl = .fmt raw segs ∧ segs.any Seg.isPos = true ∧ tupleFits segs (max nargs (padOf E kind name)) = true

/-- the body of the environment reaches the output (rendered in the surrounding context) -/
def ShowsBody (E : Env) (sp : TSpec) : Prop :=
  Transparent E sp ∨ ∃ raw segs, sp.repl = .fmt raw segs ∧ segs.any Seg.isPos = true ∧ tupleFits segs 1 = true

def MathShown (E : Env) : Prop := E.opts.mathMode = .text ∨ E.opts.mathMode = .withDelims

/-- the body of the environment is rendered as an equation whose text is shown -/
def ShowsBodyEq (E : Env) (sp : TSpec) : Prop := sp.repl = .eqEnv ∧ MathShown E

mutual
/-- `t` sits in rendered position of the node -/
def InNode (E : Env) (t : Node) : Node → Prop
  | .chars p e ps ch => t = .chars p e ps ch
  | .comment p e ps cm post => t = .comment p e ps cm post
  | .group p e ps o cl b => t = .group p e ps o cl b ∨ InBody E t b
  | .mac p e ps name post a =>
    t = .mac p e ps name post a ∨
    (ShowsArgs E .mac name (macSpec E name) (a.getD []).length ∧ InArgsO E t a) ∨
    (∃ pre pst idx, (macSpec E name).repl = .sectioning pre pst idx false ∧ InArgsOAt E t idx a)
  | .env p e ps name a b =>
    t = .env p e ps name a b ∨
    ((ShowsBody E (envSpec E name) ∨ ShowsBodyEq E (envSpec E name)) ∧ InBody E t b)
  | .specials p e ps ch a =>
    t = .specials p e ps ch a ∨
    (∃ sp, lookupFirst ch E.db.specials = some sp ∧ ShowsArgs E .specials ch sp (a.getD []).length) ∧ InArgsO E t a
  | .math p e ps d o cl b => t = .math p e ps d o cl b ∨ (MathShown E ∧ InBody E t b)
def InBody (E : Env) (t : Node) : Option (List Node) → Prop
  | none => False
  | some ns => InList E t ns
def InList (E : Env) (t : Node) : List Node → Prop
  | [] => False
  | n :: ns => InNode E t n ∨ InList E t ns
def InArgsO (E : Env) (t : Node) : Option (List Arg) → Prop
  | none => False
  | some l => InArgs E t l
def InArgs (E : Env) (t : Node) : List Arg → Prop
  | [] => False
  | a :: l => InArg E t a ∨ InArgs E t l
def InArgsOAt (E : Env) (t : Node) (k : Nat) : Option (List Arg) → Prop
  | none => False
  | some l => InArgsAt E t k l
def InArgsAt (E : Env) (t : Node) : Nat → List Arg → Prop
  | _, [] => False
  | 0, a :: _ => InArg E t a
  | k + 1, _ :: l => InArgsAt E t k l
/-- through `_groupnodecontents_to_text`: the braces of a group argument are dropped -/
def InArg (E : Env) (t : Node) : Arg → Prop
  | .absent => False
  | .node (.group _ _ _ _ _ b) => InBody E t b
  | .node n => InNode E t n
  | .list _ _ ns => InList E t ns
end

/-! ### replacements that show their arguments / body -/

theorem applySpec_transparent {E : Env} {sp : TSpec} (h : Transparent E sp) (info : NodeInfo) (th : Thunks) (dflt : R Str) :
    applySpec E info th sp dflt = dflt := by
  rw [applySpec_of_falsy h.1 h.2.1, h.2.2]; rfl

theorem kind_ne_env {k : Kind} (h : k ≠ .env) : (k == Kind.env) = false := by
  cases k
  · rfl
  · exact absurd rfl h
  · rfl

theorem emits_applyString_args {P : Str → Prop} (hUp : Up P) {E : Env} {info : NodeInfo} {th : Thunks} {raw : Str}
    {segs : List Seg} (hk : info.kind ≠ .env) (hpos : segs.any Seg.isPos = true) (hna : th.noArgd = false)
    (hfit : tupleFits segs (max th.n (padOf E info.kind info.name)) = true)
    (heach : Returns (fun ts => ts.length = th.n ∧ ∃ x ∈ ts, P x) th.each) :
    Emits P (applyString E info th raw segs) := by
  simp only [applyString, kind_ne_env hk, Bool.false_eq_true, if_false, hna, hpos, if_true]
  refine Returns.bind heach fun ts ⟨hlen, x, hx, hP⟩ => Returns.pure ?_
  have hl : (ts ++ List.replicate (((walkerSpec E info.kind info.name).map sigLen).getD 0 - ts.length) ([] : Str)).length =
      max th.n (padOf E info.kind info.name) := by
    simp only [List.length_append, List.length_replicate, hlen, padOf]; omega
  obtain ⟨r, hr', hsh⟩ := fmtTuple_fits segs _ (by rw [hl]; exact hfit)
  rw [hr']
  exact hUp x r (hsh x (List.mem_append_left _ hx)) hP

theorem emits_applyString_body {P : Str → Prop} (hUp : Up P) {E : Env} {info : NodeInfo} {th : Thunks} {raw : Str}
    {segs : List Seg} (hk : info.kind = .env) (hpos : segs.any Seg.isPos = true)
    (hfit : tupleFits segs 1 = true) (hb : Emits P th.body) :
    Emits P (applyString E info th raw segs) := by
  simp only [applyString, hk, if_true, hpos]
  refine Returns.bind hb fun b hP => Returns.pure ?_
  obtain ⟨r, hr', hsh⟩ := fmtTuple_fits segs [b] hfit
  rw [hr']
  exact hUp b r (hsh b (List.mem_singleton.2 rfl)) hP

theorem emits_mathText {P : Str → Prop} {E : Env} (hUp : Up P) (hS : MathShown E → StripOk P)
    (hI : E.opts.mathMode = .text → IndentOk P) (hm : MathShown E) {bodyEq : R Str} (hb : Emits P bodyEq)
    (isEnv d : Bool) (d0 d1 : Str) (p e : Nat) : Emits P (mathText E isEnv d d0 d1 p e bodyEq) := by
  rcases hm with hm' | hm'
  · rw [mathText_text hm']
    refine Returns.bind hb fun t hP => Returns.pure ?_
    have hP := hS (.inl hm') _ hP
    split
    · exact hUp _ _ (infix_indentedBlock _ _) (hI hm' _ hP)
    · exact hP
  · rw [mathText_withDelims hm']
    refine Returns.bind hb fun t hP => Returns.pure ?_
    have hP := hS (.inr hm') _ hP
    split
    · rw [indentedBlock_nil]
      exact hUp _ _ ((infix_mid ['\n'] _ ['\n']).trans (infix_mid _ _ _)) hP
    · exact hUp _ _ (infix_mid _ _ _) hP

theorem emits_applySpec_eqEnv {P : Str → Prop} {E : Env} (hUp : Up P) (hS : MathShown E → StripOk P)
    (hI : E.opts.mathMode = .text → IndentOk P) {sp : TSpec} (h : ShowsBodyEq E sp) (name : Str) (p e : Nat) {th : Thunks}
    (hb : Emits P th.bodyEq) (dflt : R Str) : Emits P (applySpec E ⟨.env, name, p, e⟩ th sp dflt) := by
  rw [applySpec_eqEnv h.1]
  exact emits_mathText hUp hS hI h.2 hb _ _ _ _ _ _

theorem emits_applySpec_sectioning {P : Str → Prop} {E : Env} (hUp : Up P) {sp : TSpec} {pre pst : Str} {idx : Nat}
    (h : sp.repl = .sectioning pre pst idx false) (info : NodeInfo) {th : Thunks} (hna : th.noArgd = false) (hn : th.n ≠ 0)
    (hc : Emits P (th.contents idx)) (dflt : R Str) : Emits P (applySpec E info th sp dflt) := by
  unfold applySpec
  have hn' : (th.n == 0) = false := by simpa using hn
  simp only [h, replTruthy, if_true, applyCallable, hna, hn', Bool.or_self, Bool.false_eq_true, if_false]
  exact Returns.bind hc fun t hP => Returns.pure (hUp _ _ (infix_mid _ _ _) hP)

/-- a macro / specials whose specification shows its arguments: what an argument emits is found in what the node emits -/
theorem emits_applySpec_args {P : Str → Prop} (hUp : Up P) {E : Env} {kind : Kind} {name : Str} {p e : Nat} {sp : TSpec}
    {l : List Arg} {c : Sls} (hk : kind ≠ .env) (hs : ShowsArgs E kind name sp l.length) (hcat : Emits P (argsCat E c l))
    (heach : Returns (fun ts => ∃ x ∈ ts, P x) (argsEach E c l)) :
    Emits P (applySpec E ⟨kind, name, p, e⟩ (macThunks E c (some l)) sp (argsCatO E c (some l))) := by
  rcases hs with htr | ⟨raw, segs, hr, hpos, hfit⟩
  · rw [applySpec_transparent htr]
    exact hcat
  · rw [applySpec_fmt hr]
    exact emits_applyString_args hUp (info := ⟨kind, name, p, e⟩) hk hpos rfl hfit fun st ts st' he =>
      ⟨argsEach_length E c l st ts st' he, heach st ts st' he⟩

/-! ### the induction -/

/-- what the visibility induction needs of the target `t` and the property `P` of output strings -/
structure Carrier (E : Env) (t : Node) (P : Str → Prop) : Prop where
  up : Up P
  strip : MathShown E → StripOk P
  indent : E.opts.mathMode = .text → IndentOk P
  target : ∀ c, Emits P (renderNode E c t)

mutual
theorem vis_node (E : Env) (t : Node) (P : Str → Prop) (H : Carrier E t P) :
    ∀ (n : Node) (c : Sls), InNode E t n → Emits P (renderNode E c n)
  | .chars .., c, h => by simp only [InNode] at h; subst h; exact H.target c
  | .comment .., c, h => by simp only [InNode] at h; subst h; exact H.target c
  | .group p e ps o cl b, c, h => by
    simp only [InNode] at h
    rcases h with rfl | h
    · exact H.target c
    · rw [renderNode_group]
      refine Returns.bind (vis_body E t P H b c h) fun tx hP => Returns.pure ?_
      split
      · exact H.up _ _ (infix_mid _ _ _) hP
      · exact hP
  | .mac p e ps name post a, c, h => by
    simp only [InNode] at h
    rcases h with rfl | ⟨hs, ha⟩ | ⟨pre, pst, idx, hr, ha⟩
    · exact H.target c
    · cases a with
      | none => simp only [InArgsO] at ha
      | some l =>
        simp only [InArgsO] at ha
        rw [renderNode_mac]
        exact emits_applySpec_args H.up (fun h => nomatch h) hs (vis_argsCat E t P H l c ha) (vis_argsEach E t P H l c ha)
    · cases a with
      | none => simp only [InArgsOAt] at ha
      | some l =>
        simp only [InArgsOAt] at ha
        rw [renderNode_mac]
        refine emits_applySpec_sectioning H.up hr _ rfl (fun h0 : l.length = 0 => ?_) (vis_contentsAt E t P H l c idx ha) _
        rw [List.length_eq_zero_iff.1 h0] at ha
        cases idx <;> simp only [InArgsAt] at ha
  | .env p e ps name a b, c, h => by
    simp only [InNode] at h
    rcases h with rfl | ⟨hs, hb⟩
    · exact H.target c
    · rw [renderNode_env]
      rcases hs with (htr | ⟨raw, segs, hr, hpos, hfit⟩) | heq
      · rw [applySpec_transparent htr]
        exact vis_body E t P H b c hb
      · rw [applySpec_fmt hr]
        exact emits_applyString_body H.up (info := ⟨.env, name, p, e⟩) rfl hpos hfit (vis_body E t P H b c hb)
      · exact emits_applySpec_eqEnv H.up H.strip H.indent heq name p e (vis_body E t P H b c.enterEq hb) _
  | .specials p e ps ch a, c, h => by
    simp only [InNode] at h
    rcases h with rfl | ⟨⟨sp, hl, hs⟩, ha⟩
    · exact H.target c
    · cases a with
      | none => simp only [InArgsO] at ha
      | some l =>
        simp only [InArgsO] at ha
        simp only [renderNode_specials, hl]
        exact emits_applySpec_args H.up (fun h => nomatch h) hs (vis_argsCat E t P H l c ha) (vis_argsEach E t P H l c ha)
  | .math p e ps d o cl b, c, h => by
    simp only [InNode] at h
    rcases h with rfl | ⟨hm, hb⟩
    · exact H.target c
    · rw [renderNode_math]
      exact emits_mathText H.up H.strip H.indent hm (vis_body E t P H b c.enterEq hb) _ _ _ _ _ _
theorem vis_body (E : Env) (t : Node) (P : Str → Prop) (H : Carrier E t P) :
    ∀ (b : Option (List Node)) (c : Sls), InBody E t b → Emits P (renderBody E c b)
  | none, c, h => by simp only [InBody] at h
  | some ns, c, h => by simp only [InBody] at h; exact vis_list E t P H ns c none [] h
theorem vis_list (E : Env) (t : Node) (P : Str → Prop) (H : Carrier E t P) :
    ∀ (ns : List Node) (c : Sls) (prev : Option Node) (acc : Str), InList E t ns → Emits P (renderList E c prev acc ns)
  | [], c, prev, acc, h => by simp only [InList] at h
  | n :: ns, c, prev, acc, h => by
    simp only [InList] at h
    rw [renderList_cons]
    refine Returns.bind (Returns.any _) fun pre _ => ?_
    rcases h with h | h
    · refine Returns.bind (vis_node E t P H n c h) fun tx hP => ?_
      exact fun st out st' hr =>
        H.up _ _ ((infix_right (acc ++ pre) tx).trans (renderList_prefix E c ns _ _ st out st' hr).isInfix) hP
    · exact Returns.bind (Returns.any _) fun _ _ => vis_list E t P H ns c (some n) _ h
theorem vis_groupContents (E : Env) (t : Node) (P : Str → Prop) (H : Carrier E t P) :
    ∀ (a : Arg) (c : Sls), InArg E t a → Emits P (groupContents E c a)
  | .absent, c, h => by simp only [InArg] at h
  | .list _ _ ns, c, h => by simp only [InArg] at h; exact vis_list E t P H ns c none [] h
  | .node n, c, h => by
    cases n with
    | group p e ps o cl b => simp only [InArg] at h; exact vis_body E t P H b c h
    | _ => simp only [InArg] at h; exact vis_node E t P H _ c h
theorem vis_argsCat (E : Env) (t : Node) (P : Str → Prop) (H : Carrier E t P) :
    ∀ (l : List Arg) (c : Sls), InArgs E t l → Emits P (argsCat E c l)
  | [], c, h => by simp only [InArgs] at h
  | a :: l, c, h => by
    simp only [InArgs] at h
    rcases h with h | h
    · exact Returns.bind (vis_groupContents E t P H a c h) fun _ hP => Returns.bind (Returns.any _) fun _ _ =>
        Returns.pure (H.up _ _ (infix_left _ _) hP)
    · exact Returns.bind (Returns.any _) fun _ _ => Returns.bind (vis_argsCat E t P H l c h) fun _ hP =>
        Returns.pure (H.up _ _ (infix_right _ _) hP)
theorem vis_argsEach (E : Env) (t : Node) (P : Str → Prop) (H : Carrier E t P) :
    ∀ (l : List Arg) (c : Sls), InArgs E t l → ∀ st ts st', argsEach E c l st = .ok (ts, st') → ∃ x ∈ ts, P x
  | [], c, h => by simp only [InArgs] at h
  | a :: l, c, h => by
    simp only [InArgs] at h
    rcases h with h | h
    · exact Returns.bind (vis_groupContents E t P H a c h) fun tx hP => Returns.bind (Returns.any _) fun _ _ =>
        Returns.pure ⟨tx, List.mem_cons_self, hP⟩
    · exact Returns.bind (Returns.any _) fun _ _ => Returns.bind (vis_argsEach E t P H l c h) fun _ ⟨x, hx, hP⟩ =>
        Returns.pure ⟨x, List.mem_cons_of_mem _ hx, hP⟩
theorem vis_contentsAt (E : Env) (t : Node) (P : Str → Prop) (H : Carrier E t P) :
    ∀ (l : List Arg) (c : Sls) (k : Nat), InArgsAt E t k l → Emits P (contentsAt E c k l)
  | [], c, k, h => by cases k <;> simp only [InArgsAt] at h
  | a :: l, c, 0, h => by simp only [InArgsAt] at h; exact vis_groupContents E t P H a c h
  | a :: l, c, k + 1, h => by simp only [InArgsAt] at h; exact vis_contentsAt E t P H l c k h
end

/-- lifted to `render` -/
theorem vis_render (opts : Opts) (db : TextDb) (ctx : Ctx) (lib : Lib) (src : Str) (t : Node) (P : Str → Prop)
    (H : Carrier { opts := opts, db := db, ctx := ctx, lib := lib, src := src } t P) (ns : List Node)
    (h : InList { opts := opts, db := db, ctx := ctx, lib := lib, src := src } t ns) (out : Str)
    (hr : render opts db ctx lib src ns = .ok out) : P out := by
  obtain ⟨_, st, hx⟩ := (render_ok_iff opts db ctx lib src ns out).1 hr
  exact vis_list _ t P H ns _ none [] h _ _ _ hx

end Pylx.L2T.C12
