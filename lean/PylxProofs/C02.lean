/-
  C02 — parsing recovers the structure a well-formed document was written with.

  `C02_full` is the full statement over the document grammar of `Pylx/Doc.lean` (every construct, every context), with
  the separation discipline `Doc.WF` (a control word without written argument and with an empty `post` is not
  followed by whitespace other than a paragraph break; without that clause `\a x` is a counterexample, see `cexDoc`).
  It is kept as a proposition.  `C02_core` proves the round trip for the fragment `Doc.Core` (a decidable predicate on
  context and derivation): text of letters / digits / `.,;:`, whitespace items, paragraph breaks (as the `\n\n` specials
  when the context declares them, as plain text otherwise; also directly behind a control word or a comment line), brace
  groups, comments, calls of control-word and control-symbol macros and environments (normal and math bodies, unknown
  names through the context's fallbacks) whose signature (looked up in the context) is made of `m` / `o` / `s` / `t<c>` /
  `r<c1c2>` / `d<c1c2>` slots written as brace groups or single text characters / bracket groups / stars / markers /
  delimited groups or left out (any argument mode deltas), inline and display math with the four delimiter pairs,
  specials without arguments, `\verb`; arbitrary nesting; every context in which no specials string starts with a text
  character, `*`, `[` or `]` — for every derivation of the fragment (unbounded depth and length) and every amount of fuel
  that is large enough (`C02_core_run`), in particular the fuel `parseTop` uses (`C02_core`, `C02_core_ok`).
  Not covered: verbatim environments, `v` arguments, specials with arguments, absent optional arguments directly in front
  of a paragraph break / `\begin` / `\end`.

  The structure `treeOf` is the projection (`C03S.forget`) of the exact tree `C03S.exactOf`, and shapes of
  nodes are the projection of their exact trees; so the statements here — `items_reach` / `args_reach` (prefix lemma over
  every collector state) and the round trip — are the projections of those of `PylxProofs/C03SRound.lean`.
-/
import PylxProofs.C03SRound
namespace Pylx
namespace C02
open Doc

section constructs
variable {env : Env} {keys : List Str}

/-- `Reaches` with whitespace in hand: the collector stands in front of the whitespace `w` (not yet read) followed by
    text that spells the shapes `trA`; it gets to a state in front of some whitespace `w'` followed by `tail`, and what
    it has produced plus `w'` is what `w` plus `trA` stand for -/
def ReachesW (env : Env) (L : PSFields) (stop : StopTok) (child : ChildPS) (st : LoopSt) (w : Str) (trA : List Shape)
    (tail : Str) : Prop :=
  ∃ tr n w', Reaches env L stop child st tr n ∧ env.s.drop (st.pos + n) = w' ++ tail ∧ isWs w' = true ∧ countNl w' < 2 ∧
    mergeChars (tr ++ pendSh w') = mergeChars (pendSh w ++ trA)

theorem child_same (f : PSFields) (t : Token) : ChildPS.same.get f t = f := rfl

section projection
open L2T.C03S

theorem ReachesW.of_exact {L : PSFields} {stop : StopTok} {child : ChildPS} {st : LoopSt} {w tail : Str} {trA : List XNode}
    (h : ReachesWX env L stop child st w trA tail) : ReachesW env L stop child st w (forgetNodes trA) tail := by
  obtain ⟨tr, n, w', hr, hd, hw, hn, hm⟩ := h
  refine ⟨forgetNodes tr, n, w', hr.forget, hd, hw, hn, ?_⟩
  have := congrArg forgetNodes hm
  rwa [forgetNodes_mergeX, forgetNodes_mergeX, forgetNodes_append, forgetNodes_append, forgetNodes_pendX,
    forgetNodes_pendX] at this

mutual
/-- on the core fragment the structure a document is written with is the projection of its exact tree (outside it the
    two differ at verbatim environments and `v` arguments, which `exactRaw` does not spell out) -/
theorem forget_exactRaw (ctx : Ctx) : ∀ (a : List Item) (prev : Option Str) (m : Bool) (after : Str),
    coreItems ctx m after a = true → forgetNodes (exactRaw ctx prev a) = treeRaw ctx prev a
  | [], _, _, _, _ => by simp only [exactRaw, treeRaw, forgetNodes]
  | .T t :: tl, _, m, after, hc => by
    simp only [exactRaw, treeRaw, forgetNodes, forget, forget_exactRaw ctx tl none m after (coreItems_tail hc)]
  | .W w :: tl, prev, m, after, hc => by
    cases prev <;>
      simp only [exactRaw, treeRaw, forgetNodes, forget, forget_exactRaw ctx tl none m after (coreItems_tail hc)]
  | .P w :: tl, prev, m, after, hc => by
    simp only [exactRaw, treeRaw, forgetNodes, forget_exactRaw ctx tl none m after (coreItems_tail hc)]
    cases parSpec ctx <;> rfl
  | .G b :: tl, _, m, after, hc => by
    have hb : coreItems ctx m ('}' :: (unparseItems tl ++ after)) b = true := by
      simp only [coreItems, Bool.and_eq_true] at hc
      exact hc.1
    simp only [exactRaw, treeRaw, forgetNodes, forget, forgetBody, normList_forgetNodes_mergeX,
      forget_exactRaw ctx b none _ _ hb, forget_exactRaw ctx tl none m after (coreItems_tail hc)]
  | .M name post args :: tl, _, m, after, hc => by
    obtain ⟨sig, _, hargs⟩ := coreItems_M hc
    simp only [exactRaw, treeRaw, forgetNodes, forget, forgetArgs, forget_exactArgs ctx args m _ sig hargs,
      forget_exactRaw ctx tl none m after (coreItems_tail hc)]
  | .E name args body :: tl, _, m, after, hc => by
    obtain ⟨sig, bm, _, hargs, hbody⟩ := coreItems_E hc
    simp only [exactRaw, treeRaw, forgetNodes, forget, forgetArgs, forgetBody, normList_forgetNodes_mergeX,
      forget_exactArgs ctx args m _ sig hargs, forget_exactRaw ctx body none _ _ hbody,
      forget_exactRaw ctx tl none m after (coreItems_tail hc)]
  | .F k b :: tl, _, m, after, hc => by
    have hb : coreItems ctx true (k.closer ++ (unparseItems tl ++ after)) b = true := by
      simp only [coreItems, Bool.and_eq_true] at hc
      exact hc.1.1.2
    simp only [exactRaw, treeRaw, forgetNodes, forget, forgetBody, normList_forgetNodes_mergeX,
      forget_exactRaw ctx b none _ _ hb, forget_exactRaw ctx tl none m after (coreItems_tail hc)]
  | .C text tail :: tl, _, m, after, hc => by
    simp only [exactRaw, treeRaw, forgetNodes, forget, forget_exactRaw ctx tl (some tail) m after (coreItems_tail hc)]
  | .S name args :: tl, _, m, after, hc => by
    have hargs : args = [] := by
      simp only [coreItems, Bool.and_eq_true] at hc
      exact List.isEmpty_iff.mp hc.1.1.1.1
    subst hargs
    simp only [exactRaw, treeRaw, forgetNodes, forget, forgetArgs, exactArgs, treeArgs, forgetArgList, Option.getD_some,
      forget_exactRaw ctx tl none m after (coreItems_tail hc)]
  | .V d text :: tl, _, m, after, hc => by
    simp only [exactRaw, treeRaw, forgetNodes, forget, forgetArgs, forgetArgList, forgetArg,
      forget_exactRaw ctx tl none m after (coreItems_tail hc)]
  | .VE _ _ _ _ :: _, _, _, _, hc => by simp [coreItems] at hc
theorem forget_exactArgs (ctx : Ctx) : ∀ (args : List ArgVal) (m : Bool) (rest : Str) (sig : List ArgSpec),
    coreArgs ctx m rest sig args = true → forgetArgList (exactArgs ctx args) = treeArgs ctx args
  | [], _, _, _, _ => by simp only [exactArgs, treeArgs, forgetArgList]
  | _ :: _, _, _, [], hc => by simp [coreArgs] at hc
  | .absent :: tl, m, rest, sp :: sig, hc => by
    simp only [exactArgs, treeArgs, forgetArgList, forgetArg, forget_exactArgs ctx tl m rest sig (coreArgs_tail hc)]
  | .star :: tl, m, rest, sp :: sig, hc => by
    simp only [exactArgs, treeArgs, forgetArgList, forgetArg, forget, forget_exactArgs ctx tl m rest sig (coreArgs_tail hc)]
  | .marker c :: tl, m, rest, sp :: sig, hc => by
    simp only [exactArgs, treeArgs, forgetArgList, forgetArg, forgetNodes, forget,
      forget_exactArgs ctx tl m rest sig (coreArgs_tail hc)]
  | .tok c :: tl, m, rest, sp :: sig, hc => by
    simp only [exactArgs, treeArgs, forgetArgList, forgetArg, forget, forget_exactArgs ctx tl m rest sig (coreArgs_tail hc)]
  | .br b :: tl, m, rest, sp :: sig, hc => by
    have hb : coreItems ctx (deltaMath m sp.delta) (']' :: (unparseArgs tl ++ rest)) b = true := by
      simp only [coreArgs, Bool.and_eq_true] at hc
      exact hc.1.2
    simp only [exactArgs, treeArgs, forgetArgList, forgetArg, forget, forgetBody, normList_forgetNodes_mergeX,
      forget_exactRaw ctx b none _ _ hb, forget_exactArgs ctx tl m rest sig (coreArgs_tail hc)]
  | .grp b :: tl, m, rest, sp :: sig, hc => by
    have hb : coreItems ctx (deltaMath m sp.delta) ('}' :: (unparseArgs tl ++ rest)) b = true := by
      simp only [coreArgs, Bool.and_eq_true] at hc
      exact hc.1.2
    simp only [exactArgs, treeArgs, forgetArgList, forgetArg, forget, forgetBody, normList_forgetNodes_mergeX,
      forget_exactRaw ctx b none _ _ hb, forget_exactArgs ctx tl m rest sig (coreArgs_tail hc)]
  | .del o c b :: tl, m, rest, sp :: sig, hc => by
    have hb : coreItems ctx (deltaMath m sp.delta) (c :: (unparseArgs tl ++ rest)) b = true := by
      simp only [coreArgs, Bool.and_eq_true] at hc
      exact hc.1.2
    simp only [exactArgs, treeArgs, forgetArgList, forgetArg, forget, forgetBody, normList_forgetNodes_mergeX,
      forget_exactRaw ctx b none _ _ hb, forget_exactArgs ctx tl m rest sig (coreArgs_tail hc)]
  | .verb _ _ _ :: _, _, _, _ :: _, hc => by simp [coreArgs] at hc
end

theorem shapeOfList_of_exact {ctx : Ctx} {d : List Item} {s : Str} {ns : List Node} (hc : coreItems ctx false [] d = true)
    (hx : eraseNodes s ns = exactOf ctx d) : shapeOfList ns = treeOf ctx d := by
  unfold shapeOfList treeOf
  rw [← forgetNodes_erase s, hx, exactOf, normList_forgetNodes_mergeX, forget_exactRaw ctx d none false [] hc]

end projection

/-- **prefix lemma.**  With the collector in front of `w ++ unparse a ++ after` (`w` whitespace not yet read; any
    pending characters, any accumulated nodes, any stop condition), it produces the structure of `a` and stands in
    front of (whitespace and) `after`. -/
theorem items_reach (ctx : Ctx) (htol : env.tol = false) (hk : keysCore keys = true) (hctx : env.ctx = ctx)
    (hkeys : ctxKeys ctx = keys) :
    ∀ (a : List Item) (m : Bool) (after : Str), coreItems ctx m after a = true → ∀ (md : Option Str), NormOk m md →
      ∀ (br : Xp) (stop : StopTok) (child : ChildPS), XpOk br →
      (∀ t : Token, (t.kind = .braceOpen → t.arg = ['{']) → child.get (stdF keys m md true br) t = stdF keys m md true) →
      (m = false → ∀ t : Token, t.kind = .mathInline ∨ t.kind = .mathDisplay → stop.test t = false) →
      ∀ (st : LoopSt) (w : Str), isWs w = true → countNl w < 2 →
        (w = [] ∨ headIs isPySpace (unparseItems a ++ after) = false) →
        env.s.drop st.pos = w ++ (unparseItems a ++ after) →
        ReachesW env (stdF keys m md true br) stop child st w (treeRaw ctx none a) after := by
  intro a m after hc md hn br stop child hx hch hsm st w hw hnl hpre hd
  rw [← forget_exactRaw ctx a none m after hc]
  exact ReachesW.of_exact
    (L2T.C03S.items_reachX ctx htol hk hctx hkeys a m after hc md hn br stop child hx hch hsm st w hw hnl hpre hd)

theorem args_reach (ctx : Ctx) (htol : env.tol = false) (hk : keysCore keys = true) (hctx : env.ctx = ctx)
    (hkeys : ctxKeys ctx = keys) :
    ∀ (sig : List ArgSpec) (args : List ArgVal) (m : Bool) (rest : Str), coreArgs ctx m rest sig args = true →
      ∀ (md : Option Str), NormOk m md → ∀ (acc : List Arg) (pos : Nat), env.s.drop pos = unparseArgs args ++ rest →
      ∃ al pA, ArgsEv env (stdF keys m md true) sig acc pos (.ok (.args none none (acc ++ al)) pA) ∧ pos ≤ pA ∧
        env.s.drop pA = rest ∧ shapeOfArgList al = treeArgs ctx args := by
  intro sig args m rest hc md hn acc pos hd
  obtain ⟨al, pA, hAE, hpA, hdpA, hx⟩ := L2T.C03S.args_reachX ctx htol hk hctx hkeys sig args m rest hc md hn acc pos hd
  refine ⟨al, pA, hAE, hpA, hdpA, ?_⟩
  rw [← L2T.C03S.forgetArgList_erase env.s, hx, forget_exactArgs ctx args m rest sig hc]

end constructs

/-- **C02, full statement** (kept as a proposition; proved below for the fragment `Doc.Core`, covered by the
    correspondence check and the structure oracle outside it): for every context and every well-formed document of
    the grammar, the strict parse of its source returns exactly the structure it was written with. -/
def C02_full : Prop :=
  ∀ (ctx : Ctx) (d : List Item), WF ctx d = true → shapeTop (parseStrict ctx (unparse d)) = some (treeOf ctx d)

/-- counterexample context: one macro `\a` without arguments -/
def cexCtx : Ctx := { macros := [(['a'], .std [])] }

/-- counterexample document `\a x`, written as the macro (no post-space), a whitespace item, a text item -/
def cexDoc : List Item := [.M ['a'] [] [], .W [' '], .T ['x']]

/-- `Doc.WF` excludes it: a control word without written argument and with an empty `post` must not be
    followed by a whitespace item (the generator folds that whitespace into `post`) -/
example : WF cexCtx cexDoc = false := by decide +kernel

/-- written with the blank as the macro's post-space it is well formed -/
example : WF cexCtx [.M ['a'] [' '] [], .T ['x']] = true := by decide +kernel

theorem startFields_std (ctx : Ctx) : startFields ctx = stdF (ctxKeys ctx) false none true := rfl


/-- **C02 on the core fragment, every amount of fuel that is large enough.** -/
theorem C02_core_run (ctx : Ctx) (d : List Item) (h : Core ctx d = true) :
    ∃ N, ∀ n, N ≤ n →
      shapeTop (run { tol := false, ctx := ctx, s := unparse d } n (topTask (startFields ctx))) = some (treeOf ctx d) := by
  have hc : coreItems ctx false [] d = true := by
    unfold Core at h
    rw [Bool.and_eq_true] at h
    exact h.2
  obtain ⟨a, b, ns, pos, ⟨N, hN⟩, hx⟩ := L2T.C03S.core_evX ctx d h
  refine ⟨N, fun n hn => ?_⟩
  rw [hN n hn]
  show some (shapeOfList ns) = _
  rw [shapeOfList_of_exact hc hx]

/-- the parse also ends exactly at the end of the source and is a node list (not an error, not a crash) -/
theorem C02_core_ok (ctx : Ctx) (d : List Item) (h : Core ctx d = true) :
    ∃ a b ns, parseStrict ctx (unparse d) = .ok (.list a b ns) (unparse d).length ∧ shapeOfList ns = treeOf ctx d := by
  have hc : coreItems ctx false [] d = true := by
    unfold Core at h
    rw [Bool.and_eq_true] at h
    exact h.2
  obtain ⟨a, b, ns, hp, hx⟩ := L2T.C03S.C02x_core_exact ctx d h
  exact ⟨a, b, ns, hp, shapeOfList_of_exact hc hx⟩

/-- **C02 on the core fragment** (`parseTop`, i.e. the fuel `fuelFor s` the model runs with): for every context and
    document that `Doc.Core` admits (what that covers is said at the head of this file), the strict parse of the
    document's source returns exactly the structure the document was written with. -/
theorem C02_core (ctx : Ctx) (d : List Item) (h : Core ctx d = true) :
    shapeTop (parseStrict ctx (unparse d)) = some (treeOf ctx d) := by
  obtain ⟨a, b, ns, hp, hsh⟩ := C02_core_ok ctx d h
  rw [hp]
  show some (shapeOfList ns) = _
  rw [hsh]

/-! `Core` is inhabited in every construct it admits: example documents, their sources, and the structures `treeOf`
    gives them. -/

/-- `ab{c{}{de}}f` -/
def exDoc : List Item :=
  [.T ['a', 'b'], .G [.T ['c'], .G [], .G [.T ['d', 'e']]], .T ['f']]

/-- `a{%x}\n  b}` followed by `c`: a comment whose text contains a closing brace, inside a group -/
def exDoc2 : List Item :=
  [.T ['a'], .G [.C ['x', '}'] ['\n', ' ', ' '], .T ['b']], .T ['c']]

/-- whitespace between and inside the other items, also behind a comment: `a {b c}` newline `%x` newline, two blanks, `d` -/
def exDocW : List Item :=
  [.T ['a'], .W [' '], .G [.T ['b'], .W [' '], .T ['c'], .W [' ']], .W ['\n'], .C ['x'] ['\n'], .W [' ', ' '], .T ['d']]

/-- macro calls: `\section*[s]{T x} \sqrt{y}\item z` — star, bracket and brace arguments, an absent optional argument
    before a brace group, an absent trailing optional argument, a post-space -/
def exDocM : List Item :=
  [.M "section".toList [] [.star, .br [.T ['s']], .grp [.T ['T'], .W [' '], .T ['x']]], .W [' '],
   .M "sqrt".toList [] [.absent, .grp [.T ['y']]],
   .M "item".toList [' '] [.absent], .T ['z']]

/-- math: `$x$ \(y\) \[z\] $$w$$ $\mbox{\(a\)}$` — the four delimiter pairs, and math inside an argument that leaves math mode -/
def exDocF : List Item :=
  [.F .dollar [.T ['x']], .W [' '], .F .paren [.T ['y']], .W [' '], .F .brack [.T ['z']], .W [' '], .F .ddollar [.T ['w']],
   .W [' '], .F .dollar [.M "mbox".toList [] [.grp [.F .paren [.T ['a']]]]]]

/-- specials: `a~b --- c` and the ligature inside math and inside an argument: `$x~y$\emph{``q''}` -/
def exDocS : List Item :=
  [.T ['a'], .S ['~'] [], .T ['b'], .W [' '], .S ['-', '-', '-'] [], .W [' '], .T ['c'],
   .F .dollar [.T ['x'], .S ['~'] [], .T ['y']],
   .M "emph".toList [] [.grp [.S ['`', '`'] [], .T ['q'], .S ['\'', '\''] []]]]

/-- paragraph breaks: at top level, behind a control word (no post-space then), behind a comment line (whose newline the
    break swallows), inside a group -/
def exDocP : List Item :=
  [.T ['a'], .P ['\n', '\n'], .T ['b'], .W [' '], .M "alpha".toList [] [], .P ['\n', ' ', '\n'], .T ['c'], .C ['x'] ['\n', ' '],
   .P ['\n', '\n', '\n'], .G [.T ['d'], .P ['\n', '\n']]]

/-- a context without the paragraph specials (and with an unknown-macro fallback): a break is plain text there -/
def exCtxNoPar : Ctx := { unknownMacro := some (.std []) }

/-- single-token arguments: `\frac a{b}\frac12 \sqrt[x]y` -/
def exDocTok : List Item :=
  [.M "frac".toList [' '] [.tok 'a', .grp [.T ['b']]], .M "frac".toList [] [.tok '1', .tok '2'], .W [' '],
   .M "sqrt".toList [] [.br [.T ['x']], .tok 'y']]

/-- environments: an absent optional argument, a math body, arguments, an unknown environment (fallback of the default
    context), nesting -/
def exDocE : List Item :=
  [.E "itemize".toList [.absent] [.M "item".toList [' '] [.absent], .T ['a'], .W ['\n']], .W [' '],
   .E "equation".toList [] [.T ['x'], .S ['~'] [], .M "mbox".toList [] [.grp [.F .dollar [.T ['y']]]]],
   .E "array".toList [.br [.T ['t']], .grp [.T ['c']]] [.T ['y'], .S ['&'] [], .T ['z']],
   .E "foo".toList [] [.E "center".toList [] [.T ['z']]]]

/-- a context with delimited (`r`, `d`) and marker (`t`) arguments — the default context has none -/
def exCtxD : Ctx :=
  { macros := [(['r'], .std [⟨.r '(' ')', .none⟩]), (['d'], .std [⟨.d '<' '>', .none⟩, ⟨.m, .none⟩]), (['t'], .std [⟨.t '+', .none⟩]),
               (['e'], .std [⟨.m, .enterMath⟩])],
    specials := [(['~'], .std [])] }

/-- `\r(a{b} ~\e{x})\d<x>{y}\d{z}\t+\t q` + paragraph break + `p` -/
def exDocD : List Item :=
  [.M ['r'] [] [.del '(' ')' [.T ['a'], .G [.T ['b']], .W [' '], .S ['~'] [], .M ['e'] [] [.grp [.T ['x']]]]],
   .M ['d'] [] [.del '<' '>' [.T ['x']], .grp [.T ['y']]], .M ['d'] [] [.absent, .grp [.T ['z']]],
   .M ['t'] [] [.marker '+'], .M ['t'] [' '] [.absent], .T ['q'], .P ['\n', '\n'], .T ['p']]

/-- `\verb`: `a \verb|b{$ %\|x{\verb!!}` -/
def exDocV : List Item :=
  [.T ['a'], .W [' '], .V '|' "b{$ %\\".toList, .T ['x'], .G [.V '!' []]]

/-- control symbols: `a\\*[x] b\,c\%` -/
def exDocSym : List Item :=
  [.T ['a'], .M ['\\'] [] [.star, .br [.T ['x']]], .W [' '], .T ['b'], .M [','] [] [], .T ['c'], .M ['%'] [] []]

theorem exDocSym_core : Core Gen.defaultCtx exDocSym = true := by decide +kernel
example : shapeTop (parseStrict Gen.defaultCtx (unparse exDocSym)) = some (treeOf Gen.defaultCtx exDocSym) := C02_core _ _ exDocSym_core
example : unparse exDocSym = "a\\\\*[x] b\\,c\\%".toList := by decide +kernel

theorem exDocP_core : Core Gen.defaultCtx exDocP = true := by decide +kernel
theorem exDocP_core' : Core exCtxNoPar exDocP = true := by decide +kernel
theorem exDocTok_core : Core Gen.defaultCtx exDocTok = true := by decide +kernel
theorem exDocE_core : Core Gen.defaultCtx exDocE = true := by decide +kernel
theorem exDocD_core : Core exCtxD exDocD = true := by decide +kernel
theorem exDocV_core : Core Gen.defaultCtx exDocV = true := by decide +kernel

example : shapeTop (parseStrict Gen.defaultCtx (unparse exDocP)) = some (treeOf Gen.defaultCtx exDocP) := C02_core _ _ exDocP_core
example : shapeTop (parseStrict exCtxNoPar (unparse exDocP)) = some (treeOf exCtxNoPar exDocP) := C02_core _ _ exDocP_core'
example : shapeTop (parseStrict Gen.defaultCtx (unparse exDocTok)) = some (treeOf Gen.defaultCtx exDocTok) := C02_core _ _ exDocTok_core
example : shapeTop (parseStrict Gen.defaultCtx (unparse exDocE)) = some (treeOf Gen.defaultCtx exDocE) := C02_core _ _ exDocE_core
example : shapeTop (parseStrict exCtxD (unparse exDocD)) = some (treeOf exCtxD exDocD) := C02_core _ _ exDocD_core
example : shapeTop (parseStrict Gen.defaultCtx (unparse exDocV)) = some (treeOf Gen.defaultCtx exDocV) := C02_core _ _ exDocV_core

example : unparse exDocP = "a\n\nb \\alpha\n \nc%x\n \n\n\n{d\n\n}".toList := by decide +kernel
example : unparse exDocTok = "\\frac a{b}\\frac12 \\sqrt[x]y".toList := by decide +kernel
example : unparse exDocE =
    "\\begin{itemize}\\item a\n\\end{itemize} \\begin{equation}x~\\mbox{$y$}\\end{equation}\\begin{array}[t]{c}y&z\\end{array}\\begin{foo}\\begin{center}z\\end{center}\\end{foo}".toList := by
  decide +kernel
example : unparse exDocD = "\\r(a{b} ~\\e{x})\\d<x>{y}\\d{z}\\t+\\t q\n\np".toList := by decide +kernel
example : unparse exDocV = "a \\verb|b{$ %\\|x{\\verb!!}".toList := by decide +kernel

/-- the expected structures (canonical text of `treeOf`): the paragraph specials under the default context … -/
example : showShapeList (treeOf Gen.defaultCtx exDocP) =
    "(c \"a\") (s \"%a;%a;\" <>) (c \"b%20;\") (m \"alpha\" <>) (s \"%a;%a;\" <>) (c \"c\") (% \"x\") (s \"%a;%a;\" <>) (g \"{\" \"}\" [(c \"d\") (s \"%a;%a;\" <>)])" := by
  decide +kernel
/-- … and plain text without them (the break behind the comment holds the comment's newline and indentation) -/
example : showShapeList (treeOf exCtxNoPar exDocP) =
    "(c \"a%a;%a;b%20;\") (m \"alpha\" <>) (c \"%a;%20;%a;c\") (% \"x\") (g \"{\" \"}\" [(c \"d%a;%a;\")])" := by
  decide +kernel
example : showShapeList (treeOf Gen.defaultCtx exDocTok) =
    "(m \"frac\" <(c \"a\") (g \"{\" \"}\" [(c \"b\")])>) (m \"frac\" <(c \"1\") (c \"2\")>) (m \"sqrt\" <(g \"[\" \"]\" [(c \"x\")]) (c \"y\")>)" := by
  decide +kernel
example : showShapeList (treeOf Gen.defaultCtx exDocE) =
    "(e \"itemize\" <-> [(m \"item\" <->) (c \"a%a;\")]) (e \"equation\" <> [(c \"x\") (s \"~\" <>) (m \"mbox\" <(g \"{\" \"}\" [(f I \"$\" \"$\" [(c \"y\")])])>)]) (e \"array\" <(g \"[\" \"]\" [(c \"t\")]) (g \"{\" \"}\" [(c \"c\")])> [(c \"y\") (s \"&\" <>) (c \"z\")]) (e \"foo\" <> [(e \"center\" <> [(c \"z\")])])" := by
  decide +kernel
example : showShapeList (treeOf exCtxD exDocD) =
    "(m \"r\" <(g \"(\" \")\" [(c \"a\") (g \"{\" \"}\" [(c \"b\")]) (s \"~\" <>) (m \"e\" <(g \"{\" \"}\" [(c \"x\")])>)])>) (m \"d\" <(g \"<\" \">\" [(c \"x\")]) (g \"{\" \"}\" [(c \"y\")])>) (m \"d\" <- (g \"{\" \"}\" [(c \"z\")])>) (m \"t\" <(L [(c \"+\")])>) (m \"t\" <->) (c \"q%a;%a;p\")" := by
  decide +kernel
example : showShapeList (treeOf Gen.defaultCtx exDocV) =
    "(c \"a%20;\") (m \"verb\" <(c \"b{$%20;%25;\\\")>) (c \"x\") (g \"{\" \"}\" [(m \"verb\" <(c \"\")>)])" := by
  decide +kernel

theorem exDoc_core : Core Gen.defaultCtx exDoc = true := by decide +kernel
theorem exDocS_core : Core Gen.defaultCtx exDocS = true := by decide +kernel
theorem exDoc2_core : Core Gen.defaultCtx exDoc2 = true := by decide +kernel
theorem exDocW_core : Core Gen.defaultCtx exDocW = true := by decide +kernel
theorem exDocM_core : Core Gen.defaultCtx exDocM = true := by decide +kernel
theorem exDocF_core : Core Gen.defaultCtx exDocF = true := by decide +kernel

/-- the default context and the example documents satisfy the hypothesis of `C02_core`, whose conclusion for them is -/
example : shapeTop (parseStrict Gen.defaultCtx (unparse exDoc)) = some (treeOf Gen.defaultCtx exDoc) :=
  C02_core _ _ exDoc_core
example : shapeTop (parseStrict Gen.defaultCtx (unparse exDoc2)) = some (treeOf Gen.defaultCtx exDoc2) :=
  C02_core _ _ exDoc2_core
example : shapeTop (parseStrict Gen.defaultCtx (unparse exDocW)) = some (treeOf Gen.defaultCtx exDocW) :=
  C02_core _ _ exDocW_core
example : shapeTop (parseStrict Gen.defaultCtx (unparse exDocM)) = some (treeOf Gen.defaultCtx exDocM) :=
  C02_core _ _ exDocM_core
example : shapeTop (parseStrict Gen.defaultCtx (unparse exDocF)) = some (treeOf Gen.defaultCtx exDocF) :=
  C02_core _ _ exDocF_core
example : shapeTop (parseStrict Gen.defaultCtx (unparse exDocS)) = some (treeOf Gen.defaultCtx exDocS) :=
  C02_core _ _ exDocS_core
example : unparse exDocS = "a~b --- c$x~y$\\emph{``q''}".toList := by decide +kernel

example : unparse exDoc = ['a', 'b', '{', 'c', '{', '}', '{', 'd', 'e', '}', '}', 'f'] := by decide +kernel

/-- the expected structures are not trivial (canonical text of `treeOf`) -/
example : showShapeList (treeOf Gen.defaultCtx exDoc) =
    "(c \"ab\") (g \"{\" \"}\" [(c \"c\") (g \"{\" \"}\" []) (g \"{\" \"}\" [(c \"de\")])]) (c \"f\")" := by decide +kernel

example : unparse exDocM = "\\section*[s]{T x} \\sqrt{y}\\item z".toList := by decide +kernel

example : showShapeList (treeOf Gen.defaultCtx exDocM) =
    "(m \"section\" <(c \"*\") (g \"[\" \"]\" [(c \"s\")]) (g \"{\" \"}\" [(c \"T%20;x\")])>) (m \"sqrt\" <- (g \"{\" \"}\" [(c \"y\")])>) (m \"item\" <->) (c \"z\")" := by
  decide +kernel

example : showShapeList (treeOf Gen.defaultCtx exDocF) =
    "(f I \"$\" \"$\" [(c \"x\")]) (f I \"\\(\" \"\\)\" [(c \"y\")]) (f D \"\\[\" \"\\]\" [(c \"z\")]) (f D \"$$\" \"$$\" [(c \"w\")]) (f I \"$\" \"$\" [(m \"mbox\" <(g \"{\" \"}\" [(f I \"\\(\" \"\\)\" [(c \"a\")])])>)])" := by
  decide +kernel

example : unparse exDocF = "$x$ \\(y\\) \\[z\\] $$w$$ $\\mbox{\\(a\\)}$".toList := by decide +kernel

/-- adjacent text items are one chars node for the parser and for `treeOf` alike; the empty context is allowed -/
example : Core {} [.T ['a'], .T ['b'], .G [.T ['x'], .W [' '], .T ['y']]] = true := by decide +kernel

section exact
open L2T.C03S

/-- the conclusion for the whitespace example of C02 (`a {b c }⏎%x⏎␣␣d`): whitespace-only nodes and the comment's
    post-space are there -/
example : ∃ a b ns, parseTop { tol := true, ctx := Gen.defaultCtx, s := unparse exDocW } (L2T.startFields Gen.defaultCtx) =
      .ok (.list a b ns) (unparse exDocW).length ∧ eraseNodes (unparse exDocW) ns = exactOf Gen.defaultCtx exDocW :=
  C03_exact_roundtrip _ _ exDocW_core

example : showXList (exactOf Gen.defaultCtx exDocW) =
    "(c \"a%20;\") (g \"{\" \"}\" [(c \"b%20;c%20;\")]) (c \"%a;\") (% \"x\" \"%a;%20;%20;\") (c \"d\")" := by
  decide +kernel

end exact

end C02
end Pylx
