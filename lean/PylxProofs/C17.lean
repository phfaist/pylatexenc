/-
  C17 — a derived parsing state behaves exactly like a freshly built one.
  Theorems about `Pylx.PState.subContext` (model of ParsingState.sub_context with its cache inheritance).
-/
import Pylx.Tok
namespace Pylx

/-- state invariant: the cached tables are the ones computed from the fields, and the fields are normalised -/
def PState.Inv (p : PState) : Prop := p.t = computeTables p.f ∧ p.f.normalize = p.f

theorem normalize_idem (f : PSFields) : f.normalize.normalize = f.normalize := by
  unfold PSFields.normalize
  split
  · rename_i h; simp [h]
  · rename_i h; simp [h]

/-- a field set that has a math delimiter only in math mode is normalised -/
theorem normalize_of_inMath {f : PSFields} (h : f.inMath = false → f.mathDelim = none) : f.normalize = f := by
  unfold PSFields.normalize
  split
  · rfl
  · rename_i hm
    have := h (by simpa using hm)
    cases f
    simp only at this
    subst this
    rfl

theorem fresh_inv (f : PSFields) : (PState.fresh f).Inv :=
  ⟨rfl, normalize_idem f⟩

@[simp] theorem normalize_groupDelims (f : PSFields) : f.normalize.groupDelims = f.groupDelims := by
  unfold PSFields.normalize; split <;> rfl
@[simp] theorem normalize_inlineDelims (f : PSFields) : f.normalize.inlineDelims = f.inlineDelims := by
  unfold PSFields.normalize; split <;> rfl
@[simp] theorem normalize_displayDelims (f : PSFields) : f.normalize.displayDelims = f.displayDelims := by
  unfold PSFields.normalize; split <;> rfl
@[simp] theorem normalize_inMath (f : PSFields) : f.normalize.inMath = f.inMath := by
  unfold PSFields.normalize; split <;> rfl

theorem apply_groupDelims (c : Change) (f : PSFields) (h : c.isGroup = false) :
    (c.apply f).groupDelims = f.groupDelims := by
  cases c <;> simp [Change.apply, Change.isGroup] at * 

theorem apply_mathLists (c : Change) (f : PSFields) (h : c.isMathList = false) :
    (c.apply f).inlineDelims = f.inlineDelims ∧ (c.apply f).displayDelims = f.displayDelims := by
  cases c <;> simp [Change.apply, Change.isMathList] at *

theorem apply_mode (c : Change) (f : PSFields) (h : c.isMode = false) :
    (c.apply f).inMath = f.inMath ∧ (c.apply f).mathDelim = f.mathDelim := by
  cases c <;> simp [Change.apply, Change.isMode] at *

/-- a component that no keyword of the list touches survives the update -/
theorem foldl_apply_inv {α : Type} (g : PSFields → α) (q : Change → Bool)
    (hq : ∀ c f, q c = false → g (c.apply f) = g f) (kw : List Change) (f : PSFields) (h : kw.any q = false) :
    g (kw.foldl (fun f c => c.apply f) f) = g f := by
  induction kw generalizing f with
  | nil => rfl
  | cons c kw ih =>
    simp only [List.any_cons, Bool.or_eq_false_iff] at h
    rw [List.foldl_cons, ih _ h.2, hq c f h.1]

theorem ite_eq_of_imp {α : Type} {c : Prop} [Decidable c] {a b : α} (h : ¬ c → b = a) : (if c then a else b) = a := by
  split
  · rfl
  · exact h ‹_›

theorem groupTables_congr (f g : PSFields) (h : f.groupDelims = g.groupDelims) : groupTables f = groupTables g := by
  simp [groupTables, h]

theorem mathTables_congr (f g : PSFields) (h1 : f.inlineDelims = g.inlineDelims) (h2 : f.displayDelims = g.displayDelims) :
    mathTables f = mathTables g := by
  simp [mathTables, h1, h2]

theorem expectCloseOf_congr (f g : PSFields) (bo) (h1 : f.inMath = g.inMath) (h2 : f.mathDelim = g.mathDelim) :
    expectCloseOf f bo = expectCloseOf g bo := by
  simp [expectCloseOf, h1, h2]

/-- in a normalised field set the delimiter is kept exactly when in math mode -/
theorem normalize_mathDelim_of_fixed (f g : PSFields) (hg : g.normalize = g) (h1 : f.inMath = g.inMath) (h2 : f.mathDelim = g.mathDelim) :
    f.normalize.mathDelim = g.mathDelim := by
  cases hgm : g.inMath with
  | true =>
    have hfm : f.inMath = true := by rw [h1, hgm]
    simp [PSFields.normalize, hfm, h2]
  | false =>
    have hfm : f.inMath = false := by rw [h1, hgm]
    have hgn : g.mathDelim = none := by
      have := congrArg PSFields.mathDelim hg
      simpa [PSFields.normalize, hgm] using this.symm
    simp [PSFields.normalize, hfm, hgn]

/-- one `sub_context` step of the repaired code preserves the invariant -/
theorem subContext_inv (p : PState) (kw : List Change) (h : p.Inv) : (p.subContext false kw).Inv := by
  obtain ⟨ht, hn⟩ := h
  unfold PState.subContext PState.Inv
  simp only
  generalize hkw : kw.filter (·.differs p.f) = kw2
  generalize hf' : kw2.foldl (fun f c => c.apply f) p.f = f'
  refine ⟨?_, normalize_idem f'⟩
  have htg : (p.t.groupByOpen, p.t.groupClose) = groupTables p.f := by rw [ht]; rfl
  have htm : (p.t.mathStart, p.t.mathAll, p.t.mathByOpen) = mathTables p.f := by rw [ht]; rfl
  have hte : p.t.expectClose = expectCloseOf p.f (mathTables p.f).2.2 := by rw [ht]; rfl
  -- each table group that is inherited is the one that would be recomputed, its inputs being unchanged
  have hG : (if kw2.any (·.isGroup) then groupTables f'.normalize else (p.t.groupByOpen, p.t.groupClose))
      = groupTables f'.normalize := by
    refine ite_eq_of_imp (fun hg => ?_)
    rw [htg]
    apply groupTables_congr
    rw [normalize_groupDelims, ← hf', foldl_apply_inv (·.groupDelims) _ apply_groupDelims kw2 p.f (by simpa using hg)]
  have hml : kw2.any (·.isMathList) = false → mathTables f'.normalize = mathTables p.f := by
    intro hg
    apply mathTables_congr
    · rw [normalize_inlineDelims, ← hf',
        foldl_apply_inv (·.inlineDelims) _ (fun c f h => (apply_mathLists c f h).1) kw2 p.f hg]
    · rw [normalize_displayDelims, ← hf',
        foldl_apply_inv (·.displayDelims) _ (fun c f h => (apply_mathLists c f h).2) kw2 p.f hg]
  have hM : (if kw2.any (·.isMathList) then mathTables f'.normalize else (p.t.mathStart, p.t.mathAll, p.t.mathByOpen))
      = mathTables f'.normalize := by
    refine ite_eq_of_imp (fun hg => ?_)
    rw [htm, hml (by simpa using hg)]
  rw [hG, hM]
  have hE : (if (kw2.any (·.isMode) || (!false && kw2.any (·.isMathList))) = true
              then expectCloseOf f'.normalize (mathTables f'.normalize).2.2 else p.t.expectClose)
      = expectCloseOf f'.normalize (mathTables f'.normalize).2.2 := by
    refine ite_eq_of_imp (fun hc => ?_)
    simp only [Bool.not_false, Bool.true_and, Bool.or_eq_true, not_or, Bool.not_eq_true] at hc
    have hmo1 := foldl_apply_inv (·.inMath) _ (fun c f h => (apply_mode c f h).1) kw2 p.f hc.1
    have hmo2 := foldl_apply_inv (·.mathDelim) _ (fun c f h => (apply_mode c f h).2) kw2 p.f hc.1
    rw [hf'] at hmo1 hmo2
    rw [hte, hml hc.2]
    apply expectCloseOf_congr
    · rw [normalize_inMath, hmo1]
    · exact (normalize_mathDelim_of_fixed f' p.f hn hmo1 hmo2).symm
  simp only [computeTables]
  rw [hE]

theorem chain_inv (p : PState) (ch : List (List Change)) (h : p.Inv) : (PState.chain false p ch).Inv := by
  induction ch generalizing p with
  | nil => exact h
  | cons kw ch ih => exact ih _ (subContext_inv p kw h)

/-- **C17 (tables).** For every root field set and every chain of `sub_context` keyword sets, the cached
    tables of the derived state are exactly the tables computed from its fields. -/
theorem C17_tables (f0 : PSFields) (ch : List (List Change)) :
    (PState.chain false (PState.fresh f0) ch).t = computeTables (PState.chain false (PState.fresh f0) ch).f :=
  (chain_inv _ ch (fresh_inv f0)).1

/-- **C17 (derived = fresh).** The derived state *is* the state built directly from its field values. -/
theorem C17_derived_eq_fresh (f0 : PSFields) (ch : List (List Change)) :
    PState.chain false (PState.fresh f0) ch = PState.fresh (PState.chain false (PState.fresh f0) ch).f := by
  have h := chain_inv _ ch (fresh_inv f0)
  generalize PState.chain false (PState.fresh f0) ch = p at h
  obtain ⟨ht, hn⟩ := h
  cases p with
  | mk f t =>
    simp only [PState.fresh] at *
    rw [hn, ← ht]

/-- **C17 (fields).** The fields of a derived state are the parent's fields updated by the keywords that
    differ from the current values, then normalised as the constructor does. -/
theorem C17_fields (b : Bool) (p : PState) (kw : List Change) :
    (p.subContext b kw).f = ((kw.filter (·.differs p.f)).foldl (fun f c => c.apply f) p.f).normalize := rfl

/-- a keyword equal to the current value changes nothing -/
theorem apply_of_not_differs (c : Change) (f : PSFields) (h : c.differs f = false) : c.apply f = f := by
  cases c <;> simp [Change.differs, Change.apply] at * <;> (cases f; simp_all)

/-- **C17 (same behaviour).** Hence tokenizing with the derived state equals tokenizing with the fresh state
    of the same fields, at every position of every string, strict or tolerant. -/
theorem C17_same_peek (f0 : PSFields) (ch : List (List Change)) (tol : Bool) (s : Str) (pos : Nat) :
    peekTok tol (PState.chain false (PState.fresh f0) ch) s pos
      = peekTok tol (PState.fresh (PState.chain false (PState.fresh f0) ch).f) s pos := by
  rw [← C17_derived_eq_fresh]

/-- The code as it stands in the repository (before the repair, `inheritBug = true`) violates the property: enter math mode with `$`,
    then change the inline delimiters to `$…!` — the derived state still expects `$`. -/
theorem C17_as_is_counterexample :
    let p := PState.chain true (PState.fresh {}) [[.inMath true, .mathDelim (some ['$'])], [.inlineDelims [(['$'], ['!'])]]]
    p.t ≠ computeTables p.f ∧ p.t.expectClose = some (['$'], false) ∧ (computeTables p.f).expectClose = some (['!'], false) := by
  decide

/-- Non-vacuity: a concrete chain that recomputes and inherits different table groups. -/
example : (PState.chain false (PState.fresh {}) [[.inMath true, .mathDelim (some ['$'])], [.inlineDelims [(['$'], ['!'])]]]).t.expectClose
    = some (['!'], false) := by decide

end Pylx
