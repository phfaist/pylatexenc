/-
  C10 — definitions: the relation "the tree is mode-consistent under the mode handed down by the parent".
-/
import PylxProofs.ParseSpec
namespace Pylx
namespace C10

/-- the mode of the contents of a math formula opened by `d` -/
def mathInfo (d : Str) : PSInfo := { inMath := true, mathDelim := some d }

section
variable (P : Str → Str → Bool → Prop) (ctx : Ctx)

mutual
/-- the node records `cur` and its children record what the node implies for them.
    `P dopen dclose display` is what is required of the delimiters of a math node. -/
def NodeM (cur : PSInfo) : Node → Prop
  | .chars _ _ ps _ => ps = cur
  | .comment _ _ ps _ _ => ps = cur
  | .group _ _ ps _ _ b => ps = cur ∧ BodyM cur b
  | .mac _ _ ps name _ a => ps = cur ∧ OptArgsM cur (ctx.macroSpec name) a
  | .env _ _ ps name a b =>
    ps = cur ∧ OptArgsM cur ((ctx.envSpec name).map (·.1)) a ∧
      BodyM (if (ctx.envSpec name).map (·.2) = some true then enterMathInfo else cur) b
  | .specials _ _ ps chars a => ps = cur ∧ OptArgsM cur (lookupFirst chars ctx.specials) a
  | .math _ _ ps disp o c b => ps = cur ∧ P o c disp ∧ BodyM (mathInfo o) b
def BodyM (cur : PSInfo) : Option (List Node) → Prop
  | none => True
  | some ns => ListM cur ns
def ListM (cur : PSInfo) : List Node → Prop
  | [] => True
  | n :: ns => NodeM cur n ∧ ListM cur ns
/-- arguments of a call whose specification is `spec`: with standard argument specifications, one slot per
    specification, slot `i` under `deltaInfo cur specs[i].delta` (or no slot at all: a bare token taken as a
    single-token argument); legacy verbatim arguments under `cur` -/
def OptArgsM (cur : PSInfo) (spec : Option ArgsP) : Option (List Arg) → Prop
  | none => True
  | some l =>
    match spec with
    | some (.std specs) => (l.length = specs.length ∧ ArgListM cur (specs.map (·.delta)) l) ∨ l = []
    | _ => ArgListM cur [] l
/-- slot `i` under `deltaInfo cur ds[i]` (`cur` where `ds` is exhausted) -/
def ArgListM (cur : PSInfo) : List Delta → List Arg → Prop
  | _, [] => True
  | ds, a :: l => ArgM (deltaInfo cur (ds.headD .none)) a ∧ ArgListM cur ds.tail l
def ArgM (cur : PSInfo) : Arg → Prop
  | .absent => True
  | .node n => NodeM cur n
  | .list _ _ ns => ListM cur ns
end


/-! ### basic facts about the relation -/

variable {P ctx}

theorem ListM_append (cur : PSInfo) (a b : List Node) :
    ListM P ctx cur (a ++ b) ↔ ListM P ctx cur a ∧ ListM P ctx cur b := by
  induction a with
  | nil => exact ⟨fun h => ⟨trivial, h⟩, fun h => h.2⟩
  | cons n ns ih => exact (and_congr_right fun _ => ih).trans and_assoc.symm

theorem ListM_single (cur : PSInfo) (n : Node) : ListM P ctx cur [n] ↔ NodeM P ctx cur n :=
  ⟨fun h => h.1, fun h => ⟨h, trivial⟩⟩

theorem ListM_snoc (cur : PSInfo) (a : List Node) (n : Node) (ha : ListM P ctx cur a) (hn : NodeM P ctx cur n) :
    ListM P ctx cur (a ++ [n]) := (ListM_append cur a [n]).2 ⟨ha, (ListM_single cur n).2 hn⟩

theorem ListM_getLast (cur : PSInfo) (a : List Node) (n : Node) (ha : ListM P ctx cur a) (h : a.getLast? = some n) :
    NodeM P ctx cur n := by
  obtain ⟨ys, rfl⟩ := List.getLast?_eq_some_iff.mp h
  exact (ListM_single cur n).1 ((ListM_append cur ys [n]).1 ha).2

end

end C10
end Pylx
