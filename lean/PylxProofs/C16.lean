/-
  C16 — the pylatexenc-2 compatible entry points agree with the pylatexenc-3 parser objects.
  Theorems about `Pylx.Legacy` (model of the shims) over `Pylx.run` (model of `parse_content`),
  for every context, string, start position, parsing state and amount of fuel.
-/
import Pylx.Legacy
import PylxProofs.C01Tok
import PylxProofs.C05Tok
import PylxProofs.StepLemmas
namespace Pylx.Legacy
open Pylx

/-- the legacy tuple of a single node: `(node, node.pos, node.len)` -/
def tupleOf (n : Node) : LRes := .tuple (.node n) (some n.pos) (some (nodeLen n))

/-- `(nodelist, nodelist.pos, reader position - nodelist.pos)` -/
def projNodes : Ret → LRes
  | .ok (.list (some p) e ns) q => .tuple (.list (some p) e ns) (some p) (some ((q : Int) - (p : Int)))
  | .ok (.list none _ _) _ => .crash "TypeError"
  | .ok .none _ => .tuple .none none none
  | .ok _ _ => .crash "AttributeError"
  | .perr e => .perr e
  | .loopEnd _ => .crash "loopEnd"
  | .crash k => .crash k
  | .fuel => .fuel

def LRes.isTuple : LRes → Bool
  | .tuple _ _ _ => true
  | _ => false

def LRes.isPerr : LRes → Bool
  | .perr _ => true
  | _ => false

def retIsPerr : Ret → Bool
  | .perr _ => true
  | _ => false

/-- `get_token(pos, include_brace_chars, environments, brackets_are_chars)` is `peek_token` of a fresh reader at
    `pos` under the parsing state with the extra delimiters / the environments flag: same token, same
    end-of-stream, same token error. -/
theorem C16_get_token (env : Env) (f : PSFields) (a : TokArgs) (pos : Nat) :
    getToken env f a pos = peekAt env (tokFields a f).normalize pos ∧
    (∀ t, getToken env f a pos = .tok t ↔ peekTok env.tol (mkPS (tokFields a f).normalize) env.s pos = .tok t) ∧
    (getToken env f a pos = .eos ↔ ∃ fs, peekTok env.tol (mkPS (tokFields a f).normalize) env.s pos = .eos fs) := by
  unfold getToken peekAt
  cases peekTok env.tol (mkPS (tokFields a f).normalize) env.s pos <;> simp

/-- the default call leaves the state alone when environments are enabled; `brackets_are_chars=False` adds `[ ]` -/
example : tokFields {} ({} : PSFields) = {} ∧
    (tokFields { bracketsAreChars := some false, environments := some false } ({} : PSFields)).groupDelims
      = [(['{'], ['}']), (['['], [']'])] := by decide

theorem nodesTuple_eq_proj (r : Ret) : nodesTuple r = projNodes r := by
  cases r with
  | ok res q =>
    cases res with
    | list p e ns => cases p <;> rfl
    | _ => rfl
  | _ => rfl

theorem projNodes_perr {r : Ret} {e : PErr} : projNodes r = .perr e ↔ r = .perr e := by
  cases r with
  | ok res q =>
    cases res with
    | list p e' ns => cases p <;> simp only [projNodes, reduceCtorEq]
    | _ => simp only [projNodes, reduceCtorEq]
  | _ => simp only [projNodes, reduceCtorEq, LRes.perr.injEq, Ret.perr.injEq]

/-- `get_latex_nodes(pos, stop_upon_closing_brace, stop_upon_end_environment, stop_upon_closing_mathmode,
    read_max_nodes)`: the tuple is `(nodes, nodes.pos, reader position − nodes.pos)` of
    `parse_content(LatexGeneralNodesParser(stop_token_condition, stop_nodelist_condition, …))` under the translated
    parsing state; it succeeds exactly when the parser does and raises the same error otherwise. -/
theorem C16_get_latex_nodes (env : Env) (sw : Sw) (n : Nat) (f f' : PSFields) (a : NodesArgs) (g : XGen) (pos : Nat)
    (h : nodesSetup a f = some (f', g)) :
    getLatexNodes env sw n f a pos = projNodes (xparse env sw n g f' pos) ∧
    (∀ p e ns q, xparse env sw n g f' pos = .ok (.list (some p) e ns) q →
        getLatexNodes env sw n f a pos = .tuple (.list (some p) e ns) (some p) (some ((q : Int) - (p : Int)))) ∧
    (∀ e, getLatexNodes env sw n f a pos = .perr e ↔ xparse env sw n g f' pos = .perr e) := by
  have h1 : getLatexNodes env sw n f a pos = projNodes (xparse env sw n g f' pos) := by
    unfold getLatexNodes
    rw [h]
    exact nodesTuple_eq_proj _
  refine ⟨h1, ?_, ?_⟩
  · intro p e ns q hq
    rw [h1, hq]; rfl
  · intro e
    rw [h1]
    exact projNodes_perr

/-- the translation for the four documented closing characters and for explicit pairs always succeeds -/
example : (nodesSetup { brace := some (.closer ']'), maxNodes := some 2 } ({} : PSFields)).isSome = true ∧
          (nodesSetup { brace := some (.pair ['<'] ['>']) } ({} : PSFields)).isSome = true := by decide

theorem xFinish_none (sw : Sw) (f : PSFields) (st : LoopSt) (stopTok : Option Token) (err : Option PErr) :
    xFinish sw none f st stopTok err = loopFinish f st stopTok err := by
  simp only [xFinish, nlStop, Bool.and_false, Bool.false_eq_true, ↓reduceIte]

theorem xloopRead_none (env : Env) (sw : Sw) (f : PSFields) (st : LoopSt) :
    xloopRead env sw none f st = loopRead env f st := by
  unfold xloopRead loopRead
  cases peekTok env.tol (mkPS f) env.s st.pos with
  | tok t => rfl
  | eos fs => simp only [xFinish_none]
  | err w ep t r => simp only [xFinish_none]

/-- `afterChild` and `loopDispatch` use the continuation and the stop token only to go on with the loop and to start
    sub-parses: rewriting with the two hypotheses makes the two sides the same term -/
theorem afterChild_congr {r1 r2 : Task → Ret} {f : PSFields} {s1 s2 : StopTok} {child : ChildPS} (st : LoopSt) (b : Bool) (x : Ret)
    (hloop : ∀ st', r1 (.loop f s1 child st') = r2 (.loop f s2 child st')) :
    afterChild r1 f s1 child st b x = afterChild r2 f s2 child st b x := by
  unfold afterChild
  simp only [hloop]

theorem loopDispatch_congr (env : Env) {r1 r2 : Task → Ret} {f : PSFields} {s1 s2 : StopTok} {child : ChildPS}
    (st : LoopSt) (t : Token)
    (hpc : ∀ p f' pos, r1 (.pc p f' pos) = r2 (.pc p f' pos))
    (hloop : ∀ st', r1 (.loop f s1 child st') = r2 (.loop f s2 child st')) :
    loopDispatch env r1 f s1 child st t = loopDispatch env r2 f s2 child st t := by
  unfold loopDispatch
  simp only [hpc, hloop, afterChild_congr _ _ _ hloop]

/-- without a node-list stop condition the extended collector is the collector of `Pylx.Parse` -/
theorem xloop_conservative (env : Env) (sw : Sw) (g : XGen) (stop : StopTok) (f : PSFields)
    (hs : g.stop = stop.test) (hm : g.maxNodes = none) :
    ∀ n st, xloop env sw g f n st = run env n (.loop f stop g.child st) := by
  intro n
  induction n with
  | zero => intro st; rfl
  | succ n ih =>
    intro st
    show xloopStep env sw (run env n) (xloop env sw g f n) g f st = loopStep env (run env n) f stop g.child st
    unfold xloopStep loopStep
    rw [hm, xloopRead_none]
    cases loopRead env f st with
    | inr r => rfl
    | inl t =>
      simp only [hs, xFinish_none]
      split
      · rfl
      · split
        · exact ih _
        · simp only [nlStop, Bool.and_false]
          apply loopDispatch_congr
          · intro p f' pos; rfl
          · intro st'
            simp only [xrec, nlStop, Bool.and_false]
            exact ih st'

def StopOk (g : XGen) : Ret → Prop
  | .loopEnd e => ∀ t, e.stopTok = some t → g.stop t = true
  | _ => True

theorem loopFinish_stopOk (g : XGen) (f : PSFields) (st : LoopSt) (err : Option PErr) : StopOk g (loopFinish f st none err) := by
  intro t h; cases h

theorem xFinish_stopOk (g : XGen) (sw : Sw) (mx : Option Nat) (f : PSFields) (st : LoopSt) (tk : Option Token) (err : Option PErr)
    (h : ∀ t, tk = some t → g.stop t = true) : StopOk g (xFinish sw mx f st tk err) := by
  unfold xFinish
  split
  · trivial
  · exact h

theorem afterChild_stopOk (g : XGen) {rec : Task → Ret} {f : PSFields} {s : StopTok} {child : ChildPS} (st : LoopSt) (b : Bool) (x : Ret)
    (hloop : ∀ st', StopOk g (rec (.loop f s child st'))) : StopOk g (afterChild rec f s child st b x) :=
  afterChild_elim (fun _ _ _ => hloop _) (fun _ _ _ => hloop _) (fun _ _ => loopFinish_stopOk g _ _ _)
    (fun _ => trivial) (fun _ _ => trivial)

theorem loopDispatch_stopOk (g : XGen) (env : Env) {rec : Task → Ret} {f : PSFields} {s : StopTok} {child : ChildPS}
    (st : LoopSt) (t : Token) (hloop : ∀ st', StopOk g (rec (.loop f s child st'))) :
    StopOk g (loopDispatch env rec f s child st t) :=
  loopDispatch_elim (fun _ _ _ => loopFinish_stopOk g _ _ _) (fun _ => hloop _) (fun _ => hloop _)
    (fun _ _ _ _ => afterChild_stopOk g _ _ _ hloop) (fun _ _ => trivial)

theorem xloopRead_stopOk (g : XGen) (env : Env) (sw : Sw) (mx : Option Nat) (f : PSFields) (st : LoopSt) (r : Ret)
    (h : xloopRead env sw mx f st = .inr r) : StopOk g r := by
  unfold xloopRead at h
  split at h
  · cases h
  · split at h
    · cases h; exact xFinish_stopOk g _ _ _ _ _ _ (fun t h => by cases h)
    · cases h
  · cases h; exact xFinish_stopOk g _ _ _ _ _ _ (fun t h => by cases h)

theorem xloop_stopOk (env : Env) (sw : Sw) (g : XGen) (f : PSFields) : ∀ n st, StopOk g (xloop env sw g f n st) := by
  intro n
  induction n with
  | zero => intro st; trivial
  | succ n ih =>
    intro st
    show StopOk g (xloopStep env sw (run env n) (xloop env sw g f n) g f st)
    unfold xloopStep
    cases hrd : xloopRead env sw g.maxNodes f st with
    | inr r => exact xloopRead_stopOk g env sw _ f st r hrd
    | inl t =>
      dsimp only
      split
      · rename_i hst
        exact xFinish_stopOk g _ _ _ _ _ _ (fun t' h => by rw [← Option.some.inj h]; exact hst)
      · split
        · exact ih _
        · split
          · intro t h; cases h
          · apply loopDispatch_stopOk
            intro st'
            simp only [xrec]
            split
            · intro t h; cases h
            · exact ih _

/-- `LatexGeneralNodesParser(stop…)` built by the shims without `stop_nodelist_condition` is the parser
    `.general stop require child` of `Pylx.Parse`, for every stop token the latter can express. -/
theorem C16_collector_conservative (env : Env) (sw : Sw) (n : Nat) (g : XGen) (stop : StopTok) (require : Bool)
    (f : PSFields) (pos : Nat)
    (hs : g.stop = stop.test) (hm : g.maxNodes = none) (hr : g.mustMeet = (require && stop.isSome)) :
    xparse env sw n g f pos = run env (n + 1) (.pc (.general stop require g.child) f pos) := by
  show parseContent env.tol (rawXGeneral env sw n g f pos)
     = parseContent env.tol (rawGeneral (run env n) stop require g.child f pos)
  congr 1
  unfold rawXGeneral rawGeneral
  have hso := xloop_stopOk env sw g f n { pos := pos }
  rw [xloop_conservative env sw g stop f hs hm] at hso ⊢
  cases hrun : run env n (.loop f stop g.child { pos := pos }) with
  | loopEnd e =>
    rw [hrun] at hso
    simp only [retOfLoop, hr]
    cases he : e.err with
    | some pe => rfl
    | none =>
      dsimp only
      cases hst : e.stopTok with
      | none => simp only [Option.isNone_none, Bool.and_true]; split <;> rfl
      | some t =>
        have := hso t hst
        rw [hs] at this
        have hsome : stop.isSome = true := by
          cases stop with
          | none => cases this
          | _ => rfl
        simp [hsome]
  | _ => rfl

theorem stops_none : (({} : Stops).test) = StopTok.none.test := by
  funext t; simp only [Stops.test, StopTok.test, Bool.or_self]

theorem stops_brace (c : Str) : (({ brace := some c } : Stops).test) = (StopTok.braceClose c).test := by
  funext t; simp only [Stops.test, StopTok.test, Bool.or_false]

theorem stops_endEnv (nm : Str) : (({ endEnv := some nm } : Stops).test) = (StopTok.endEnv nm).test := by
  funext t; simp only [Stops.test, StopTok.test, Bool.or_false, Bool.false_or]

/-- `get_latex_nodes(pos)` = `parse_content(LatexGeneralNodesParser())` -/
theorem C16_get_latex_nodes_plain (env : Env) (sw : Sw) (n : Nat) (f : PSFields) (pos : Nat) :
    getLatexNodes env sw n f {} pos = projNodes (run env (n + 1) (.pc (.general .none false .same) f pos)) := by
  have h : nodesSetup {} f = some (f, { stop := ({} : Stops).test, mustMeet := false, maxNodes := none }) := rfl
  rw [(C16_get_latex_nodes env sw n f f {} _ pos h).1]
  rw [C16_collector_conservative env sw n _ .none false f pos stops_none rfl rfl]

/-- `get_latex_nodes(pos, stop_upon_closing_brace=c)`: the general-nodes parser that must stop at the closing
    delimiter (as `LatexDelimitedGroupParser` builds it for the group contents), under the state with `(o, c)` added -/
theorem C16_get_latex_nodes_brace (env : Env) (sw : Sw) (n : Nat) (f : PSFields) (b : BraceArg) (o c : Str) (pos : Nat)
    (hb : bracePair b = some (o, c)) :
    getLatexNodes env sw n f { brace := some b } pos =
      projNodes (run env (n + 1) (.pc (.general (.braceClose c) true .same)
        (if f.groupDelims.contains (o, c) then f else { f with groupDelims := f.groupDelims ++ [(o, c)] }).normalize pos)) := by
  have h : nodesSetup { brace := some b } f = some
      ((if f.groupDelims.contains (o, c) then f else { f with groupDelims := f.groupDelims ++ [(o, c)] }).normalize,
       { stop := ({ brace := some c } : Stops).test, mustMeet := true, maxNodes := none }) := by
    simp only [nodesSetup, hb, List.contains_eq_mem, decide_eq_true_eq]
  rw [(C16_get_latex_nodes env sw n f _ _ _ pos h).1]
  rw [C16_collector_conservative env sw n _ (.braceClose c) true _ pos (stops_brace c) rfl rfl]

/-- `get_latex_nodes(pos, stop_upon_end_environment=name)`: the parser `LatexEnvironmentBodyContentsParser` runs -/
theorem C16_get_latex_nodes_end_environment (env : Env) (sw : Sw) (n : Nat) (f : PSFields) (nm : Str) (pos : Nat) :
    getLatexNodes env sw n f { endEnv := some nm } pos =
      projNodes (run env (n + 1) (.pc (.general (.endEnv nm) true .same) f pos)) := by
  have h : nodesSetup { endEnv := some nm } f = some
      (f, { stop := ({ endEnv := some nm } : Stops).test, mustMeet := true, maxNodes := none }) := rfl
  rw [(C16_get_latex_nodes env sw n f _ _ _ pos h).1]
  rw [C16_collector_conservative env sw n _ (.endEnv nm) true _ pos (stops_endEnv nm) rfl rfl]

/-- `get_latex_nodes(pos, stop_upon_closing_mathmode=d)`: the stop condition is "an inline or a display math token
    `d`" — the disjunction of the two stop tokens `LatexMathParser` uses -/
theorem C16_get_latex_nodes_mathmode (env : Env) (sw : Sw) (n : Nat) (f : PSFields) (d : Str) (pos : Nat) :
    ∃ g : XGen, nodesSetup { math := some d } f = some (f, g) ∧
      g.stop = (fun t => (StopTok.mathClose false d).test t || (StopTok.mathClose true d).test t) ∧
      g.mustMeet = true ∧ g.maxNodes = none ∧
      getLatexNodes env sw n f { math := some d } pos = projNodes (xparse env sw n g f pos) := by
  refine ⟨{ stop := ({ math := some d } : Stops).test, mustMeet := true, maxNodes := none }, rfl, ?_, rfl, rfl, ?_⟩
  · funext t
    simp only [Stops.test, StopTok.test, Bool.false_or, Bool.false_eq_true, if_false, if_true]
    cases (t.kind == TokKind.mathInline) <;> cases (t.kind == TokKind.mathDisplay) <;> cases (t.arg == d) <;> rfl
  · exact (C16_get_latex_nodes env sw n f f _ _ pos rfl).1

theorem stripArgs_pos (n : Node) : (stripArgs n).pos = n.pos ∧ (stripArgs n).posEnd = n.posEnd := by
  cases n <;> exact ⟨rfl, rfl⟩

/-- the documented empty result of `get_latex_expression` at `pos` -/
def exprEmpty (tol : Bool) (sb : Option Bool) (f : PSFields) (pos : Nat) : LRes :=
  if tol || sb == some false then tupleOf (Node.chars pos pos (psInfo f) []) else .tuple .none (some pos) (some 0)

/-- `get_latex_expression(pos, strict_braces)` against `parse_content(LatexExpressionParser(…))`:
    a node → `(node with nodeargd erased, node.pos, node.len)`; the "closing brace" error raised by this very parser
    (`closeBraceMarker`: kind `closing_latex_group` and a recovery token; the re-wrapped error of a nested
    expression parser has none) with `strict_braces` not `True` → the documented empty result; every other error —
    in particular a nested closing-brace error — is raised unchanged. -/
theorem C16_expression (env : Env) (n : Nat) (f : PSFields) (sb : Option Bool) (pos : Nat) :
    (∀ nd q, run env n (.pc (.expression true) f pos) = .ok (.node nd) q →
        getLatexExpression env n f sb pos = tupleOf (stripArgs nd)) ∧
    (∀ e, run env n (.pc (.expression true) f pos) = .perr e →
        getLatexExpression env n f sb pos =
          if closeBraceMarker e && !(sb == some true) then exprEmpty env.tol sb f pos else .perr e) ∧
    (∀ e, getLatexExpression env n f sb pos = .perr e → run env n (.pc (.expression true) f pos) = .perr e) := by
  refine ⟨?_, ?_, ?_⟩
  · intro nd q h
    unfold getLatexExpression
    rw [h]; rfl
  · intro e h
    unfold getLatexExpression
    rw [h]
    dsimp only
    split
    · unfold exprPost exprEmpty tupleOf nodeLen
      dsimp only
      split <;> simp only [Node.pos, Node.posEnd, Int.sub_self]
    · rfl
  · intro e h
    unfold getLatexExpression at h
    cases hr : run env n (.pc (.expression true) f pos) with
    | ok res q =>
      rw [hr] at h
      cases res <;> simp [exprPost] at h
      all_goals (split at h <;> cases h)
    | perr e' =>
      rw [hr] at h
      dsimp only at h
      split at h
      · simp only [exprPost] at h
        split at h <;> cases h
      · cases h; rfl
    | _ => rw [hr] at h; cases h

def nestCtx : Ctx := { macros := [(['m'], .std [⟨.m, .none⟩])], unknownMacro := some (.std []) }
def nestEnv (s : String) : Env := { tol := false, ctx := nestCtx, s := s.toList }

/-- the special case applies to the parser's own error only: at `}` the default call returns `(None, pos, 0)` and
    `strict_braces=False` the dummy node; on `{\m}` (strict mode, `\m` takes one argument) the closing-brace error
    comes from the nested expression parser, re-wrapped, and the shim raises it whatever `strict_braces` is -/
example :
    (getLatexExpression (nestEnv "}") 14 {} none 0).isTuple = true ∧
    (getLatexExpression (nestEnv "}") 14 {} (some false) 0).isTuple = true ∧
    (getLatexExpression (nestEnv "}") 14 {} (some true) 0).isPerr = true ∧
    (getLatexExpression (nestEnv "{\\m}") 14 {} none 0).isPerr = true ∧
    (getLatexExpression (nestEnv "{\\m}") 14 {} (some false) 0).isPerr = true := by decide

/-- `get_latex_braced_group(pos, brace_type)`: `ValueError` exactly for the brace types that name no pair; otherwise
    `(node, node.pos, node.len)` of `LatexDelimitedGroupParser(delimiters=(o, c), allow_pre_space=True)`,
    `(None, pos, 0)` when that returns `None`, the same error when it fails. -/
theorem C16_braced_group (env : Env) (n : Nat) (f : PSFields) (bt : BraceType) (pos : Nat) :
    (braceTypePair bt = none → getLatexBracedGroup env n f bt pos = .valueErr) ∧
    (∀ o c, braceTypePair bt = some (o, c) →
      (∀ nd q, run env n (.pc (.group (.pair o c) false true) f pos) = .ok (.node nd) q →
          getLatexBracedGroup env n f bt pos = tupleOf nd) ∧
      (∀ q, run env n (.pc (.group (.pair o c) false true) f pos) = .ok .none q →
          getLatexBracedGroup env n f bt pos = .tuple .none (some pos) (some 0)) ∧
      (∀ e, run env n (.pc (.group (.pair o c) false true) f pos) = .perr e ↔
          getLatexBracedGroup env n f bt pos = .perr e)) := by
  refine ⟨?_, ?_⟩
  · intro h; unfold getLatexBracedGroup; rw [h]
  · intro o c h
    unfold getLatexBracedGroup; rw [h]; dsimp only
    refine ⟨?_, ?_, ?_⟩
    · intro nd q hr; rw [hr]; rfl
    · intro q hr; rw [hr]; rfl
    · intro e
      cases hr : run env n (.pc (.group (.pair o c) false true) f pos) with
      | ok res q =>
        cases res with
        | list p e' ns => cases p <;> cases e' <;> simp only [nodeTuple, reduceCtorEq]
        | _ => simp only [nodeTuple, reduceCtorEq]
      | _ => simp only [nodeTuple, reduceCtorEq, Ret.perr.injEq, LRes.perr.injEq]

example : braceTypePair (.str ['(']) = some (['('], [')']) ∧ braceTypePair (.str ['<', '>']) = some (['<'], ['>'])
    ∧ braceTypePair (.str ['x']) = none := by decide

/-- `get_latex_environment(pos, environmentname)` against `parse_content(LatexSingleNodeParser())`: exactly one
    environment node (with the requested name, if one is given) → `(node, node.pos, node.len)`; any other successful
    result → the shim's own parse error; an error of the parser is raised unchanged. -/
theorem C16_environment (env : Env) (sw : Sw) (n : Nat) (f : PSFields) (name : Option Str) (pos : Nat) :
    (∀ lp le p e ps nm a b q, xparse env sw n singleNode f pos = .ok (.list lp le [Node.env p e ps nm a b]) q →
        (name = none ∨ name = some nm) →
        getLatexEnvironment env sw n f name pos = tupleOf (Node.env p e ps nm a b)) ∧
    (∀ lp le p e ps nm a b q want, xparse env sw n singleNode f pos = .ok (.list lp le [Node.env p e ps nm a b]) q →
        name = some want → nm ≠ want → getLatexEnvironment env sw n f name pos = .shimErr "environment-name") ∧
    (∀ e, xparse env sw n singleNode f pos = .perr e ↔ getLatexEnvironment env sw n f name pos = .perr e) := by
  refine ⟨?_, ?_, ?_⟩
  · intro lp le p e ps nm a b q h hn
    unfold getLatexEnvironment; rw [h]
    rcases hn with hn | hn <;> subst hn
    · rfl
    · simp [envTuple, tupleOf, nodeLen, Node.pos, Node.posEnd]
  · intro lp le p e ps nm a b q want h hn hne
    unfold getLatexEnvironment; rw [h]; subst hn
    simp only [envTuple, bne_iff_ne, ne_eq, hne, not_false_eq_true, ↓reduceIte]
  · intro e
    unfold getLatexEnvironment
    cases hr : xparse env sw n singleNode f pos with
    | ok res q =>
      simp only [reduceCtorEq, false_iff]
      intro h
      unfold envTuple at h
      split at h
      · split at h
        · split at h <;> cases h
        · cases h
      all_goals contradiction
    | _ => simp only [envTuple, reduceCtorEq, Ret.perr.injEq, LRes.perr.injEq]

/-- `get_latex_maybe_optional_arg(pos)` against the optional square-bracket group parser: `None` ↔ `None`,
    node → `(node, node.pos, node.len)`, error ↔ the same error -/
theorem C16_maybe_optional_arg (env : Env) (sw : Sw) (n : Nat) (f : PSFields) (pos : Nat) :
    (∀ q, run env n (.pc (.group (.pair ['['] [']']) true sw.optPre) f pos) = .ok .none q →
        getLatexMaybeOptionalArg env sw n f pos = .noneRes) ∧
    (∀ nd q, run env n (.pc (.group (.pair ['['] [']']) true sw.optPre) f pos) = .ok (.node nd) q →
        getLatexMaybeOptionalArg env sw n f pos = tupleOf nd) ∧
    (∀ e, run env n (.pc (.group (.pair ['['] [']']) true sw.optPre) f pos) = .perr e →
        getLatexMaybeOptionalArg env sw n f pos = .perr e) := by
  refine ⟨?_, ?_, ?_⟩
  · intro q h; unfold getLatexMaybeOptionalArg; rw [h]; rfl
  · intro nd q h; unfold getLatexMaybeOptionalArg; rw [h]; rfl
  · intro e h; unfold getLatexMaybeOptionalArg; rw [h]; rfl

/-- `std_macro(name, optarg, numargs)`, `std_macro(name, argspec)`, `std_macro(name, None, argspec)` and
    `MacroSpec(name, argspec)` build the same arguments parser -/
theorem C16_std_macro (sw : Sw) (optarg : Bool) (k : Nat) (a : Str) :
    buildSpec sw (.stdOptNum optarg k) = buildSpec sw (.stdStr (optNumStr optarg k)) ∧
    buildSpec sw (.stdStr a) = buildSpec sw (.newStr a) ∧
    buildSpec sw (.stdNoneStr a) = buildSpec sw (.newStr a) := ⟨rfl, rfl, rfl⟩

example : buildSpec Sw.asIs (.stdOptNum true 2) = .new (.std [⟨.o true, .none⟩, ⟨.m, .none⟩, ⟨.m, .none⟩]) := by decide

/-- repaired: `MacroSpec(name, args_parser='argspec')` is `MacroSpec(name, 'argspec')` -/
theorem C16_args_parser_string (sw : Sw) (h : sw.f22 = true) (a : Str) :
    buildSpec sw (.argsParserStr a) = buildSpec sw (.newStr a) := by
  simp only [buildSpec, h, ↓reduceIte]

def wCtx : Ctx := { unknownMacro := some (.std []) }
def wEnv (tol : Bool) (s : String) : Env := { tol := tol, ctx := wCtx, s := s.toList }

def retArgs : Ret → Option (Option Nat)
  | .ok (.args _ _ l) _ => some (some l.length)
  | .ok .none _ => some none
  | _ => none

/-- F22 (as is): the argument string given through `args_parser=` is dropped -/
theorem C16_F22_as_is : buildSpec Sw.asIs (.argsParserStr ['{']) ≠ buildSpec Sw.asIs (.newStr ['{']) := by decide

/-- F23 (as is): `\m` at end of input with argspec `'*'`: the legacy parser yields `nodeargd = None`, the new one `[None]`;
    with `'*{'` the legacy parser does not fail where the new one does -/
theorem C16_F23_as_is :
    retArgs (parseArgsVia (wEnv false "\\m") Sw.asIs 12 {} {} (.posObj ['*']) 2) = some none ∧
    retArgs (parseArgsVia (wEnv false "\\m") Sw.asIs 12 {} {} (.newStr ['*']) 2) = some (some 1) ∧
    retArgs (parseArgsVia (wEnv false "\\m") Sw.repaired 12 {} {} (.posObj ['*']) 2) = some (some 1) ∧
    retArgs (parseArgsVia (wEnv false "\\m") Sw.asIs 12 {} {} (.posObj ['*', '{']) 2) = some none ∧
    retIsPerr (parseArgsVia (wEnv false "\\m") Sw.asIs 12 {} {} (.newStr ['*', '{']) 2) = true := by decide

/-- as is: in strict mode `{\m}` with argspec `'{'`: the legacy parser accepts the closing brace as an empty argument,
    the new parser fails -/
theorem C16_strict_brace_as_is :
    retArgs (parseArgsVia (wEnv false "{\\m}") Sw.asIs 12 {} {} (.posObj ['{']) 3) = some (some 1) ∧
    retIsPerr (parseArgsVia (wEnv false "{\\m}") Sw.asIs 12 {} {} (.newStr ['{']) 3) = true ∧
    retIsPerr (parseArgsVia (wEnv false "{\\m}") Sw.repaired 12 {} {} (.posObj ['{']) 3) = true := by decide

def firstArgPresent : Ret → Option Bool
  | .ok (.args _ _ (.absent :: _)) _ => some false
  | .ok (.args _ _ (_ :: _)) _ => some true
  | _ => none

/-- as is: `\. [b]` with argspec `'['`: whitespace before the bracket — the legacy parser sees no optional argument -/
theorem C16_opt_pre_space_as_is :
    firstArgPresent (parseArgsVia (wEnv false "\\. [b]") Sw.asIs 14 {} {} (.posObj ['[']) 2) = some false ∧
    firstArgPresent (parseArgsVia (wEnv false "\\. [b]") Sw.asIs 14 {} {} (.newStr ['[']) 2) = some true ∧
    firstArgPresent (parseArgsVia (wEnv false "\\. [b]") Sw.repaired 14 {} {} (.posObj ['[']) 2) = some true := by decide

def LRes.isCrash : LRes → Bool
  | .crash _ => true
  | _ => false

/-- as is: `get_latex_nodes(read_max_nodes=1)` on `ab`: the collector's `ReachedStoppingCondition` escapes from
    `finalize()`; repaired: one chars node of length 2 -/
theorem C16_stop_at_end_as_is :
    (getLatexNodes (wEnv false "ab") Sw.asIs 12 {} { maxNodes := some 1 } 0).isCrash = true ∧
    (getLatexNodes (wEnv false "ab") Sw.repaired 12 {} { maxNodes := some 1 } 0).isTuple = true ∧
    (getLatexEnvironment (wEnv false "ab") Sw.asIs 12 {} none 0).isCrash = true := by decide

def specOf : LArgT → ArgSpec
  | .mand => ⟨.m, .none⟩
  | .opt => ⟨.o true, .none⟩
  | .star => ⟨.s, .none⟩

theorem charSpec_eq (c : Char) : charSpec c = (charLArg c).map specOf := by
  unfold charSpec charLArg
  split
  · rfl
  · split
    · rfl
    · split <;> rfl

theorem strSpecs_of_strLArgs : ∀ (a : Str) (l : List LArgT), strLArgs a = some l → strSpecs a = some (l.map specOf)
  | [], l, h => by cases h; rfl
  | c :: cs, l, h => by
    unfold strLArgs at h
    unfold strSpecs
    rw [charSpec_eq]
    cases hc : charLArg c with
    | none => rw [hc] at h; cases h
    | some t =>
      cases hl : strLArgs cs with
      | none => rw [hc, hl] at h; cases h
      | some l' =>
        rw [hc, hl] at h
        cases h
        rw [strSpecs_of_strLArgs cs l' hl]
        rfl

def stripArg : Arg → Arg
  | .node n => .node (stripArgs n)
  | a => a

/-- agreement of the two results: success with the same argument nodes (a bare macro / specials argument has its
    `nodeargd` erased, the reading fixed for C16) and the same final position; failure with the same error -/
def Agree (pos0 : Nat) (L : Raw) (N : Ret) : Prop :=
  match N with
  | .ok (.args _ _ as) q => L = .ret (.ok (.args (some pos0) (some q) (as.map stripArg)) q)
  | .perr e => L = .ret (.perr e)
  | _ => True

/-- facts about the parser model and the tokenizer that the equivalence uses (strict mode) -/
structure ParserFacts (env : Env) (m : Nat) (f : PSFields) : Prop where
  /-- the input has no lexical error under `f` -/
  lex : ∀ p w ep t r, peekTok false (mkPS f) env.s p ≠ .err w ep t r
  /-- a successful expression parse returns a node and leaves the reader at its end -/
  expr : ∀ p res q, run env m (.pc (.expression true) f p) = .ok res q → ∃ nd, res = .node nd ∧ nd.posEnd = q
  /-- a successful optional-group parse returns nothing and does not move, or a node and the reader at its end
      (an instance of `C01_contract`) -/
  group : ∀ p res q, run env m (.pc (.group (.pair ['['] [']']) true true) f p) = .ok res q →
      (res = .none ∧ q = p) ∨ ∃ nd, res = .node nd ∧ nd.posEnd = q ∧ stripArgs nd = nd
  /-- a star is read as the one-character token `*` (it is not declared as specials) -/
  star : ∀ p t, peekTok false (mkPS f) env.s p = .tok t →
      ((t.kind == .char && t.arg.head? == some '*') = ((t.kind == .char || t.kind == .specials) && t.arg == ['*'])) ∧
      (t.arg = ['*'] → t.posEnd = t.pos + 1)

/-- the full statement: no side hypotheses beyond strict mode, a normalized state with environments enabled, and
    the repaired code -/
def C16_legacy_args_full : Prop :=
  ∀ (env : Env), env.tol = false → ∀ (sw : Sw), sw.f23 = true → sw.strictBrace = true → sw.optPre = true →
  ∀ (f : PSFields), f.normalize = f → f.enEnvs = true → ¬ f.specials.contains ['*'] →
  ∀ (a : Str) (l : List LArgT), strLArgs a = some l → ∀ (n pos : Nat),
    Agree pos (rawLegacyArgs env sw (n + 1) f f { spec := l } pos) (run env (n + 2) (.pc (.arguments (newOfStr a)) f pos))

/-- the legacy reader of one argument slot (`L`) against `parse_content` of the new parser for that slot: the same
    argument (`nodeargd` erased) and position, the same error, the same crash -/
def SlotAgree (L : StepRes) : Ret → Prop
  | .ok res q => L = .next (stripArg (resToArg res)) q
  | .perr e => L = .stop (.perr e)
  | .crash k => L = .stop (.crash k)
  | .fuel => L = .stop .fuel
  | .loopEnd _ => L = .stop (.crash "loopEnd")

/-- the legacy test for a star and the new parser's test agree on `t`, and a star has length one -/
def StarSame (t : Token) : Prop :=
  ((t.kind == .char && t.arg.head? == some '*') = ((t.kind == .char || t.kind == .specials) && t.arg == ['*'])) ∧
  (((t.kind == .char || t.kind == .specials) && t.arg == ['*']) = true → t.posEnd = t.pos + 1)

/-- agreement of the two `parse_content` results `L` (legacy) and `N` (new): success with the same argument nodes
    (`nodeargd` erased on bare macro / specials arguments) and the same final position; the same crash; out of fuel
    together; `E e L` is what is claimed of `L` when the new parser fails with `e` -/
def AgreeWith (E : PErr → Ret → Prop) (pos0 : Nat) (L : Ret) : Ret → Prop
  | .ok (.args _ _ as) q => L = .ok (.args (some pos0) (some q) (as.map stripArg)) q
  | .ok _ _ => False
  | .perr e => E e L
  | .crash k => L = .crash k
  | .fuel => L = .fuel
  | .loopEnd _ => L = .crash "loopEnd"

/-- where the reader fails with the token error `e0`, the parser of the slot there returns `r`: out of fuel, or an
    error — and `E e0` holds of it -/
def ErrSlot (E : PErr → Ret → Prop) (e0 : PErr) (r : Ret) : Prop :=
  (r = .fuel ∧ E e0 .fuel) ∨ ∃ e', r = .perr e' ∧ E e0 (.perr e')

theorem AgreeWith.cases {E : PErr → Ret → Prop} {pos0 : Nat} {L N : Ret} (h : AgreeWith E pos0 L N) :
    (∀ lp le as q, N = .ok (.args lp le as) q → L = .ok (.args (some pos0) (some q) (as.map stripArg)) q) ∧
    (∀ e, N = .perr e → E e L) ∧
    (∀ k, N = .crash k → L = .crash k) ∧
    (N = .fuel → L = .fuel) ∧
    (∀ x, N = .loopEnd x → L = .crash "loopEnd") ∧
    (∀ res q, N = .ok res q → ∃ lp le as, res = .args lp le as) := by
  refine ⟨?_, ?_, ?_, ?_, ?_, ?_⟩
  · rintro lp le as q rfl; exact h
  · rintro e rfl; exact h
  · rintro k rfl; exact h
  · rintro rfl; exact h
  · rintro x rfl; exact h
  · rintro res q rfl
    cases res with
    | args lp le as => exact ⟨lp, le, as, rfl⟩
    | _ => exact h.elim

section slots
variable {env : Env} {sw : Sw} {f : PSFields} {l : List LArgT}

theorem toNat_end (a b : Nat) : (((a : Int) + ((b : Int) - (a : Int))).toNat) = b := by omega

theorem tokFields_default (hen : f.enEnvs = true) : tokFields {} f = f := by
  simp [tokFields, hen]

/-- **one slot.**  With the default reading of the parsing state and the repaired code, what
    `MacroStandardArgsParser.parse_args` does for a slot `{`, `[` or `*` at `p` is what `parse_content` of the new
    slot parser does there, given the three facts of `ParserFacts` at `p` (in either mode). -/
theorem slot_agree (h23 : sw.f23 = true) (hop : sw.optPre = true) (hsb : env.tol = false → sw.strictBrace = true)
    (hfn : f.normalize = f) (hen : f.enEnvs = true) {m p : Nat}
    (hE : ∀ res q, run env (m + 1) (.pc (.expression true) f p) = .ok res q → ∃ nd, res = .node nd ∧ nd.posEnd = q)
    (hG : ∀ res q, run env (m + 1) (.pc (.group (.pair ['['] [']']) true true) f p) = .ok res q →
      (res = .none ∧ q = p) ∨ ∃ nd, res = .node nd ∧ nd.posEnd = q ∧ stripArgs nd = nd)
    (hS : ∀ t, peekTok env.tol (mkPS f) env.s p = .tok t → StarSame t) (j : Nat) (argt : LArgT) :
    SlotAgree (legacyArgStep env sw (m + 1) f f { spec := l } j argt p)
      (run env (m + 1) (.pc (argParser (specOf argt).kind) f p)) := by
  cases argt with
  | mand =>
    show SlotAgree _ (run env (m + 1) (.pc (.expression true) f p))
    simp only [legacyArgStep, mathModeAt, innerFields, getLatexExpression]
    cases hr : run env (m + 1) (.pc (.expression true) f p) with
    | ok res q =>
      obtain ⟨nd, rfl, hq⟩ := hE res q hr
      simp only [SlotAgree, exprPost, nodeLen, (stripArgs_pos nd).1, (stripArgs_pos nd).2, toNat_end, hq, resToArg,
        stripArg]
    | perr e =>
      -- strict mode, `strict_braces=True`: the closing-brace special case does not apply
      have htol := run_pc_perr hr
      simp [SlotAgree, htol, hsb htol]
    | _ => rfl
  | opt =>
    show SlotAgree _ (run env (m + 1) (.pc (.group (.pair ['['] [']']) true true) f p))
    simp only [legacyArgStep, mathModeAt, innerFields, getLatexMaybeOptionalArg, hop, Bool.false_and,
      Bool.false_eq_true, if_false]
    cases hr : run env (m + 1) (.pc (.group (.pair ['['] [']']) true true) f p) with
    | ok res q =>
      rcases hG res q hr with ⟨rfl, rfl⟩ | ⟨nd, rfl, hq, hsn⟩
      · rfl
      · simp only [SlotAgree, optTuple, nodeTuple, nodeLen, toNat_end, hq, resToArg, stripArg, hsn]
    | _ => rfl
  | star =>
    show SlotAgree _ (parseContent env.tol (rawMarker env '*' false true f p))
    simp only [legacyArgStep, mathModeAt, innerFields, getToken, tokFields_default hen, hfn, peekAt]
    unfold rawMarker
    cases hp : peekTok env.tol (mkPS f) env.s p with
    | err w ep t r =>
      rw [peekTok_err_strict hp]
      rfl
    | eos fs => simp only [h23, if_true]; rfl
    | tok t =>
      obtain ⟨hc, hlen⟩ := hS t hp
      dsimp only
      simp only [Bool.not_true, Bool.and_false, Bool.false_eq_true, if_false]
      rw [hc]
      by_cases hstar : ((t.kind == .char || t.kind == .specials) && t.arg == ['*']) = true
      · simp only [hstar, if_true, hlen hstar]
        rfl
      · simp only [hstar, Bool.false_eq_true, if_false]
        split <;> rfl

variable {E : PErr → Ret → Prop} {n : Nat}
  (hslot : ∀ j argt p, SlotAgree (legacyArgStep env sw (n + 1) f f { spec := l } j argt p)
    (run env (n + 1) (.pc (argParser (specOf argt).kind) f p)))
  (hE : ∀ e, env.tol = false → E e (.perr e))
  (herr : ∀ argt p w ep t r, peekTok env.tol (mkPS f) env.s p = .err w ep t r →
    ErrSlot E { what := tokErrWhat w, pos := some ep, rpos := p }
      (run env (n + 1) (.pc (argParser (specOf argt).kind) f p)))
include hslot hE herr

/-- **the argument loops.**  If every slot agrees (`hslot`), the two loops agree, whatever `E` claims when the new
    parser fails: the new loop stops with the token error of `peek_token_or_none` where the legacy slot reader runs
    into it by itself (`herr`), or a slot parser fails and the legacy slot reader raises the same (`hE`). -/
theorem loop_agree {pos0 : Nat} : ∀ (l' : List LArgT) (j : Nat) (acc : List Arg) (p : Nat),
    AgreeWith E pos0 (parseContent env.tol (legacyArgsLoop env sw (n + 1) f f { spec := l } pos0 l' j (acc.map stripArg) p))
      (argsLoop env (run env (n + 1)) f (l'.map specOf) acc p) := by
  intro l'
  induction l' with
  | nil => intro j acc p; simp only [legacyArgsLoop, argsLoop, List.map_nil]; rfl
  | cons argt rest ih =>
    intro j acc p
    have hs := hslot j argt p
    rw [List.map_cons]
    unfold legacyArgsLoop
    by_cases hpk : ∃ w ep t r, peekTok env.tol (mkPS f) env.s p = .err w ep t r
    · obtain ⟨w, ep, t, r, hpk⟩ := hpk
      rw [argsLoop_cons_err hpk]
      rcases herr argt p w ep t r hpk with ⟨hr, he⟩ | ⟨e', hr, he⟩
      · rw [hr, SlotAgree] at hs
        rw [hs]
        exact he
      · rw [hr, SlotAgree] at hs
        rw [hs, run_pc_perr hr]
        exact he
    · rw [argsLoop_cons fun w ep t r h => hpk ⟨w, ep, t, r, h⟩]
      have hd : applyDelta f (specOf argt).delta = f := by cases argt <;> rfl
      rw [hd]
      cases hr : run env (n + 1) (.pc (argParser (specOf argt).kind) f p) with
      | ok res q =>
        rw [hr, SlotAgree] at hs
        rw [hs]
        have := ih (j + 1) (acc ++ [resToArg res]) q
        rw [List.map_append, List.map_cons, List.map_nil] at this
        exact this
      | perr e =>
        rw [hr, SlotAgree] at hs
        rw [hs, run_pc_perr hr]
        exact hE e (run_pc_perr hr)
      | _ => rw [hr, SlotAgree] at hs; rw [hs]; rfl

/-- the loops of `loop_agree` under `parse_content`: `LatexArgumentsParser.parse` for the argument string `a`
    against the legacy wrapper around `MacroStandardArgsParser(a)` -/
theorem args_agree {a : Str} (ha : strLArgs a = some l)
    (hstrict : ∀ e L, E e L → env.tol = false) (pos : Nat) :
    AgreeWith E pos (legacyParseArgs env sw (n + 1) f f { spec := l } pos)
      (run env (n + 2) (.pc (.arguments (newOfStr a)) f pos)) := by
  have hag := loop_agree hslot hE herr (pos0 := pos) l 0 [] pos
  show AgreeWith E pos (parseContent env.tol (legacyArgsLoop env sw (n + 1) f f { spec := l } pos l 0 [] pos)) _
  have hnew : run env (n + 2) (.pc (.arguments (newOfStr a)) f pos)
      = parseContent env.tol (.ret (argsLoop env (run env (n + 1)) f (l.map specOf) [] pos)) := by
    show parseContent env.tol (rawArguments env (run env (n + 1)) (newOfStr a) f pos) = _
    unfold newOfStr
    rw [strSpecs_of_strLArgs a l ha]
    rfl
  rw [hnew]
  cases hN : argsLoop env (run env (n + 1)) f (l.map specOf) [] pos with
  | perr e =>
    rw [hN] at hag
    rw [hstrict e _ hag] at hag ⊢
    exact hag
  | _ => rw [hN] at hag; exact hag

end slots

/-- **C16_legacy_args (partial: `ParserFacts` spelled out as hypothesis).**  For every argument string over
    `{*, [, {}` (induction on the string), in strict mode, on the repaired code, with the standard reading of the
    parsing state (normalized, environments enabled): `MacroStandardArgsParser.parse_args` behind the legacy wrapper
    and `LatexArgumentsParser.parse` return the same argument nodes and the same final reader position whenever the
    latter succeeds, and raise the same error whenever it fails. -/
theorem C16_legacy_args_partial (env : Env) (htol : env.tol = false) (sw : Sw) (h23 : sw.f23 = true)
    (hsb : sw.strictBrace = true) (hop : sw.optPre = true) (f : PSFields) (hfn : f.normalize = f) (hen : f.enEnvs = true)
    (a : Str) (l : List LArgT) (ha : strLArgs a = some l) (n pos : Nat) (hf : ParserFacts env (n + 1) f) :
    (∀ lp le as q, run env (n + 2) (.pc (.arguments (newOfStr a)) f pos) = .ok (.args lp le as) q →
        legacyParseArgs env sw (n + 1) f f { spec := l } pos = .ok (.args (some pos) (some q) (as.map stripArg)) q) ∧
    (∀ e, run env (n + 2) (.pc (.arguments (newOfStr a)) f pos) = .perr e →
        legacyParseArgs env sw (n + 1) f f { spec := l } pos = .perr e) := by
  have hag := args_agree (E := fun e L => L = .perr e) (sw := sw)
    (fun j argt p => slot_agree h23 hop (fun _ => hsb) hfn hen (hf.expr p) (hf.group p)
      (fun t ht => by
        rw [htol] at ht
        refine ⟨(hf.star p t ht).1, fun hb => (hf.star p t ht).2 ?_⟩
        simp only [Bool.and_eq_true, beq_iff_eq] at hb
        exact hb.2) j argt)
    (fun e _ => rfl)
    (fun argt p w ep t r h => absurd (by rw [htol] at h; exact h) (hf.lex p w ep t r))
    ha (fun _ _ _ => htol) pos
  exact ⟨hag.cases.1, hag.cases.2.1⟩

def argsSummary : Ret → Option (List Bool × Nat)
  | .ok (.args _ _ l) q => some (l.map (fun a => match a with | .absent => false | _ => true), q)
  | _ => none

/-- the two algorithms on `\m*[b]{a}x` and on `\m{a}` with the argument string `*[{` (repaired code): all three
    arguments present and the reader after `{a}`; star and bracket absent in the second input -/
example :
    argsSummary (parseArgsVia (wEnv false "\\m*[b]{a}x") Sw.repaired 14 {} {} (.posObj ['*', '[', '{']) 2) = some ([true, true, true], 9) ∧
    argsSummary (parseArgsVia (wEnv false "\\m*[b]{a}x") Sw.repaired 14 {} {} (.newStr ['*', '[', '{']) 2) = some ([true, true, true], 9) ∧
    argsSummary (parseArgsVia (wEnv false "\\m{a}") Sw.repaired 14 {} {} (.posObj ['*', '[', '{']) 2) = some ([false, false, true], 5) ∧
    argsSummary (parseArgsVia (wEnv false "\\m{a}") Sw.repaired 14 {} {} (.newStr ['*', '[', '{']) 2) = some ([false, false, true], 5) := by
  decide

end Pylx.Legacy
