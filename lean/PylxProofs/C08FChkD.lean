/-
  C08, all strings — the per-chunk facts for one quarter of the alphabet, by kernel evaluation: for every character and
  each of its protected chunks the classified document unparses to the chunk, is well formed, specials-safe and solid,
  and the position-free renderer turns its exact tree into the character (both policies, fresh converter state before
  and after); for the wrapped form `{r}` of a chunk `r` only that the classifier answers with the document of `r` in a group.  One declaration per six chunks of the alphabet (thirty characters) keeps each evaluation well inside
  the default heartbeat limit.
-/
import PylxProofs.C08FDefs
namespace Pylx.C08.Full
open Pylx Pylx.C08

theorem k33 : ((Gen.c08AlphaChunks.drop 198).take 6).all ChunksOk = true := by decide +kernel
theorem k34 : ((Gen.c08AlphaChunks.drop 204).take 6).all ChunksOk = true := by decide +kernel
theorem k35 : ((Gen.c08AlphaChunks.drop 210).take 6).all ChunksOk = true := by decide +kernel
theorem k36 : ((Gen.c08AlphaChunks.drop 216).take 6).all ChunksOk = true := by decide +kernel
theorem k37 : ((Gen.c08AlphaChunks.drop 222).take 6).all ChunksOk = true := by decide +kernel
theorem k38 : ((Gen.c08AlphaChunks.drop 228).take 6).all ChunksOk = true := by decide +kernel
theorem k39 : ((Gen.c08AlphaChunks.drop 234).take 6).all ChunksOk = true := by decide +kernel
theorem k40 : ((Gen.c08AlphaChunks.drop 240).take 6).all ChunksOk = true := by decide +kernel
theorem k41 : ((Gen.c08AlphaChunks.drop 246).take 6).all ChunksOk = true := by decide +kernel
theorem k42 : ((Gen.c08AlphaChunks.drop 252).take 6).all ChunksOk = true := by decide +kernel
theorem k43 : (Gen.c08AlphaChunks.drop 258).all ChunksOk = true := by decide +kernel

end Pylx.C08.Full
