/-
  C09 — parsing is a pure function of input, context and flags.

  `Pylx.World` models exactly the state that outlives a parse (the regenerated inventory
  `Pylx.Gen.StateInventory`): the process-wide cache of standard-argument parsers, each instance's lazily created
  inner parser, the `frozen` flag and the (never written) content of the context databases.  The parse *reads* the
  world: every argument specification is resolved to the parser that the world's instance delegates to.

  The idea: in every world reachable by calls each cache entry is a function of its key (`WF`), so resolving a
  specification through the world is the identity and a call returns `pureResult`, which does not mention the world.
  In the tree before the repair the cached verbatim parser also carried a nesting counter across parses, and the
  statement is false of it (`C09_asIs_interference`).
-/
import Pylx.World
namespace Pylx.World

/-- every cache entry is a function of its key: built from the key, inner parser absent or built from the key -/
def WFCache (c : List (ArgKind × Inst)) : Prop :=
  ∀ k i, lookupK k c = some i → i.kind = k ∧ (i.inner = none ∨ i.inner = some k)

structure WF (dbs : List Ctx) (w : World) : Prop where
  cache : WFCache w.cache
  dbs : w.dbs.map (·.ctx) = dbs

/-- worlds reachable from a fresh process by calls; a call may have touched any of the parsers its database declares -/
inductive Reachable (m : Mode) (dbs : List Ctx) : World → Prop where
  | init : Reachable m dbs (World.init dbs)
  | step {w : World} (call : Call) (ks : List ArgKind) :
      Reachable m dbs w → (∀ k, k ∈ ks → k ∈ callKinds w call) →
      Reachable m dbs { advance w call ks with depths := (parseIn m w call).2 }

theorem instOf_wf {c : List (ArgKind × Inst)} (h : WFCache c) (k : ArgKind) :
    (instOf c k).kind = k ∧ ((instOf c k).inner = none ∨ (instOf c k).inner = some k) := by
  unfold instOf
  cases hl : lookupK k c with
  | none => exact ⟨rfl, Or.inl rfl⟩
  | some i => exact h k i hl

theorem instOf_parserKind {c : List (ArgKind × Inst)} (h : WFCache c) (k : ArgKind) :
    (instOf c k).parserKind = k := by
  obtain ⟨hk, hi | hi⟩ := instOf_wf h k <;> simp [Inst.parserKind, hi, hk]

theorem lookupK_map_touch (k k' : ArgKind) (x : Inst) (c : List (ArgKind × Inst)) :
    lookupK k' (c.map (fun e => if e.1 = k then (e.1, x) else e))
      = if k' = k then (lookupK k c).map (fun _ => x) else lookupK k' c := by
  induction c with
  | nil => simp [lookupK]
  | cons e l ih =>
    simp only [List.map_cons, lookupK]
    by_cases hkk : k' = k
    · subst hkk
      by_cases hek : e.1 = k' <;> simp [hek, ih]
    · by_cases hek : e.1 = k
      · subst hek; simp [hkk, Ne.symm hkk, ih]
      · simp [hek, hkk, ih]

theorem lookupK_append (k : ArgKind) (c d : List (ArgKind × Inst)) :
    lookupK k (c ++ d) = (lookupK k c).or (lookupK k d) := by
  induction c with
  | nil => rfl
  | cons e l ih =>
    simp only [List.cons_append, lookupK]
    split
    · rfl
    · exact ih

theorem lookupK_touch (c : List (ArgKind × Inst)) (k k' : ArgKind) :
    lookupK k' (touch c k) = if k' = k then some (instOf c k).initialised else lookupK k' c := by
  unfold touch instOf
  cases hl : lookupK k c with
  | some i => rw [lookupK_map_touch, hl]; rfl
  | none =>
    rw [lookupK_append]
    by_cases hkk : k' = k
    · subst hkk; simp [hl, lookupK]
    · simp [lookupK, hkk, Ne.symm hkk]

theorem WFCache_nil : WFCache [] := fun _ _ h => nomatch h

theorem WFCache_touch {c : List (ArgKind × Inst)} (h : WFCache c) (k : ArgKind) : WFCache (touch c k) := by
  intro k' i hl
  rw [lookupK_touch] at hl
  split at hl
  · next hkk =>
    subst hkk; cases hl
    exact ⟨(instOf_wf h k').1, Or.inr (congrArg some (instOf_parserKind h k'))⟩
  · exact h k' i hl

theorem WFCache_foldl {c : List (ArgKind × Inst)} (h : WFCache c) (ks : List ArgKind) :
    WFCache (ks.foldl touch c) := by
  induction ks generalizing c with
  | nil => exact h
  | cons k l ih => exact ih (WFCache_touch h k)

/-- an entry survives `touch`: same constructor arguments, and an inner parser that exists is kept -/
def Keeps (i i' : Inst) : Prop := i'.kind = i.kind ∧ ∀ x, i.inner = some x → i'.inner = some x

theorem Keeps.refl (i : Inst) : Keeps i i := ⟨rfl, fun _ h => h⟩

theorem Keeps.trans {a b c : Inst} (h1 : Keeps a b) (h2 : Keeps b c) : Keeps a c :=
  ⟨h2.1.trans h1.1, fun x hx => h2.2 x (h1.2 x hx)⟩

theorem keeps_initialised (i : Inst) : Keeps i i.initialised := by
  refine ⟨rfl, fun x hx => ?_⟩
  simp [Inst.initialised, Inst.parserKind, hx]

theorem touch_keeps (c : List (ArgKind × Inst)) (k k' : ArgKind) (i : Inst) (hl : lookupK k' c = some i) :
    ∃ i', lookupK k' (touch c k) = some i' ∧ Keeps i i' := by
  rw [lookupK_touch]
  split
  · next hkk =>
    subst hkk
    have : instOf c k' = i := by simp [instOf, hl]
    exact ⟨_, rfl, this ▸ keeps_initialised i⟩
  · exact ⟨i, hl, Keeps.refl i⟩

theorem foldl_touch_keeps (ks : List ArgKind) (c : List (ArgKind × Inst)) (k' : ArgKind) (i : Inst)
    (hl : lookupK k' c = some i) : ∃ i', lookupK k' (ks.foldl touch c) = some i' ∧ Keeps i i' := by
  induction ks generalizing c i with
  | nil => exact ⟨i, hl, Keeps.refl i⟩
  | cons k l ih =>
    obtain ⟨i1, h1, k1⟩ := touch_keeps c k k' i hl
    obtain ⟨i2, h2, k2⟩ := ih (touch c k) i1 h1
    exact ⟨i2, h2, k1.trans k2⟩

theorem resolveSpec_id {w : World} (h : WFCache w.cache) : resolveSpec w = id :=
  funext fun a => by rw [resolveSpec, World.inst, instOf_parserKind h]; rfl

theorem resolveArgsP_id {w : World} (h : WFCache w.cache) : resolveArgsP w = id :=
  funext fun a => by cases a <;> simp [resolveArgsP, resolveSpec_id h]

theorem resolveCtx_id {w : World} (h : WFCache w.cache) (c : Ctx) : resolveCtx w c = c := by
  simp [resolveCtx, resolveArgsP_id h]

theorem freezeAt_ctx (l : List DbObj) (n : Nat) : (freezeAt l n).map (·.ctx) = l.map (·.ctx) := by
  induction l generalizing n with
  | nil => rfl
  | cons d l ih =>
    cases n with
    | zero => rfl
    | succ n => simp only [freezeAt, List.map_cons, ih]

theorem freezeAt_get (l : List DbObj) (n j : Nat) :
    (freezeAt l n)[j]? = (l[j]?).map (fun d => if j = n then { d with frozen := true } else d) := by
  induction l generalizing n j with
  | nil => simp [freezeAt]
  | cons d l ih => cases n <;> cases j <;> simp [freezeAt, ih]

theorem WF_init (dbs : List Ctx) : WF dbs (World.init dbs) := by
  refine ⟨WFCache_nil, ?_⟩
  simp [World.init, List.map_map, Function.comp_def]

theorem WF_advance {dbs : List Ctx} {w : World} (h : WF dbs w) (call : Call) (ks : List ArgKind)
    (ds : List (Option (Char × Char) × Int)) : WF dbs { advance w call ks with depths := ds } := by
  refine ⟨WFCache_foldl h.cache ks, ?_⟩
  show (freezeAt w.dbs call.db).map (·.ctx) = dbs
  rw [freezeAt_ctx]; exact h.dbs

theorem WF_of_reachable {m : Mode} {dbs : List Ctx} {w : World} (h : Reachable m dbs w) : WF dbs w := by
  induction h with
  | init => exact WF_init dbs
  | step call ks _ _ ih => exact WF_advance ih call ks _

/-- what a call returns when nothing is shared: the parser model applied to the call's own database -/
def pureResult (dbs : List Ctx) (call : Call) : Ret :=
  match dbs[call.db]? with
  | none => noDb
  | some c => parseTop { tol := call.tol, ctx := c, s := call.s } (topFieldsOf c call.base)

theorem parseIn_of_WF {dbs : List Ctx} {w : World} (h : WF dbs w) (call : Call) :
    (parseIn .repaired w call).1 = pureResult dbs call := by
  unfold parseIn pureResult
  rw [← h.dbs, List.getElem?_map]
  cases w.dbs[call.db]? with
  | none => rfl
  | some d => simp only [Option.map_some, resolveCtx_id h.cache]

/-- **C09 (non-interference), for every well-formed world** -/
theorem C09_noninterference_wf {dbs : List Ctx} {w : World} (h : WF dbs w) (call : Call) :
    (parseW .repaired w call).1 = (parseW .repaired (World.init dbs) call).1 := by
  show (parseIn .repaired w call).1 = (parseIn .repaired (World.init dbs) call).1
  rw [parseIn_of_WF h, parseIn_of_WF (WF_init dbs)]

/-- **C09 (non-interference)**: in every world reachable by any sequence of calls, a call returns exactly what it
    returns in a fresh process -/
theorem C09_noninterference {dbs : List Ctx} {w : World} (h : Reachable .repaired dbs w) (call : Call) :
    (parseW .repaired w call).1 = (parseW .repaired (World.init dbs) call).1 :=
  C09_noninterference_wf (WF_of_reachable h) call

theorem reachable_parseW {m : Mode} {dbs : List Ctx} {w : World} (h : Reachable m dbs w) (call : Call) :
    Reachable m dbs (parseW m w call).2 :=
  Reachable.step call (callKinds w call) h (fun _ hk => hk)

theorem reachable_runHist {m : Mode} {dbs : List Ctx} (calls : List Call) {w : World} (h : Reachable m dbs w) :
    Reachable m dbs (runHist m w calls).2 := by
  induction calls generalizing w with
  | nil => exact h
  | cons c cs ih => exact ih (reachable_parseW h c)

theorem runHist_of_reachable {dbs : List Ctx} (calls : List Call) {w : World} (h : Reachable .repaired dbs w) :
    (runHist .repaired w calls).1 = calls.map (fun c => (parseW .repaired (World.init dbs) c).1) := by
  induction calls generalizing w with
  | nil => rfl
  | cons c cs ih =>
    simp only [runHist, List.map_cons]
    rw [C09_noninterference h c, ih (reachable_parseW h c)]

/-- **C09 for histories**: the results of a history are, call by call, the results of the same calls each made in a
    fresh process — whatever was parsed before, in whatever order -/
theorem C09_history (dbs : List Ctx) (calls : List Call) :
    (runHist .repaired (World.init dbs) calls).1 = calls.map (fun c => (parseW .repaired (World.init dbs) c).1) :=
  runHist_of_reachable calls Reachable.init

/-- every ordering of a set of calls gives every call the same result -/
theorem C09_order_irrelevant (dbs : List Ctx) (pre1 pre2 : List Call) (c : Call) :
    (parseW .repaired (runHist .repaired (World.init dbs) pre1).2 c).1
      = (parseW .repaired (runHist .repaired (World.init dbs) pre2).2 c).1 := by
  rw [C09_noninterference (reachable_runHist pre1 .init), C09_noninterference (reachable_runHist pre2 .init)]

/-- **C09 (context unchanged)**: a call (in either mode, in any world) leaves the content of every database as it
    was; the `frozen` flag of the call's database becomes true, every other flag is untouched -/
theorem C09_ctx_unchanged (m : Mode) (w : World) (call : Call) :
    (parseW m w call).2.dbs.map (·.ctx) = w.dbs.map (·.ctx)
    ∧ ∀ j, ((parseW m w call).2.dbs[j]?).map (·.frozen)
          = (w.dbs[j]?).map (fun d => if j = call.db then true else d.frozen) := by
  refine ⟨freezeAt_ctx w.dbs call.db, fun j => ?_⟩
  show ((freezeAt w.dbs call.db)[j]?).map (·.frozen) = _
  rw [freezeAt_get]
  cases w.dbs[j]? with
  | none => rfl
  | some d => by_cases hj : j = call.db <;> simp [hj]

/-- **C09 (cache monotone)**: the world only gains cache entries — an entry is never removed, keeps its constructor
    arguments and, once created, its inner parser — and every entry stays a function of its key -/
theorem C09_cache_monotone (m : Mode) (w : World) (call : Call) :
    (∀ k i, lookupK k w.cache = some i → ∃ i', lookupK k (parseW m w call).2.cache = some i' ∧ Keeps i i')
    ∧ (WFCache w.cache → WFCache (parseW m w call).2.cache) :=
  ⟨fun k i hl => foldl_touch_keeps (callKinds w call) w.cache k i hl,
   fun h => WFCache_foldl h (callKinds w call)⟩

/-- **C09 (inventory)**: every module-level container that is written to, every attribute store outside construction on
    an object that outlives a parse, every call site of a state-changing database method and every store on the
    walker found by the regenerated `ast` scan is on the allow-list of `Pylx.World` -/
theorem C09_inventory_accounted : inventoryAccounted = true := by decide

theorem verbScanA_pos (o c : Char) (s : Str) (d : Nat) (i : Nat) (hd : 1 ≤ d) :
    (verbScanA o c s (d : Int) i).1 = verbScan o c s d i := by
  fun_induction verbScan o c s d i with
  | case1 => rfl
  | case2 ch rest d i hc hle =>
    have : (d : Int) - 1 ≤ 0 := by omega
    simp [verbScanA, hc, this]
  | case3 ch rest d i hc hle ih =>
    have : ¬ (d : Int) - 1 ≤ 0 := by omega
    rw [← ih (by omega), Int.natCast_sub (by omega)]
    simp [verbScanA, hc, this]
  | case4 ch rest d i hc ho ih =>
    rw [← ih (by omega)]
    simp [verbScanA, hc, ho]
  | case5 ch rest d i hc ho ih =>
    rw [← ih hd]
    simp [verbScanA, hc, ho]

theorem verbScanA_match (o c : Char) (s : Str) (i : Nat) (A : Nat → Raw) (B : Raw) :
    (match verbScanA o c s 1 i with
      | (some e, dOut) => (A e, dOut)
      | (none, dOut) => (B, dOut)).1
    = (match verbScan o c s 1 i with
      | some e => A e
      | none => B) := by
  rw [← verbScanA_pos o c s 1 i (Nat.le_refl 1)]
  rcases verbScanA o c s ((1 : Nat) : Int) i with ⟨_ | _, _⟩ <;> rfl

theorem rawVerbatimA_one (env : Env) (d : Option (Char × Char)) (f : PSFields) (pos : Nat) :
    (rawVerbatimA env 1 d f pos).1 = rawVerbatim env d f pos := by
  unfold rawVerbatimA rawVerbatim
  simp only
  cases env.s[pos + (spaceRun env.s pos).length]? with
  | none => rfl
  | some first =>
    simp only
    cases d with
    | none => simp only; exact verbScanA_match _ _ _ _ _ _
    | some oc =>
      obtain ⟨o, c⟩ := oc
      simp only
      by_cases hf : (first == o) = true
      · simp only [hf, if_true]; exact verbScanA_match _ _ _ _ _ _
      · simp only [hf]; rfl

def _root_.Pylx.Ret.isOkB : Ret → Bool
  | .ok _ _ => true
  | _ => false

def _root_.Pylx.Ret.errAt : Ret → Option (ErrWhat × Option Nat)
  | .perr e => some (e.what, e.pos)
  | _ => none

/-- a database with one macro `\vv` taking a verbatim argument -/
def witnessCtx : Ctx := { macros := [("vv".toList, .std [⟨.v, .none⟩])] }
def witnessCall : Call := { db := 0, tol := false, s := "\\vv{a{b}c}d".toList }

/-- **C09 is false of the tree before 7bf8923** (kernel-checked witness history): the first strict parse of
    `\vv{a{b}c}d` succeeds and leaves the cached verbatim parser's counter at 0; the second parse of the same
    input with the same context and flags then stops at the inner `}` and fails with "unexpected closing brace"
    at offset 9 — in a world that is reachable by that one call -/
theorem C09_asIs_interference :
    (parseW .asIs (World.init [witnessCtx]) witnessCall).1.isOkB = true
    ∧ (parseW .asIs (World.init [witnessCtx]) witnessCall).2.depths = [(none, 0)]
    ∧ (parseW .asIs (parseW .asIs (World.init [witnessCtx]) witnessCall).2 witnessCall).1.errAt
        = some (.unexpectedCloseBrace, some 9)
    ∧ Reachable .asIs [witnessCtx] (parseW .asIs (World.init [witnessCtx]) witnessCall).2 :=
  ⟨by decide, by decide, by decide, reachable_parseW Reachable.init witnessCall⟩

/-- the same history in the repaired tree: both parses succeed -/
example :
    (parseW .repaired (World.init [witnessCtx]) witnessCall).1.isOkB = true
    ∧ (parseW .repaired (parseW .repaired (World.init [witnessCtx]) witnessCall).2 witnessCall).1.isOkB = true := by
  decide

/-! ### non-vacuity -/

def exCtx9 : Ctx :=
  { macros := [("o".toList, .std [⟨.o true, .none⟩, ⟨.m, .none⟩]), ("v".toList, .std [⟨.v, .none⟩]),
               ("\\".toList, .std [⟨.s, .none⟩, ⟨.o false, .none⟩])],
    envs := [("e".toList, (.std [⟨.d '<' '>', .none⟩], false))], unknownMacro := some (.std []) }

def exCalls9 : List Call :=
  [{ db := 0, tol := false, s := "\\v{a{b}c}".toList }, { db := 1, tol := true, s := "\\o[x]{y}}".toList },
   { db := 0, tol := false, s := "\\\\ [x]".toList }]

/-- a reachable world that is not the initial one: three calls on two databases; the cache has gained entries, one
    database is frozen by its first use, and the non-interference theorem applies to it -/
example :
    let w := (runHist .repaired (World.init [exCtx9, witnessCtx]) exCalls9).2
    Reachable .repaired [exCtx9, witnessCtx] w ∧ w.cache.length = 6 ∧ w.dbs.map (·.frozen) = [true, true]
    ∧ (parseW .repaired w { db := 1, tol := false, s := "\\vv{a{b}c}}".toList }).1.errAt
        = some (.unexpectedCloseBrace, some 10) := by
  refine ⟨?_, by decide, by decide, by decide⟩
  exact reachable_parseW (reachable_parseW (reachable_parseW Reachable.init _) _) _

/-- `C09_history` on that history: results in the shared world = results of the three calls made alone -/
example : (runHist .repaired (World.init [exCtx9, witnessCtx]) exCalls9).1.map Ret.isOkB = [true, true, true] := by
  decide

/-- a world that is *not* well-formed (a cache entry for `[` built without pre-space, as a cache keyed without the
    keyword arguments would produce) does change results: `WF` is what the theorem needs -/
example :
    let bad : World := { (World.init [exCtx9]) with cache := [(.o true, { kind := .o false })] }
    (parseW .repaired bad { db := 0, tol := false, s := "\\o [x]{y}".toList }).1.isOkB
      ≠ (parseW .repaired (World.init [exCtx9]) { db := 0, tol := false, s := "\\o [x]{y}".toList }).1.isOkB
    ∨ (parseW .repaired bad { db := 0, tol := false, s := "\\o [x]{y}".toList }).1.errAt
      ≠ (parseW .repaired (World.init [exCtx9]) { db := 0, tol := false, s := "\\o [x]{y}".toList }).1.errAt
    ∨ ¬ WFCache bad.cache := by
  refine Or.inr (Or.inr ?_)
  intro h
  have := (h (.o true) { kind := .o false } (by decide)).1
  exact absurd this (by decide)

end Pylx.World
