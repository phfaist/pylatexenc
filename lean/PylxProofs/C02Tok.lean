/-
  C02Tok — the tokenizer evaluated on the source shapes of the document grammar, for the parsing states that occur
  while a document of the core fragment is parsed (`stdF`: the walker's default state for a context, possibly in
  math mode, possibly with environments disabled as in the expression parser).
-/
import PylxProofs.C05Tok
import PylxProofs.C01Tok
import PylxProofs.C17
import Pylx.Doc
namespace Pylx
namespace C02
open Doc

/-- an extra pair of group delimiters (inside the bracket group of an optional argument, inside a delimited argument) -/
abbrev Xp := Option (Char × Char)

/-- the bracket pair of an optional argument -/
def xbr : Xp := some ('[', ']')

/-- group delimiters: the brace pair and possibly one extra pair -/
def brPairs : Xp → Pairs
  | none => [(['{'], ['}'])]
  | some (o, c) => [(['{'], ['}']), ([o], [c])]

/-- the extra pair is made of two different delimiter characters -/
def XpOk : Xp → Prop
  | none => True
  | some (o, c) => isXDelim o = true ∧ isXDelim c = true ∧ o ≠ c

theorem xpOk_br : XpOk xbr := ⟨by decide, by decide, by decide⟩

theorem xdelim_cases {c : Char} (h : isXDelim c = true) :
    c = '[' ∨ c = ']' ∨ c = '(' ∨ c = ')' ∨ c = '<' ∨ c = '>' := by
  unfold isXDelim at h
  simpa [or_assoc] using h

theorem xdelim_ne {c : Char} (h : isXDelim c = true) :
    c ≠ '$' ∧ c ≠ '\\' ∧ c ≠ '%' ∧ c ≠ '{' ∧ c ≠ '}' ∧ isPySpace c = false := by
  rcases xdelim_cases h with rfl | rfl | rfl | rfl | rfl | rfl <;> decide

/-- the parsing states of a run on a core document: default fields, the context's specials, a mode; `br` = the extra
    pair of group delimiters inside a bracket group / a delimited argument -/
def stdF (keys : List Str) (m : Bool) (md : Option Str) (ee : Bool) (br : Xp := none) : PSFields :=
  { inMath := m, mathDelim := md, enEnvs := ee, specials := keys, groupDelims := brPairs br }

/-- `set_fields` invariant: outside math mode there is no math delimiter -/
def NormOk (m : Bool) (md : Option Str) : Prop := m = false → md = none

def stdMathStart : Str := ['$', '$', '\\', '\\', '$', '$', '\\', '\\']
def stdMathAll : List (Str × Bool) :=
  [(['\\', '('], false), (['\\', ')'], false), (['$', '$'], true), (['\\', '['], true), (['\\', ']'], true), (['$'], false)]
def stdMathByOpen : List (Str × (Str × Bool)) :=
  [(['$'], (['$'], false)), (['\\', '('], (['\\', ')'], false)), (['$', '$'], (['$', '$'], true)),
   (['\\', '['], (['\\', ']'], true))]

def stdExpect (m : Bool) (md : Option Str) : Option (Str × Bool) :=
  if !m then none else
  match md with
  | none => none
  | some d => lookupLast d stdMathByOpen

def alphaStr : Str := "abcdefghijklmnopqrstuvwxyzABCDEFGHIJKLMNOPQRSTUVWXYZ".toList

theorem mkPS_std (keys : List Str) (m : Bool) (md : Option Str) (ee : Bool) (br : Xp) (h : NormOk m md) :
    mkPS (stdF keys m md ee br) =
      { f := stdF keys m md ee br,
        t := { groupByOpen := brPairs br, groupClose := (brPairs br).map (·.2), mathStart := stdMathStart,
               mathAll := stdMathAll, mathByOpen := stdMathByOpen, expectClose := stdExpect m md } } := by
  show PState.mk (stdF keys m md ee br).normalize (computeTables (stdF keys m md ee br).normalize) = _
  rw [normalize_of_inMath (f := stdF keys m md ee br) h]
  rfl

/-- the facts about a tokenizer state that the token lemmas use -/
structure PSStd (keys : List Str) (ee' m' : Bool) (ex' : Option (Str × Bool)) (br : Xp) (ps : PState) : Prop where
  ms : ps.t.mathStart = stdMathStart
  all : ps.t.mathAll = stdMathAll
  byOpen : ps.t.mathByOpen = stdMathByOpen
  go : ps.t.groupByOpen = brPairs br
  gc : ps.t.groupClose = (brPairs br).map (·.2)
  esc : ps.f.escapeChar = '\\'
  cs : ps.f.commentStart = ['%']
  eg : ps.f.enGroups = true
  ec : ps.f.enComments = true
  em : ps.f.enMacros = true
  emath : ps.f.enMath = true
  es : ps.f.enSpecials = true
  hc : ps.f.hasCtx = true
  sp : ps.f.specials = keys
  fb : ps.f.forbidden = []
  dn : ps.f.enDblNl = true
  alpha : ps.f.macroAlpha = alphaStr
  ee : ps.f.enEnvs = ee'
  inMath : ps.f.inMath = m'
  expect : ps.t.expectClose = ex'

theorem psStd_std (keys : List Str) (m : Bool) (md : Option Str) (ee : Bool) (br : Xp) (h : NormOk m md) :
    PSStd keys ee m (stdExpect m md) br (mkPS (stdF keys m md ee br)) := by
  rw [mkPS_std _ _ _ _ _ h]
  constructor
  -- `rfl` would have the unifier decode the alphabet literal on both sides
  case alpha => dsimp only [stdF, alphaStr]
  all_goals rfl

/-- the closing delimiter a math-mode state waits for is one of the four closers -/
theorem stdExpect_cases (m : Bool) (md : Option Str) :
    stdExpect m md = none ∨ ∃ k : FKind, stdExpect m md = some (k.closer, k.display) := by
  unfold stdExpect
  cases m with
  | false => exact Or.inl rfl
  | true =>
    cases md with
    | none => exact Or.inl rfl
    | some d =>
      simp only [Bool.not_true, Bool.false_eq_true, if_false]
      by_cases h1 : d = ['$']
      · subst h1; exact Or.inr ⟨.dollar, rfl⟩
      by_cases h2 : d = ['\\', '(']
      · subst h2; exact Or.inr ⟨.paren, rfl⟩
      by_cases h3 : d = ['$', '$']
      · subst h3; exact Or.inr ⟨.ddollar, rfl⟩
      by_cases h4 : d = ['\\', '[']
      · subst h4; exact Or.inr ⟨.brack, rfl⟩
      refine Or.inl ?_
      have h1' : ¬ ['$'] = d := fun e => h1 e.symm
      have h2' : ¬ ['\\', '('] = d := fun e => h2 e.symm
      have h3' : ¬ ['$', '$'] = d := fun e => h3 e.symm
      have h4' : ¬ ['\\', '['] = d := fun e => h4 e.symm
      simp [stdMathByOpen, lookupLast, h1', h2', h3', h4']

/-! ### small string facts -/

theorem getElem?_of_drop {s : Str} {p : Nat} {c : Char} {rest : Str} (h : s.drop p = c :: rest) : s[p]? = some c := by
  have : (s.drop p)[0]? = some c := by rw [h]; rfl
  rw [List.getElem?_drop] at this
  simpa using this

theorem drop_succ_of_drop {s : Str} {p : Nat} {c : Char} {rest : Str} (h : s.drop p = c :: rest) : s.drop (p + 1) = rest := by
  have : s.drop (p + 1) = (s.drop p).drop 1 := by rw [List.drop_drop]
  rw [this, h]; rfl

theorem drop_add_of_drop {s : Str} {p : Nat} {a rest : Str} (h : s.drop p = a ++ rest) : s.drop (p + a.length) = rest := by
  have : s.drop (p + a.length) = (s.drop p).drop a.length := by rw [List.drop_drop]
  rw [this, h, List.drop_left]

theorem startsWithAt_of_drop {s : Str} {p : Nat} {x : Str} (h : s.drop p = x) (t : Str) :
    startsWithAt s t p = t.isPrefixOf x := by
  unfold startsWithAt; rw [h]

theorem alpha_iff {c : Char} : isAsciiAlpha c = true ↔
    (97 ≤ c.toNat ∧ c.toNat ≤ 122) ∨ (65 ≤ c.toNat ∧ c.toNat ≤ 90) := by
  unfold isAsciiAlpha
  simp only [Bool.or_eq_true, Bool.and_eq_true, decide_eq_true_eq, Char.le_def, UInt32.le_iff_toNat_le]
  rfl

theorem alpha_range {c : Char} (h : isAsciiAlpha c = true) : 65 ≤ c.toNat ∧ c.toNat ≤ 122 := by
  have := alpha_iff.mp h
  omega

theorem digit_range {c : Char} (h : isDigit c = true) : 48 ≤ c.toNat ∧ c.toNat ≤ 57 := by
  unfold isDigit at h
  simp only [Bool.and_eq_true, decide_eq_true_eq, Char.le_def] at h
  obtain ⟨h1, h2⟩ := h
  have : ('0' : Char).val.toNat = 48 := rfl
  have : ('9' : Char).val.toNat = 57 := rfl
  simp only [UInt32.le_iff_toNat_le] at h1 h2
  constructor <;> (unfold Char.toNat; omega)

theorem textChar_range {c : Char} (h : isTextChar c = true) : 44 ≤ c.toNat ∧ c.toNat ≤ 122 := by
  unfold isTextChar at h
  simp only [Bool.or_eq_true, beq_iff_eq] at h
  rcases h with ((((h | h) | h) | h) | h) | h
  · have := alpha_range h; omega
  · have := digit_range h; omega
  · subst h; decide
  · subst h; decide
  · subst h; decide
  · subst h; decide

/-- a text character starts neither math, an escape, a comment nor a group, and is not whitespace -/
theorem textChar_ne {c : Char} (h : isTextChar c = true) :
    c ≠ '$' ∧ c ≠ '\\' ∧ c ≠ '%' ∧ c ≠ '{' ∧ c ≠ '}' ∧ isPySpace c = false := by
  have key : ∀ d, isTextChar d = false → c ≠ d := fun d hd e => by rw [e, hd] at h; cases h
  refine ⟨key _ (by decide), key _ (by decide), key _ (by decide), key _ (by decide), key _ (by decide), ?_⟩
  · have h1 := textChar_range h
    unfold isPySpace
    simp only [Bool.or_eq_false_iff, Bool.and_eq_false_iff, decide_eq_false_iff_not, beq_eq_false_iff_ne]
    omega

/-! ### specials -/

theorem keyFree_of_text {c : Char} (h : isTextChar c = true) : isKeyFree c = true := by
  unfold isKeyFree; rw [h]; rfl

theorem specialsStep_none {s : Str} {p : Nat} {c : Char} {rest : Str} (hd : s.drop p = c :: rest) (hc : isKeyFree c = true)
    (k : Str) (hk : headIs isKeyFree k = false) : specialsStep s p none k = none := by
  unfold specialsStep
  rw [startsWithAt_of_drop hd]
  cases k with
  | nil => simp [bestLen]
  | cons a k' =>
    have : a ≠ c := by
      intro e; subst e
      simp [headIs, hc] at hk
    simp [List.isPrefixOf, this]

theorem testSpecials_free {keys : List Str} {s : Str} {p : Nat} {c : Char} {rest : Str} (hk : keysCore keys = true)
    (hd : s.drop p = c :: rest) (hc : isKeyFree c = true) : testSpecials keys s p = none := by
  unfold testSpecials
  induction keys with
  | nil => rfl
  | cons k ks ih =>
    unfold keysCore at hk
    simp only [List.all_cons, Bool.and_eq_true, Bool.not_eq_eq_eq_not, Bool.not_true] at hk
    rw [List.foldl_cons, specialsStep_none hd hc k hk.1]
    exact ih (by unfold keysCore; exact hk.2)

/-! ### whitespace in front of a token -/

theorem takeWhile_all {P : Char → Bool} {w r : Str} (hw : w.all P = true) (hr : headIs P r = false) :
    (w ++ r).takeWhile P = w := by
  induction w with
  | nil =>
    cases r with
    | nil => rfl
    | cons c r => simp only [headIs] at hr; simp [hr]
  | cons c w ih =>
    simp only [List.all_cons, Bool.and_eq_true] at hw
    simp only [List.cons_append, List.takeWhile, hw.1]
    rw [ih hw.2]

theorem dropWhile_all {P : Char → Bool} {w r : Str} (hw : w.all P = true) (hr : headIs P r = false) :
    (w ++ r).dropWhile P = r := by
  induction w with
  | nil =>
    cases r with
    | nil => rfl
    | cons c r => simp only [headIs] at hr; simp [hr]
  | cons c w ih =>
    simp only [List.all_cons, Bool.and_eq_true] at hw
    simp only [List.cons_append, List.dropWhile, hw.1]
    exact ih hw.2

theorem all_takeWhile (P : Char → Bool) (l : Str) : (l.takeWhile P).all P = true := by
  induction l with
  | nil => rfl
  | cons c l ih =>
    rw [List.takeWhile_cons]
    cases h : P c with
    | true => simp only [if_true, List.all_cons, h, Bool.true_and]; exact ih
    | false => rfl

theorem headIs_dropWhile (P : Char → Bool) (l : Str) : headIs P (l.dropWhile P) = false := by
  induction l with
  | nil => rfl
  | cons c l ih =>
    rw [List.dropWhile_cons]
    cases h : P c with
    | true => simpa using ih
    | false => simp [headIs, h]

theorem takeWhile_ws {w r : Str} (hw : isWs w = true) (hr : headIs isPySpace r = false) :
    (w ++ r).takeWhile isPySpace = w :=
  takeWhile_all hw hr

theorem dropWhile_ws {w r : Str} (hw : isWs w = true) (hr : headIs isPySpace r = false) :
    (w ++ r).dropWhile isPySpace = r :=
  dropWhile_all hw hr

theorem spaceRun_of_drop {s : Str} {q : Nat} {w r : Str} (hd : s.drop q = w ++ r) (hw : isWs w = true)
    (hr : headIs isPySpace r = false) : spaceRun s q = w := by
  unfold spaceRun; rw [hd]; exact takeWhile_ws hw hr

/-- leading whitespace with fewer than two newlines becomes the `pre` of the token read behind it -/
theorem peekImpl_ws {ps : PState} {s : Str} {p : Nat} {w : Str} {c : Char} {rest : Str} (hd : s.drop p = w ++ c :: rest)
    (hw : isWs w = true) (hnl : countNl w < 2) (hc : isPySpace c = false) :
    peekImpl ps s p = peekAtChar ps s (p + w.length) c w :=
  peekImpl_eq_atChar (spaceRun_of_drop hd hw (by simp [headIs, hc])) hnl (getElem?_of_drop (drop_add_of_drop hd))

/-- whitespace up to the end of the input -/
theorem peekImpl_ws_eos {ps : PState} {s : Str} {p : Nat} {w : Str} (hd : s.drop p = w)
    (hw : isWs w = true) (hnl : countNl w < 2) : peekImpl ps s p = .eos w := by
  have hsr : spaceRun s p = w := spaceRun_of_drop (r := []) (by rw [hd, List.append_nil]) hw rfl
  refine peekImpl_eos_iff.mpr ⟨hsr.symm, ?_, fun h => by omega⟩
  have := congrArg List.length hd
  rw [List.length_drop] at this
  exact List.getElem?_eq_none (by omega)

/-! ### tokens -/

section tokens
variable {keys : List Str} {ee m : Bool} {br : Xp} {ex : Option (Str × Bool)} {ps : PState} {s : Str} {p : Nat}

theorem mathStart_not {c : Char} (h1 : c ≠ '$') (h2 : c ≠ '\\') : stdMathStart.contains c = false := by
  simp [stdMathStart, h1, h2]

/-- the tokenizer gets to the group-delimiter test -/
theorem peekAtChar_toGroups (hps : PSStd keys ee m ex br ps) {c : Char} {rest pre : Str} (hd : s.drop p = c :: rest)
    (h1 : c ≠ '$') (h2 : c ≠ '\\') (h3 : c ≠ '%') :
    peekAtChar ps s p c pre = peekGroups ps s p c pre := by
  rw [peekAtChar_eq_escape (fun h => by rw [hps.ms, mathStart_not h1 h2] at h; cases h),
    peekEscape_eq_comment (fun h => by rw [hps.esc] at h; exact absurd (beq_iff_eq.mp h) h2),
    peekComment_eq_groups (by rw [startsWithAt_of_drop hd, hps.cs]; simp [List.isPrefixOf, Ne.symm h3])]

/-- a character other than the brace and the extra pair is no group delimiter -/
theorem brPairs_any {c : Char} (h4 : c ≠ '{') (h5 : c ≠ '}') (h6 : ∀ o c', br = some (o, c') → c ≠ o ∧ c ≠ c') :
    (brPairs br).any (fun d => d.1 == [c]) = false ∧ ((brPairs br).map (·.2)).any (fun d => d == [c]) = false := by
  rcases br with _ | ⟨o, c'⟩
  · simp [brPairs, Ne.symm h4, Ne.symm h5]
  · simp [brPairs, Ne.symm h4, Ne.symm h5, Ne.symm (h6 o c' rfl).1, Ne.symm (h6 o c' rfl).2]

/-- a character that starts neither math, an escape, a comment nor a group is a specials string or a `char` token -/
theorem peekAtChar_toSpecials (hps : PSStd keys ee m ex br ps) {c : Char} {rest pre : Str} (hd : s.drop p = c :: rest)
    (h1 : c ≠ '$') (h2 : c ≠ '\\') (h3 : c ≠ '%') (h4 : c ≠ '{') (h5 : c ≠ '}')
    (h6 : ∀ o c', br = some (o, c') → c ≠ o ∧ c ≠ c') :
    peekAtChar ps s p c pre = peekSpecialsOrChar ps s p c pre := by
  rw [peekAtChar_toGroups hps hd h1 h2 h3, peekGroups_eq_specialsOrChar]
  rw [hps.go, hps.gc]
  exact fun _ => brPairs_any h4 h5 h6

/-- a character that starts neither math, an escape, a comment, a group nor a specials is a `char` token -/
theorem peekAtChar_plain (hps : PSStd keys ee m ex br ps) {c : Char} {rest pre : Str} (hd : s.drop p = c :: rest)
    (h1 : c ≠ '$') (h2 : c ≠ '\\') (h3 : c ≠ '%') (h4 : c ≠ '{') (h5 : c ≠ '}') (h6 : ∀ o c', br = some (o, c') → c ≠ o ∧ c ≠ c')
    (hsp : testSpecials keys s p = none) :
    peekAtChar ps s p c pre = .tok { kind := .char, arg := [c], pos := p, posEnd := p + 1, pre := pre } := by
  rw [peekAtChar_toSpecials hps hd h1 h2 h3 h4 h5 h6,
    peekSpecialsOrChar_char (fun _ => by rw [hps.sp]; exact hsp) (by rw [hps.fb]; rfl)]

theorem textChar_not_xdelim {c : Char} (h : isTextChar c = true) : isXDelim c = false := by
  cases hx : isXDelim c with
  | false => rfl
  | true => rcases xdelim_cases hx with rfl | rfl | rfl | rfl | rfl | rfl <;> (revert h; decide)

/-- a character that is not a delimiter character differs from the characters of the extra pair -/
theorem ne_xp_of_not_xdelim {br : Xp} (hx : XpOk br) {c : Char} (hc : isXDelim c = false) :
    ∀ o c', br = some (o, c') → c ≠ o ∧ c ≠ c' := by
  intro o c' e
  subst e
  obtain ⟨h1, h2, _⟩ := hx
  refine ⟨?_, ?_⟩ <;> (intro e; subst e; rw [hc] at *; contradiction)

/-- a text character is a `char` token -/
theorem peekAtChar_text (hps : PSStd keys ee m ex br ps) (hx : XpOk br) (hk : keysCore keys = true) {c : Char} {rest pre : Str}
    (hd : s.drop p = c :: rest) (hc : isTextChar c = true) :
    peekAtChar ps s p c pre = .tok { kind := .char, arg := [c], pos := p, posEnd := p + 1, pre := pre } := by
  obtain ⟨h1, h2, h3, h4, h5, _⟩ := textChar_ne hc
  exact peekAtChar_plain hps hd h1 h2 h3 h4 h5 (ne_xp_of_not_xdelim hx (textChar_not_xdelim hc))
    (testSpecials_free hk hd (keyFree_of_text hc))

/-- `*` is a `char` token -/
theorem peekAtChar_star (hps : PSStd keys ee m ex none ps) (hk : keysCore keys = true) {rest pre : Str}
    (hd : s.drop p = '*' :: rest) :
    peekAtChar ps s p '*' pre = .tok { kind := .char, arg := ['*'], pos := p, posEnd := p + 1, pre := pre } :=
  peekAtChar_plain hps hd (by decide) (by decide) (by decide) (by decide) (by decide) (fun _ _ h => by cases h)
    (testSpecials_free hk hd (by decide))

theorem peekAtChar_open (hps : PSStd keys ee m ex br ps) {rest pre : Str} (hd : s.drop p = '{' :: rest) :
    peekAtChar ps s p '{' pre = .tok { kind := .braceOpen, arg := ['{'], pos := p, posEnd := p + 1, pre := pre } := by
  rw [peekAtChar_toGroups hps hd (by decide) (by decide) (by decide), peekGroups_open hps.eg]
  rw [hps.go]
  rcases br with _ | ⟨o, c⟩ <;> simp [brPairs]

theorem peekAtChar_close (hps : PSStd keys ee m ex none ps) {rest pre : Str} (hd : s.drop p = '}' :: rest) :
    peekAtChar ps s p '}' pre = .tok { kind := .braceClose, arg := ['}'], pos := p, posEnd := p + 1, pre := pre } := by
  rw [peekAtChar_toGroups hps hd (by decide) (by decide) (by decide), peekGroups_close hps.eg]
  · rw [hps.go]; simp [brPairs]
  · rw [hps.gc]; simp [brPairs]

/-- the opening delimiter of the extra pair -/
theorem peekAtChar_xopen {o c : Char} (hps : PSStd keys ee m ex (some (o, c)) ps) (hx : XpOk (some (o, c))) {rest pre : Str}
    (hd : s.drop p = o :: rest) :
    peekAtChar ps s p o pre = .tok { kind := .braceOpen, arg := [o], pos := p, posEnd := p + 1, pre := pre } := by
  obtain ⟨h1, h2, h3, _, _, _⟩ := xdelim_ne hx.1
  rw [peekAtChar_toGroups hps hd h1 h2 h3, peekGroups_open hps.eg]
  rw [hps.go]; simp [brPairs]

/-- the closing delimiter of the extra pair -/
theorem peekAtChar_xclose {o c : Char} (hps : PSStd keys ee m ex (some (o, c)) ps) (hx : XpOk (some (o, c))) {rest pre : Str}
    (hd : s.drop p = c :: rest) :
    peekAtChar ps s p c pre = .tok { kind := .braceClose, arg := [c], pos := p, posEnd := p + 1, pre := pre } := by
  obtain ⟨h1, h2, h3, h4, _, _⟩ := xdelim_ne hx.2.1
  have hoc : o ≠ c := hx.2.2
  rw [peekAtChar_toGroups hps hd h1 h2 h3, peekGroups_close hps.eg]
  · rw [hps.go]; simp [brPairs, Ne.symm h4, hoc]
  · rw [hps.gc]; simp [brPairs]

theorem peek_eos (ps : PState) (hd : s.drop p = []) : peekImpl ps s p = .eos [] :=
  peekImpl_ws_eos hd rfl (by decide)

end tokens

/-! ### comments -/

theorem findIdx_char (d : Char) (text r : Str) (h : text.contains d = false) :
    (text ++ d :: r).findIdx? (· == d) = some text.length := by
  induction text with
  | nil => simp [List.findIdx?_cons]
  | cons c text ih =>
    simp only [List.contains_cons, Bool.or_eq_false_iff] at h
    have hc : (c == d) = false := by
      cases hh : (c == d) with
      | false => rfl
      | true =>
        have e : c = d := by simpa using hh
        subst e; simp at h
    simp only [List.cons_append, List.findIdx?_cons, hc, Bool.false_eq_true, if_false, ih h.2, Option.map_some, List.length_cons]

theorem postSpaceAt_of_drop {s : Str} {q : Nat} {w r : Str} (hd : s.drop q = w ++ r) (hw : isWs w = true)
    (hnl : countNl w < 2) (hr : headIs isPySpace r = false) : postSpaceAt s q = w := by
  unfold postSpaceAt
  rw [spaceRun_of_drop hd hw hr]
  simp only
  rw [if_neg (by omega)]

/-- in front of a paragraph break the tokenizer takes no post-space -/
theorem postSpaceAt_par {s : Str} {q : Nat} {R : Str} (hd : s.drop q = R) (hp : parStart R = true) : postSpaceAt s q = [] := by
  unfold parStart at hp
  simp only [Bool.and_eq_true, beq_iff_eq, decide_eq_true_eq] at hp
  unfold postSpaceAt spaceRun
  rw [hd]
  simp only
  rw [if_pos hp.2]
  cases R with
  | nil => cases hp.1
  | cons c R =>
    have hc : c = '\n' := by simpa using hp.1
    subst hc
    have : isPySpace '\n' = true := by decide
    simp [this, firstNl, List.findIdx_cons]

theorem lastNlEnd_of_getLast : ∀ (x : Str), x.getLast? = some '\n' → lastNlEnd x = x.length
  | [], h => by cases h
  | [c], h => by
    have : c = '\n' := by simpa using h
    subst this
    rfl
  | c :: d :: x, h => by
    have h' : (d :: x).getLast? = some '\n' := by simpa [List.getLast?_cons_cons] using h
    have ih := lastNlEnd_of_getLast (d :: x) h'
    rw [lastNlEnd, ih]
    simp

/-- a paragraph break (whitespace with at least two newlines, beginning and ending with a newline) is one token:
    the specials `\n\n` when the state's context declares them, a `char` token holding the whole break otherwise -/
theorem peekImpl_par {ps : PState} {s : Str} {p : Nat} {x r : Str} (hd : s.drop p = x ++ r) (hw : isWs x = true)
    (hn : countNl x ≥ 2) (hh : x.head? = some '\n') (hl : x.getLast? = some '\n') (hr : headIs isPySpace r = false)
    (hdn : ps.f.enDblNl = true) :
    peekImpl ps s p =
      if parSpecials ps then .tok { kind := .specials, arg := ['\n', '\n'], pos := p, posEnd := p + x.length, pre := [] }
      else .tok { kind := .char, arg := x, pos := p, posEnd := p + x.length, pre := [] } := by
  rw [peekImpl_eq_par (spaceRun_of_drop hd hw hr) hdn hn, peekPar_eq]
  have hf : firstNl x = 0 := by
    cases x with
    | nil => cases hh
    | cons c x =>
      have hc : c = '\n' := by simpa using hh
      subst hc
      simp [firstNl, List.findIdx_cons]
  have hsl : slice s p (p + x.length) = x := slice_of_prefix s x p ⟨r, hd.symm⟩
  rw [hf, lastNlEnd_of_getLast x hl, Nat.add_zero, hsl]
  cases parSpecials ps <;> rfl

section comment
variable {keys : List Str} {ee m : Bool} {br : Xp} {ex : Option (Str × Bool)} {ps : PState} {s : Str} {p : Nat}

/-- a comment line; `post` is whatever the tokenizer takes as the post-space behind the newline -/
theorem peekAtChar_comment_gen (hps : PSStd keys ee m ex br ps) {text R post pre : Str}
    (hd : s.drop p = '%' :: (text ++ '\n' :: R)) (htext : text.contains '\n' = false)
    (hpost : postSpaceAt s (p + 1 + text.length) = post) :
    peekAtChar ps s p '%' pre = .tok ({ kind := .comment, arg := text, pos := p, posEnd := p + 1 + text.length + post.length, pre := pre, post := post } : Token) := by
  have hd1 : s.drop (p + 1) = text ++ '\n' :: R := drop_succ_of_drop hd
  have hfind : findCharFrom s '\n' (p + ps.f.commentStart.length) = some (p + 1 + text.length) := by
    rw [hps.cs]
    unfold findCharFrom
    show (match (s.drop (p + 1)).findIdx? (· == '\n') with | some i => some (p + 1 + i) | none => none) = _
    rw [hd1, findIdx_char '\n' text _ htext]
  have hsl : slice s (p + ps.f.commentStart.length) (p + 1 + text.length) = text := by
    rw [hps.cs]
    exact slice_of_prefix s text (p + 1) ⟨_, hd1.symm⟩
  rw [peekAtChar_eq_escape (fun h => by rw [hps.ms, mathStart_not (by decide) (by decide)] at h; cases h),
    peekEscape_eq_comment (fun h => by rw [hps.esc] at h; cases h),
    peekComment_eq_read hps.ec (by rw [startsWithAt_of_drop hd, hps.cs]; simp [List.isPrefixOf])
      (by rw [hps.cs]; exact List.cons_ne_nil _ _),
    readComment_nl hfind hpost, hsl]

theorem peekAtChar_comment (hps : PSStd keys ee m ex br ps) {text post r pre : Str}
    (hd : s.drop p = '%' :: (text ++ '\n' :: (post ++ r))) (htext : text.contains '\n' = false)
    (hws : isWs ('\n' :: post) = true) (hnl : countNl ('\n' :: post) < 2) (hr : headIs isPySpace r = false) :
    peekAtChar ps s p '%' pre = .tok ({ kind := .comment, arg := text, pos := p, posEnd := p + 1 + text.length + (1 + post.length), pre := pre, post := '\n' :: post } : Token) := by
  have hd1 : s.drop (p + 1) = text ++ '\n' :: (post ++ r) := drop_succ_of_drop hd
  have hd2 : s.drop (p + 1 + text.length) = ('\n' :: post) ++ r := by
    have := drop_add_of_drop hd1
    simpa using this
  have := peekAtChar_comment_gen (pre := pre) hps hd htext (postSpaceAt_of_drop hd2 hws hnl hr)
  rw [this]
  simp only [List.length_cons]
  congr 2
  omega

/-- a comment line in front of a paragraph break: no post-space -/
theorem peekAtChar_comment_par (hps : PSStd keys ee m ex br ps) {text R pre : Str}
    (hd : s.drop p = '%' :: (text ++ '\n' :: R)) (htext : text.contains '\n' = false) (hpar : parStart ('\n' :: R) = true) :
    peekAtChar ps s p '%' pre = .tok ({ kind := .comment, arg := text, pos := p, posEnd := p + 1 + text.length, pre := pre, post := [] } : Token) := by
  have hd1 : s.drop (p + 1) = text ++ '\n' :: R := drop_succ_of_drop hd
  have hd2 : s.drop (p + 1 + text.length) = '\n' :: R := drop_add_of_drop hd1
  exact peekAtChar_comment_gen (pre := pre) hps hd htext (postSpaceAt_par hd2 hpar)

end comment

end C02
end Pylx
