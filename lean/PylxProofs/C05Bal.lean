/-
  C05Bal — C05, "strict parsing rejects unbalanced markup", as theorems.

  * `C05Bal.accepted_balanced` (C05BalParse): for every context whose specials are plain and every input without
    verbatim constructs, acceptance by the strict parser implies balance of `{ }`, `$` (parity), `\( \)`, `\[ \]`,
    `\begin \end` — an input-universal necessary condition for acceptance.
  * `C05Bal.fault_rejected` (here): a document of the grammar's proved fragment (`Doc.Core`) without verbatim constructs,
    with ONE structural delimiter injected at an item boundary or an argument boundary of any nesting depth (outside
    comments), is answered by a located `LatexWalkerParseError` — never accepted.  One corollary per fault kind.
-/
import PylxProofs.C05BalDoc
namespace Pylx
namespace C05Bal
open Doc

/-! ### the general statement -/

/-- **A single injected delimiter is rejected.**  `ctx`: closed world, specials plain (`ctxOk`).  `d`: a document of the
    `Doc.Core` fragment all of whose macros / environments have non-verbatim specifications (`docOk`).  `x`: a fault text
    that starts with a non-letter, weighs `wx ≢ 0` for some class `k` and nothing for the class `verb`.  `p`: any path
    to an item / argument boundary of `d`.  Then the strict parse of the faulty source is a parse error (located, by
    `C05_located`), and the faulty source is the source of `d` with `x` inserted. -/
theorem fault_rejected (ctx : Ctx) (hcl : ctx.Closed) (hc : ctxOk ctx = true) (d : List Item) (hcore : Core ctx d = true)
    (hdoc : docOk ctx d = true) (x : Str) (k : Sym) (wx : Int)
    (hx : ∀ r, cnt ctx k .n (x ++ r) = wx + cnt ctx k .n r)
    (hxv : ∀ r, cnt ctx .verb .n (x ++ r) = 0 + cnt ctx .verb .n r)
    (hxh : headIs isAsciiAlpha x = false) (hxne : x ≠ []) (hw : ¬ Rel k wx 0)
    (p : Path) (d' : List Item) (hins : insItems x p d = some d') :
    (∃ e, parseStrict ctx (unparse d') = .perr e) ∧ Inserted x (unparse d) (unparse d') := by
  unfold Core at hcore
  rw [Bool.and_eq_true] at hcore
  have hci := hcore.2
  obtain ⟨h1, _, h3⟩ := (ins_bal ctx hc k x wx hx hxh hxne p).1 d false [] hci hdoc d' hins [] (HeadLe.refl _)
  obtain ⟨v1, _, _⟩ := (ins_bal ctx hc .verb x 0 hxv hxh hxne p).1 d false [] hci hdoc d' hins [] (HeadLe.refl _)
  rw [List.append_nil] at h1 v1
  refine ⟨unbalanced_rejected ctx hcl hc (unparse d') ?_ k ?_, h3⟩
  · exact v1.verb
  · intro hb
    apply hw
    have e : cnt ctx k .n ([] : Str) = 0 := rfl
    rw [e, Int.add_zero] at h1
    exact Rel.trans h1.symm hb

/-! ### the fault kinds -/

inductive Fault where
  | openBrace | closeBrace | dollar | openParen | closeParen | openBrack | closeBrack
  | beginEnv (name : Str) | endEnv (name : Str)
deriving Repr

def Fault.text : Fault → Str
  | .openBrace => ['{'] | .closeBrace => ['}'] | .dollar => ['$']
  | .openParen => ['\\', '('] | .closeParen => ['\\', ')'] | .openBrack => ['\\', '['] | .closeBrack => ['\\', ']']
  | .beginEnv name => beginStr name | .endEnv name => endStr name

def Fault.sym : Fault → Sym
  | .openBrace => .brace | .closeBrace => .brace | .dollar => .dollar
  | .openParen => .paren | .closeParen => .paren | .openBrack => .brack | .closeBrack => .brack
  | .beginEnv _ => .env | .endEnv _ => .env

def Fault.weight : Fault → Int
  | .openBrace => 1 | .closeBrace => -1 | .dollar => 1
  | .openParen => 1 | .closeParen => -1 | .openBrack => 1 | .closeBrack => -1
  | .beginEnv _ => 1 | .endEnv _ => -1

/-- side condition of a fault: an environment name is a non-empty string of name characters; the name of an injected
    `\begin` is not that of a verbatim-like environment of the context (which would swallow the rest of the input) -/
def Fault.ok (ctx : Ctx) : Fault → Bool
  | .beginEnv name => !name.isEmpty && name.all isEnvNameChar && !envBad ctx name
  | .endEnv name => !name.isEmpty && name.all isEnvNameChar
  | _ => true

theorem Fault.weight_ne (f : Fault) : ¬ Rel f.sym f.weight 0 := by
  intro h
  cases f
  case dollar =>
    have h : (2 : Int) ∣ 1 - 0 := h
    omega
  all_goals
    have := Rel.eq_of_ne_dollar (k := _) (by simp [Fault.sym]) h
    simp [Fault.weight] at this

theorem Fault.count (ctx : Ctx) (f : Fault) (hf : f.ok ctx = true) :
    (∀ r, cnt ctx f.sym .n (f.text ++ r) = f.weight + cnt ctx f.sym .n r) ∧
    (∀ r, cnt ctx .verb .n (f.text ++ r) = 0 + cnt ctx .verb .n r) := by
  cases f with
  | openBrace | closeBrace | dollar =>
    exact ⟨fun r => cnt_cons ctx _ (by decide) (by decide) r, fun r => cnt_cons ctx _ (by decide) (by decide) r⟩
  | openParen | closeParen | openBrack | closeBrack =>
    exact ⟨fun r => cnt_math ctx _ (by decide) r, fun r => cnt_math ctx _ (by decide) r⟩
  | beginEnv name =>
    simp only [Fault.ok, Bool.and_eq_true, Bool.not_eq_eq_eq_not, Bool.not_true] at hf
    obtain ⟨⟨hne, hall⟩, hbad⟩ := hf
    have hne' : name ≠ [] := by intro e; rw [e] at hne; cases hne
    refine ⟨fun r => cnt_beginStr ctx _ hall hne' r, fun r => ?_⟩
    rw [show (Fault.beginEnv name).text = beginStr name from rfl, cnt_beginStr ctx _ hall hne' r]
    simp [kindW, hbad]
  | endEnv name =>
    simp only [Fault.ok, Bool.and_eq_true, Bool.not_eq_eq_eq_not, Bool.not_true] at hf
    obtain ⟨hne, hall⟩ := hf
    have hne' : name ≠ [] := by intro e; rw [e] at hne; cases hne
    exact ⟨fun r => cnt_endStr ctx _ hall hne' r, fun r => cnt_endStr ctx _ hall hne' r⟩

theorem Fault.head (f : Fault) : headIs isAsciiAlpha f.text = false ∧ f.text ≠ [] := by
  cases f with
  | beginEnv name =>
    have : (Fault.beginEnv name).text = '\\' :: (envWordStr true ++ '{' :: (name ++ '}' :: [])) := by
      rw [← C02.beginStr_append, List.append_nil]; rfl
    rw [this]; exact ⟨by simp [headIs]; decide, by simp⟩
  | endEnv name =>
    have : (Fault.endEnv name).text = '\\' :: (envWordStr false ++ '{' :: (name ++ '}' :: [])) := by
      rw [← C02.endStr_append, List.append_nil]; rfl
    rw [this]; exact ⟨by simp [headIs]; decide, by simp⟩
  | _ => exact ⟨by decide, by decide⟩

/-- **C05, fault clause (all nine fault kinds).**  For every closed-world context with plain specials, every document
    `d` of the `Doc.Core` fragment without verbatim constructs, every fault `f` (`{`, `}`, `$`, `\(`, `\)`, `\[`, `\]`,
    `\begin{name}`, `\end{name}`) and every item / argument boundary `p` of `d` at any nesting depth outside comments:
    the strict parse of the source of `d` with the text of `f` inserted at `p` is a parse error. -/
theorem C05_fault_rejected (ctx : Ctx) (hcl : ctx.Closed) (hc : ctxOk ctx = true) (d : List Item)
    (hcore : Core ctx d = true) (hdoc : docOk ctx d = true) (f : Fault) (hf : f.ok ctx = true)
    (p : Path) (d' : List Item) (hins : insItems f.text p d = some d') :
    (∃ e, parseStrict ctx (unparse d') = .perr e) ∧ Inserted f.text (unparse d) (unparse d') :=
  fault_rejected ctx hcl hc d hcore hdoc f.text f.sym f.weight (f.count ctx hf).1 (f.count ctx hf).2
    f.head.1 f.head.2 f.weight_ne p d' hins

/-! ### one theorem per fault kind -/

section kinds
variable (ctx : Ctx) (hcl : ctx.Closed) (hc : ctxOk ctx = true) (d : List Item) (hcore : Core ctx d = true)
  (hdoc : docOk ctx d = true) (p : Path) (d' : List Item)

include hcl hc hcore hdoc

/-- (1) a stray `}` at top level or at any depth -/
theorem stray_close_brace_rejected (hins : insItems ['}'] p d = some d') :
    ∃ e, parseStrict ctx (unparse d') = .perr e :=
  (C05_fault_rejected ctx hcl hc d hcore hdoc .closeBrace rfl p d' hins).1

/-- (2) a stray `{` (also when it steals the closing brace of an enclosing group) -/
theorem stray_open_brace_rejected (hins : insItems ['{'] p d = some d') :
    ∃ e, parseStrict ctx (unparse d') = .perr e :=
  (C05_fault_rejected ctx hcl hc d hcore hdoc .openBrace rfl p d' hins).1

/-- (3) a stray `\)` -/
theorem stray_close_paren_rejected (hins : insItems ['\\', ')'] p d = some d') :
    ∃ e, parseStrict ctx (unparse d') = .perr e :=
  (C05_fault_rejected ctx hcl hc d hcore hdoc .closeParen rfl p d' hins).1

/-- (3) a stray `\]` -/
theorem stray_close_brack_rejected (hins : insItems ['\\', ']'] p d = some d') :
    ∃ e, parseStrict ctx (unparse d') = .perr e :=
  (C05_fault_rejected ctx hcl hc d hcore hdoc .closeBrack rfl p d' hins).1

/-- (3) a stray `\end{name}` -/
theorem stray_end_rejected (name : Str) (hn : (!name.isEmpty && name.all isEnvNameChar) = true)
    (hins : insItems (endStr name) p d = some d') :
    ∃ e, parseStrict ctx (unparse d') = .perr e :=
  (C05_fault_rejected ctx hcl hc d hcore hdoc (.endEnv name) hn p d' hins).1

/-- (4) a stray `\(` -/
theorem stray_open_paren_rejected (hins : insItems ['\\', '('] p d = some d') :
    ∃ e, parseStrict ctx (unparse d') = .perr e :=
  (C05_fault_rejected ctx hcl hc d hcore hdoc .openParen rfl p d' hins).1

/-- (4) a stray `\[` -/
theorem stray_open_brack_rejected (hins : insItems ['\\', '['] p d = some d') :
    ∃ e, parseStrict ctx (unparse d') = .perr e :=
  (C05_fault_rejected ctx hcl hc d hcore hdoc .openBrack rfl p d' hins).1

/-- (4) a stray `\begin{name}` (`name` not a verbatim-like environment of the context) -/
theorem stray_begin_rejected (name : Str) (hn : (!name.isEmpty && name.all isEnvNameChar && !envBad ctx name) = true)
    (hins : insItems (beginStr name) p d = some d') :
    ∃ e, parseStrict ctx (unparse d') = .perr e :=
  (C05_fault_rejected ctx hcl hc d hcore hdoc (.beginEnv name) hn p d' hins).1

/-- (5) a stray `$`, in text or in math mode, also directly in front of / behind another `$` and in front of a later
    `$…$` formula with which it re-pairs: the number of `$` characters stays odd -/
theorem stray_dollar_rejected (hins : insItems ['$'] p d = some d') :
    ∃ e, parseStrict ctx (unparse d') = .perr e :=
  (C05_fault_rejected ctx hcl hc d hcore hdoc .dollar rfl p d' hins).1

end kinds

/-! ### every boundary of a list has a path -/

/-- the path to the boundary after the first `n` items of the current list -/
def Path.nexts : Nat → Path → Path
  | 0, p => p
  | n + 1, p => .next (Path.nexts n p)

theorem insItems_nexts (x : Str) (pre post : List Item) :
    insItems x (Path.nexts pre.length .here) (pre ++ post) = some (pre ++ .T x :: post) := by
  induction pre with
  | nil => rfl
  | cons it pre ih => simp only [List.length_cons, Path.nexts, List.cons_append, insItems, ih, Option.map_some]

theorem unparse_insert (x : Str) (d1 d2 : List Item) :
    unparseItems (d1 ++ Item.T x :: d2) = unparseItems d1 ++ x ++ unparseItems d2 := by
  induction d1 with
  | nil => simp [unparseItems]
  | cons it d1 ih =>
    rw [List.cons_append, unparse_cons, unparse_cons it d1, ih]
    simp

/-- **top-level form**: a fault between any two items of the document (or in front of the first / behind the last) -/
theorem C05_fault_rejected_top (ctx : Ctx) (hcl : ctx.Closed) (hc : ctxOk ctx = true) (d1 d2 : List Item)
    (hcore : Core ctx (d1 ++ d2) = true) (hdoc : docOk ctx (d1 ++ d2) = true) (f : Fault) (hf : f.ok ctx = true) :
    ∃ e, parseStrict ctx (unparse d1 ++ f.text ++ unparse d2) = .perr e := by
  have := (C05_fault_rejected ctx hcl hc (d1 ++ d2) hcore hdoc f hf _ _ (insItems_nexts f.text d1 d2)).1
  have e : unparse (d1 ++ Item.T f.text :: d2) = unparse d1 ++ f.text ++ unparse d2 := unparse_insert _ _ _
  rw [e] at this
  exact this

/-! ### all boundaries of a document -/

mutual
/-- the paths to all item boundaries (at every nesting depth, outside comments, `\verb` texts and specials) and all
    argument boundaries of a list of items — mirror of `docgen.boundaries`, as paths instead of positions -/
def itemPaths : List Item → List Path
  | [] => [.here]
  | .G b :: tl => .here :: ((itemPaths b).map Path.body ++ (itemPaths tl).map Path.next)
  | .M _ _ a :: tl => .here :: ((argPaths a).map Path.args ++ (itemPaths tl).map Path.next)
  | .E _ a b :: tl =>
    .here :: ((argPaths a).map Path.args ++ ((itemPaths b).map Path.body ++ (itemPaths tl).map Path.next))
  | .F _ b :: tl => .here :: ((itemPaths b).map Path.body ++ (itemPaths tl).map Path.next)
  | .T _ :: tl => .here :: (itemPaths tl).map Path.next
  | .W _ :: tl => .here :: (itemPaths tl).map Path.next
  | .P _ :: tl => .here :: (itemPaths tl).map Path.next
  | .C _ _ :: tl => .here :: (itemPaths tl).map Path.next
  | .S _ _ :: tl => .here :: (itemPaths tl).map Path.next
  | .V _ _ :: tl => .here :: (itemPaths tl).map Path.next
  | .VE _ _ _ _ :: tl => .here :: (itemPaths tl).map Path.next
def argPaths : List ArgVal → List Path
  | [] => [.here]
  | .br b :: tl => .here :: ((itemPaths b).map Path.body ++ (argPaths tl).map Path.next)
  | .grp b :: tl => .here :: ((itemPaths b).map Path.body ++ (argPaths tl).map Path.next)
  | .del _ _ b :: tl => .here :: ((itemPaths b).map Path.body ++ (argPaths tl).map Path.next)
  | .absent :: tl => .here :: (argPaths tl).map Path.next
  | .star :: tl => .here :: (argPaths tl).map Path.next
  | .marker _ :: tl => .here :: (argPaths tl).map Path.next
  | .tok _ :: tl => .here :: (argPaths tl).map Path.next
  | .verb _ _ _ :: tl => .here :: (argPaths tl).map Path.next
end

theorem exists_map_some {α β : Type} (f : α → β) {o : Option α} (h : ∃ a, o = some a) : ∃ b, o.map f = some b := by
  obtain ⟨a, rfl⟩ := h
  exact ⟨f a, rfl⟩

mutual
/-- every listed path is a boundary: the insertion is defined there -/
theorem itemPaths_valid (x : Str) : ∀ (a : List Item) (p : Path), p ∈ itemPaths a → ∃ a', insItems x p a = some a'
  | [], p, h => by
    simp only [itemPaths, List.mem_singleton] at h
    subst h; exact ⟨_, rfl⟩
  | .G b :: tl, p, h | .F _ b :: tl, p, h => by
    simp only [itemPaths, List.mem_cons, List.mem_append, List.mem_map] at h
    rcases h with rfl | ⟨q, hq, rfl⟩ | ⟨q, hq, rfl⟩
    · exact ⟨_, rfl⟩
    · exact exists_map_some _ (itemPaths_valid x b q hq)
    · exact exists_map_some _ (itemPaths_valid x tl q hq)
  | .M n post a :: tl, p, h => by
    simp only [itemPaths, List.mem_cons, List.mem_append, List.mem_map] at h
    rcases h with rfl | ⟨q, hq, rfl⟩ | ⟨q, hq, rfl⟩
    · exact ⟨_, rfl⟩
    · exact exists_map_some _ (argPaths_valid x a q hq)
    · exact exists_map_some _ (itemPaths_valid x tl q hq)
  | .E n a b :: tl, p, h => by
    simp only [itemPaths, List.mem_cons, List.mem_append, List.mem_map] at h
    rcases h with rfl | ⟨q, hq, rfl⟩ | ⟨q, hq, rfl⟩ | ⟨q, hq, rfl⟩
    · exact ⟨_, rfl⟩
    · exact exists_map_some _ (argPaths_valid x a q hq)
    · exact exists_map_some _ (itemPaths_valid x b q hq)
    · exact exists_map_some _ (itemPaths_valid x tl q hq)
  | .T _ :: tl, p, h | .W _ :: tl, p, h | .P _ :: tl, p, h | .C _ _ :: tl, p, h | .S _ _ :: tl, p, h
  | .V _ _ :: tl, p, h | .VE _ _ _ _ :: tl, p, h => by
    simp only [itemPaths, List.mem_cons, List.mem_map] at h
    rcases h with rfl | ⟨q, hq, rfl⟩
    · exact ⟨_, rfl⟩
    · exact exists_map_some _ (itemPaths_valid x tl q hq)
termination_by a => sizeOf a
decreasing_by
  all_goals first
    | decreasing_tactic
    | (subst_vars; decreasing_tactic)
theorem argPaths_valid (x : Str) : ∀ (a : List ArgVal) (p : Path), p ∈ argPaths a → ∃ a', insArgs x p a = some a'
  | [], p, h => by
    simp only [argPaths, List.mem_singleton] at h
    subst h; exact ⟨_, rfl⟩
  | .br b :: tl, p, h | .grp b :: tl, p, h | .del _ _ b :: tl, p, h => by
    simp only [argPaths, List.mem_cons, List.mem_append, List.mem_map] at h
    rcases h with rfl | ⟨q, hq, rfl⟩ | ⟨q, hq, rfl⟩
    · exact ⟨_, rfl⟩
    · exact exists_map_some _ (itemPaths_valid x b q hq)
    · exact exists_map_some _ (argPaths_valid x tl q hq)
  | .absent :: tl, p, h | .star :: tl, p, h | .marker _ :: tl, p, h | .tok _ :: tl, p, h | .verb _ _ _ :: tl, p, h => by
    simp only [argPaths, List.mem_cons, List.mem_map] at h
    rcases h with rfl | ⟨q, hq, rfl⟩
    · exact ⟨_, rfl⟩
    · exact exists_map_some _ (argPaths_valid x tl q hq)
termination_by a => sizeOf a
decreasing_by
  all_goals first
    | decreasing_tactic
    | (subst_vars; decreasing_tactic)
end

/-- **C05, fault clause, every boundary.**  For every listed boundary of the document (`itemPaths d`: in front of, between
    and behind the items of every item list of `d` — top level, brace groups, formulas, environment bodies, bracket /
    brace / delimited arguments — and in front of, between and behind the written arguments of every call) and every
    fault: the faulty document exists, its source is the source of `d` with the fault text inserted, and the strict
    parser rejects it. -/
theorem C05_fault_rejected_all (ctx : Ctx) (hcl : ctx.Closed) (hc : ctxOk ctx = true) (d : List Item)
    (hcore : Core ctx d = true) (hdoc : docOk ctx d = true) (f : Fault) (hf : f.ok ctx = true) :
    ∀ p ∈ itemPaths d, ∃ d', insItems f.text p d = some d' ∧ Inserted f.text (unparse d) (unparse d') ∧
      ∃ e, parseStrict ctx (unparse d') = .perr e := by
  intro p hp
  obtain ⟨d', hd'⟩ := itemPaths_valid f.text d p hp
  have := C05_fault_rejected ctx hcl hc d hcore hdoc f hf p d' hd'
  exact ⟨d', hd', this.2, this.1⟩

/-! ### non-vacuity: the default context, a nested document, faults at depth -/

def Ret.isPerr : Ret → Bool
  | .perr _ => true
  | _ => false

def Ret.isOk : Ret → Bool
  | .ok _ _ => true
  | _ => false

theorem isPerr_of_ex {r : Ret} (h : ∃ e, r = .perr e) : Ret.isPerr r = true := by
  obtain ⟨e, rfl⟩ := h; rfl

/-- the default walker context satisfies the condition on the context -/
theorem ctxOk_default : ctxOk Gen.defaultCtx = true := by decide +kernel

/-- `a{\textbf{b}$x$}c` -/
def exD : List Item :=
  [.T ['a'], .G [.M "textbf".toList [] [.grp [.T ['b']]], .F .dollar [.T ['x']]], .T ['c']]

theorem exD_core : Core Gen.defaultCtx exD = true := by decide +kernel
theorem exD_docOk : docOk Gen.defaultCtx exD = true := by decide +kernel

/-- behind the `b` inside the argument of `\textbf` inside the group: depth 3 -/
def exP1 : Path := .next (.body (.args (.body (.next .here))))
/-- in front of `\textbf` inside the group: depth 1 -/
def exP2 : Path := .next (.body .here)
/-- inside the formula, behind the `x` -/
def exP3 : Path := .next (.body (.next (.body (.next .here))))

/-- a stray `}` at depth 3: `a{\textbf{b}}$x$}c` -/
def exD1 : List Item :=
  [.T ['a'], .G [.M "textbf".toList [] [.grp [.T ['b'], .T ['}']]], .F .dollar [.T ['x']]], .T ['c']]
theorem exD1_ins : insItems ['}'] exP1 exD = some exD1 := rfl
example : unparse exD1 = "a{\\textbf{b}}$x$}c".toList := by decide +kernel
/-- the theorem applies … -/
example : ∃ e, parseStrict Gen.defaultCtx (unparse exD1) = .perr e :=
  stray_close_brace_rejected Gen.defaultCtx defaultCtx_closed ctxOk_default exD exD_core exD_docOk exP1 exD1 exD1_ins
/-- … and, independently, kernel evaluation of the model: the faulty source is rejected, the original accepted -/
example : Ret.isPerr (parseStrict Gen.defaultCtx "a{\\textbf{b}}$x$}c".toList) = true := by decide +kernel
example : Ret.isOk (parseStrict Gen.defaultCtx "a{\\textbf{b}$x$}c".toList) = true := by decide +kernel

/-- a stray `$` in text mode in front of `\textbf{b}$x$`: it re-pairs with the opening `$` of the formula
    (`a{$\textbf{b}$x$}c`); the count of `$` is odd, the source is rejected -/
def exD2 : List Item :=
  [.T ['a'], .G [.T ['$'], .M "textbf".toList [] [.grp [.T ['b']]], .F .dollar [.T ['x']]], .T ['c']]
theorem exD2_ins : insItems ['$'] exP2 exD = some exD2 := rfl
example : unparse exD2 = "a{$\\textbf{b}$x$}c".toList := by decide +kernel
example : ∃ e, parseStrict Gen.defaultCtx (unparse exD2) = .perr e :=
  stray_dollar_rejected Gen.defaultCtx defaultCtx_closed ctxOk_default exD exD_core exD_docOk exP2 exD2 exD2_ins
example : Ret.isPerr (parseStrict Gen.defaultCtx "a{$\\textbf{b}$x$}c".toList) = true := by decide +kernel

/-- a stray `{` inside the formula: it steals the closing brace of the enclosing group (`a{\textbf{b}$x{$}c`) -/
def exD3 : List Item :=
  [.T ['a'], .G [.M "textbf".toList [] [.grp [.T ['b']]], .F .dollar [.T ['x'], .T ['{']]], .T ['c']]
theorem exD3_ins : insItems ['{'] exP3 exD = some exD3 := rfl
example : unparse exD3 = "a{\\textbf{b}$x{$}c".toList := by decide +kernel
example : Ret.isPerr (parseStrict Gen.defaultCtx (unparse exD3)) = true :=
  isPerr_of_ex (stray_open_brace_rejected Gen.defaultCtx defaultCtx_closed ctxOk_default exD exD_core exD_docOk exP3 exD3 exD3_ins)
example : Ret.isPerr (parseStrict Gen.defaultCtx "a{\\textbf{b}$x{$}c".toList) = true := by decide +kernel

/-- the example document has 13 boundaries (11 item boundaries: 4 at top level, 3 in the group, 2 in the formula, 2 in
    the argument of `\textbf`; 2 argument boundaries around that argument), each of them covered by
    `C05_fault_rejected_all` for each of the nine faults -/
example : (itemPaths exD).length = 13 ∧ exP1 ∈ itemPaths exD ∧ exP2 ∈ itemPaths exD ∧ exP3 ∈ itemPaths exD := by
  decide +kernel

/-- `\end{zz}` and `\begin{zz}` at top level behind the group -/
example : ∃ e, parseStrict Gen.defaultCtx (unparse [.T ['a']] ++ (Fault.endEnv ['z', 'z']).text ++ unparse [.T ['c']]) = .perr e :=
  C05_fault_rejected_top Gen.defaultCtx defaultCtx_closed ctxOk_default [.T ['a']] [.T ['c']] (by decide +kernel)
    (by decide +kernel) (.endEnv ['z', 'z']) (by decide +kernel)
example : ∃ e, parseStrict Gen.defaultCtx (unparse [.T ['a']] ++ (Fault.beginEnv ['z', 'z']).text ++ unparse [.T ['c']]) = .perr e :=
  C05_fault_rejected_top Gen.defaultCtx defaultCtx_closed ctxOk_default [.T ['a']] [.T ['c']] (by decide +kernel)
    (by decide +kernel) (.beginEnv ['z', 'z']) (by decide +kernel)

/-! ### the hypotheses are needed -/

/-- `VerbFree` is needed in `accepted_balanced`: `\verb|{|` is accepted and has one more `{` than `}` -/
example : Ret.isOk (parseStrict Gen.defaultCtx "\\verb|{|".toList) = true ∧
    cnt Gen.defaultCtx .brace .n "\\verb|{|".toList = 1 ∧ cnt Gen.defaultCtx .verb .n "\\verb|{|".toList = 1 := by
  decide +kernel

/-- `ctxOk` is needed in `accepted_balanced`: with a specials string `~{` the input `~{` is accepted -/
def cxCtxKey : Ctx := { specials := [(['~', '{'], .std [])] }
example : Ret.isOk (parseStrict cxCtxKey ['~', '{']) = true ∧ cnt cxCtxKey .brace .n ['~', '{'] = 1 ∧
    ctxOk cxCtxKey = false := by decide +kernel

/-- `docOk` is needed in the fault theorem (a `v` argument; context with `\p{…}<verbatim>`): `}` injected between the
    two arguments of `\p{a}!{{}!` gives `\p{a}}!{{}!`, whose verbatim argument is now `}!{{}` — accepted -/
def cxCtxV : Ctx := { macros := [(['p'], .std [⟨.m, .none⟩, ⟨.v, .none⟩])] }
example : Ret.isOk (parseStrict cxCtxV "\\p{a}!{{}!".toList) = true ∧
    Ret.isOk (parseStrict cxCtxV "\\p{a}}!{{}!".toList) = true := by decide +kernel

end C05Bal
end Pylx
