/-
  C03 — latex2text renders the core sublanguage by its documented rules: algebraic laws of the renderer model
  `Pylx.L2T` (tree level), each for all trees, all option sets, all databases, all converter states.

  * `C03_append_state` / `C03_append`: the renderer is a monoid homomorphism on node lists up to the one context rule
    of `nodelist_to_text` (`boundaryPre`: the post-space of a bare macro node in front of a chars node).
  * one law per documented rule: `C03_chars`, `C03_group_transparent`, `C03_format_transparent`, `C03_symbol*`,
    `C03_comment`, `C03_math_inline`, `C03_math_display`, `C03_math_modes`, `C03_bare_macro_space`, `C03_presets`;
    table facts over the generated database by kernel evaluation.
  * `C03_compose_tree`: two blocks joined by a paragraph break or by a whitespace-only segment.
-/
import PylxProofs.L2TLemmas
import Pylx.SpecText
import PylxProofs.C02Tok
namespace Pylx.L2T.C03
open Pylx Pylx.L2T

deriving instance DecidableEq for Pylx.L2T.St
deriving instance DecidableEq for Pylx.L2T.Out

/-! ### results -/

/-- sequencing on results of state transformers -/
def andThen {α β : Type} (x : Out (α × St)) (f : α → St → Out (β × St)) : Out (β × St) :=
  match x with
  | .ok (a, st) => f a st
  | .crash k => .crash k

/-- `R.bind` at a state is `andThen`: the statements below about one run are the equations between state transformers
    read at a state -/
theorem bind_apply {α β : Type} (x : R α) (f : α → R β) (st : St) : R.bind x f st = andThen (x st) (fun a st' => f a st') :=
  rfl

theorem andThen_ok {α β : Type} (a : α) (st : St) (f : α → St → Out (β × St)) : andThen (.ok (a, st)) f = f a st := rfl

/-! ### the loop of `nodelist_to_text` -/

/-- the previous node seen by the loop after a list -/
def lastPrev (prev : Option Node) (xs : List Node) : Option Node :=
  match xs.getLast? with
  | some l => some l
  | none => prev

theorem lastPrev_cons (prev : Option Node) (n : Node) (xs : List Node) : lastPrev prev (n :: xs) = lastPrev (some n) xs := by
  unfold lastPrev
  rw [List.getLast?_cons]
  cases xs.getLast? <;> rfl

/-- the loop over a concatenation is the loop over the first list followed by the loop over the second, which only
    remembers the last node of the first -/
theorem renderList_append (E : Env) (c : Sls) : ∀ (xs ys : List Node) (prev : Option Node) (acc : Str),
    renderList E c prev acc (xs ++ ys) =
      R.bind (renderList E c prev acc xs) fun t => renderList E c (lastPrev prev xs) t ys
  | [], ys, prev, acc => by rw [renderList_nil, R.pure_bind]; rfl
  | n :: xs, ys, prev, acc => by
    rw [List.cons_append, renderList_cons, renderList_cons, R.bind_assoc]
    refine R.bind_congr rfl fun pre => ?_
    rw [R.bind_assoc]
    exact R.bind_congr rfl fun t => by rw [renderList_append E c xs ys (some n), lastPrev_cons]

theorem isBare_none (E : Env) : isBare E none = .ok false := by
  unfold isBare; rfl

theorem preOf_none (E : Env) (c : Sls) (n : Node) : preOf E c none n = .ok [] := by
  unfold preOf; rw [isBare_none]; rfl

/-- the previous node only matters through the text `preOf` puts in front of the first node -/
theorem renderList_prev (E : Env) (c : Sls) (prev : Option Node) (acc p : Str) (y : Node) (ys : List Node)
    (h : preOf E c prev y = .ok p) :
    renderList E c prev acc (y :: ys) = renderList E c none (acc ++ p) (y :: ys) := by
  rw [renderList_cons, renderList_cons, h, preOf_none]
  simp only [R.ofOut, R.pure_bind, List.append_nil]

/-- what `nodelist_to_text` emits between the last node of `xs` and the first node of `ys` -/
def boundaryPre (E : Env) (c : Sls) (xs ys : List Node) : Out Str :=
  match xs.getLast?, ys.head? with
  | some l, some y => preOf E c (some l) y
  | _, _ => .ok []

theorem boundaryPre_nil (E : Env) (c : Sls) (xs : List Node) : boundaryPre E c xs [] = .ok [] := by
  unfold boundaryPre
  cases xs.getLast? <;> rfl

theorem boundaryPre_cons (E : Env) (c : Sls) (xs : List Node) (y : Node) (ys : List Node) :
    boundaryPre E c xs (y :: ys) = preOf E c (lastPrev none xs) y := by
  unfold boundaryPre lastPrev
  cases xs.getLast? with
  | none => exact (preOf_none E c y).symm
  | some l => rfl

/-- the append law as an equation between state transformers -/
theorem renderList_append_boundary (E : Env) (c : Sls) (xs ys : List Node) (p : Str) (hb : boundaryPre E c xs ys = .ok p) :
    renderList E c none [] (xs ++ ys) =
      R.bind (renderList E c none [] xs) fun a => R.bind (renderList E c none [] ys) fun b => R.pure (a ++ p ++ b) := by
  rw [renderList_append]
  refine R.bind_congr rfl fun a => ?_
  cases ys with
  | nil =>
    rw [boundaryPre_nil] at hb
    cases hb
    rw [renderList_nil, renderList_nil, R.pure_bind, List.append_nil, List.append_nil]
  | cons y ys =>
    rw [boundaryPre_cons] at hb
    rw [renderList_prev E c _ a p y ys hb, renderList_acc]

/-- **C03, append law with the converter state made explicit** (no hypothesis on the trees): rendering a concatenation
    is rendering the first list, then the second list from the state the first one left (`\title`, `\author`, `\date`
    are remembered for `\maketitle`), with the boundary text in between. -/
theorem C03_append_state (E : Env) (c : Sls) (xs ys : List Node) (p : Str) (st : St) (hb : boundaryPre E c xs ys = .ok p) :
    renderList E c none [] (xs ++ ys) st =
      andThen (renderList E c none [] xs st) fun a st1 =>
        andThen (renderList E c none [] ys st1) fun b st2 => .ok (a ++ p ++ b, st2) :=
  congrFun (renderList_append_boundary E c xs ys p hb) st

/-- the exact side condition of the plain append law, read off `nodelist_to_text`: text is put between two nodes only
    when the first is a bare macro node, the second a chars node and `between-macro-and-chars` is off — and then it is
    the macro's post-space -/
theorem boundaryPre_eq (E : Env) (c : Sls) (xs ys : List Node) (l y : Node) (b : Bool)
    (hl : xs.getLast? = some l) (hy : ys.head? = some y) (hbare : isBare E (some l) = .ok b) :
    boundaryPre E c xs ys = .ok (if b && isCharsNode y && !c.mc then postSpaceOf (some l) else []) := by
  unfold boundaryPre preOf
  rw [hl, hy]
  simp only [hbare]

/-- the boundary between `xs` and `ys` is not "bare macro node followed by chars node" (with the rule switched on and a
    non-empty post-space) -/
def PlainBoundary (E : Env) (c : Sls) (xs ys : List Node) : Prop := boundaryPre E c xs ys = .ok []

theorem renderList_append_plain (E : Env) (c : Sls) (xs ys : List Node) (hb : PlainBoundary E c xs ys) :
    renderList E c none [] (xs ++ ys) =
      R.bind (renderList E c none [] xs) fun a => R.bind (renderList E c none [] ys) fun b => R.pure (a ++ b) := by
  rw [renderList_append_boundary E c xs ys [] hb]
  simp only [List.append_nil]

/-- `nodelist_to_text` on a fresh converter object, state kept -/
def run (E : Env) (c : Sls) (ns : List Node) : Out (Str × St) := renderList E c none [] ns {}

/-- with the state made explicit there is no hypothesis on the first list: the second list is rendered from the state
    the first one left -/
theorem C03_append_run (E : Env) (c : Sls) (xs ys : List Node) (hb : PlainBoundary E c xs ys) :
    run E c (xs ++ ys) =
      andThen (run E c xs) fun a st1 => andThen (renderList E c none [] ys st1) fun b st2 => .ok (a ++ b, st2) :=
  congrFun (renderList_append_plain E c xs ys hb) {}

/-- **C03, append law** for `render` (`LatexNodes2Text(**opts).nodelist_to_text` on a fresh object): when the boundary
    is plain and the first list leaves the document fields (`\title`, `\author`, `\date`) unset,
    `render (xs ++ ys) = render xs ++ render ys`. -/
theorem C03_append (opts : Opts) (db : TextDb) (ctx : Ctx) (lib : Lib) (src : Str) (xs ys : List Node) (a b : Str)
    (hb : PlainBoundary { opts := opts, db := db, ctx := ctx, lib := lib, src := src } (parseSls opts.sls) xs ys)
    (hx : run { opts := opts, db := db, ctx := ctx, lib := lib, src := src } (parseSls opts.sls) xs = .ok (a, {}))
    (hy : render opts db ctx lib src ys = .ok b) :
    render opts db ctx lib src (xs ++ ys) = .ok (a ++ b) ∧ render opts db ctx lib src xs = .ok a := by
  obtain ⟨hs, st, hr⟩ := (render_ok_iff opts db ctx lib src ys b).1 hy
  refine ⟨(render_ok_iff _ _ _ _ _ _ _).2 ⟨hs, st, ?_⟩, (render_ok_iff _ _ _ _ _ _ _).2 ⟨hs, {}, hx⟩⟩
  have h := C03_append_run _ _ xs ys hb
  rw [hx, andThen_ok, hr] at h
  exact h

/-! ### one law per documented rule -/

theorem all_dropWhile (f : Char → Bool) : ∀ (s : Str), (s.dropWhile f).all f = s.all f
  | [] => rfl
  | c :: s => by
    by_cases h : f c = true
    · simp [h, all_dropWhile f s]
    · simp [h]

theorem dropWhile_isEmpty (f : Char → Bool) : ∀ (s : Str), (s.dropWhile f).isEmpty = s.all f
  | [] => rfl
  | c :: s => by
    by_cases h : f c = true
    · simp [h, dropWhile_isEmpty f s]
    · simp [h]

/-- `len(content.strip()) == 0` -/
theorem strip_isEmpty (s : Str) : (strip s).isEmpty = s.all isPySpace := by
  unfold strip
  rw [List.isEmpty_reverse, dropWhile_isEmpty, List.all_reverse, all_dropWhile]

/-- **text is copied**; a chars node of whitespace only is kept only under `between-latex-constructs` -/
theorem C03_chars (E : Env) (c : Sls) (p e : Nat) (ps : PSInfo) (ch : Str) :
    renderNode E c (.chars p e ps ch) = R.pure (if !c.lc && ch.all isPySpace then [] else ch) := by
  rw [renderNode, strip_isEmpty]

/-- a chars node that contains a character which is not whitespace is copied under every policy -/
theorem C03_chars_copied (E : Env) (c : Sls) (p e : Nat) (ps : PSInfo) (ch : Str) (h : ch.all isPySpace = false) :
    renderNode E c (.chars p e ps ch) = R.pure ch := by
  rw [C03_chars, h]; simp

/-- **groups are transparent**: without `keep_braced_groups` a group node renders as its body -/
theorem C03_group_transparent (E : Env) (c : Sls) (p e : Nat) (ps : PSInfo) (o cl : Str) (body : Option (List Node))
    (hk : E.opts.keepBraced = false) :
    renderNode E c (.group p e ps o cl body) = renderBody E c body := by
  rw [renderNode_group, hk]
  exact R.bind_pure _

/-- with `keep_braced_groups` the delimiters are put back around the body when it is long enough -/
theorem C03_group_braced (E : Env) (c : Sls) (p e : Nat) (ps : PSInfo) (o cl : Str) (body : Option (List Node)) (st st' : St)
    (t : Str) (hk : E.opts.keepBraced = true) (hb : renderBody E c body st = .ok (t, st')) :
    renderNode E c (.group p e ps o cl body) st =
      .ok (if (t.length : Int) ≥ E.opts.minLen then o ++ t ++ cl else t, st') := by
  rw [renderNode_group, bind_apply, hb, hk, andThen_ok]
  simp only [R.pure, Bool.true_and, decide_eq_true_eq]

theorem applySpec_none (E : Env) (info : NodeInfo) (th : Thunks) (sp : TSpec) (dflt : R Str)
    (h1 : sp.repl = .none) (h2 : sp.hasDiscard = true) (h3 : sp.discard = false) :
    applySpec E info th sp dflt = dflt := by
  rw [applySpec_of_falsy (by rw [h1]; rfl) h2, h3]
  rfl

/-- **formatting macros are transparent**: a macro whose text specification has no replacement and `discard = False`
    renders as the concatenation of its arguments' contents -/
theorem C03_format_transparent (E : Env) (c : Sls) (p e : Nat) (ps : PSInfo) (name post : Str) (args : Option (List Arg))
    (sp : TSpec) (hl : lookupFirst name E.db.macros = some sp)
    (h1 : sp.repl = .none) (h2 : sp.hasDiscard = true) (h3 : sp.discard = false) :
    renderNode E c (.mac p e ps name post args) = argsCatO E c args := by
  rw [renderNode_mac, C12.macSpec, hl]
  exact applySpec_none _ _ _ _ _ h1 h2 h3

/-- `\emph{X}` renders as `X` rendered: one braced argument -/
theorem C03_format_one_group (E : Env) (c : Sls) (p e : Nat) (ps : PSInfo) (name post : Str)
    (gp ge : Nat) (gps : PSInfo) (o cl : Str) (body : List Node)
    (sp : TSpec) (hl : lookupFirst name E.db.macros = some sp)
    (h1 : sp.repl = .none) (h2 : sp.hasDiscard = true) (h3 : sp.discard = false) :
    renderNode E c (.mac p e ps name post (some [.node (.group gp ge gps o cl (some body))])) = renderList E c none [] body := by
  rw [C03_format_transparent E c p e ps name post _ sp hl h1 h2 h3]
  show (R.bind (renderList E c none [] body) fun t => R.bind (R.pure []) fun r => R.pure (t ++ r)) = _
  simp only [R.pure_bind, List.append_nil]
  exact R.bind_pure _

/-- the names of the transparent macros of a database -/
def formatNames (db : TextDb) : List Str :=
  (db.macros.filter fun q => q.2.hasDiscard && !q.2.discard && q.2.repl == .none).map (·.1)

/-- the transparent macros of the generated database, and the lookup of each of them finds the transparent entry -/
theorem C03_format_names :
    formatNames Gen.defaultTextDb =
      ["mathrm".toList, "emph".toList, "textrm".toList, "textit".toList, "textbf".toList, "textsc".toList, "textsl".toList,
       "text".toList] ∧
    (formatNames Gen.defaultTextDb).all (fun n => lookupFirst n Gen.defaultTextDb.macros == some ⟨true, false, .none⟩) = true := by
  decide +kernel

theorem applySpec_lit (E : Env) (info : NodeInfo) (th : Thunks) (sp : TSpec) (dflt : R Str) (s : Str)
    (h1 : sp.repl = .lit s) (h2 : s ≠ [] ∨ (sp.hasDiscard = true ∧ sp.discard = true)) :
    applySpec E info th sp dflt = R.pure s := by
  unfold applySpec
  cases s with
  | nil =>
    rcases h2 with h | ⟨ha, hb⟩
    · exact absurd rfl h
    · simp [h1, replTruthy, ha, hb]
  | cons a l => simp [h1, replTruthy]

/-- **symbols become their character(s)**: a macro whose replacement is a plain string renders as that string, whatever its
    arguments, the policy, the state and the nodes around it -/
theorem C03_symbol_macro (E : Env) (c : Sls) (p e : Nat) (ps : PSInfo) (name post : Str) (args : Option (List Arg))
    (sp : TSpec) (s : Str) (hl : lookupFirst name E.db.macros = some sp) (h1 : sp.repl = .lit s)
    (h2 : s ≠ [] ∨ (sp.hasDiscard = true ∧ sp.discard = true)) :
    renderNode E c (.mac p e ps name post args) = R.pure s := by
  rw [renderNode_mac, C12.macSpec, hl]
  exact applySpec_lit _ _ _ _ _ s h1 h2

/-- the same for specials (`~`, `--`, `---`, quotes, `&`) -/
theorem C03_symbol_specials (E : Env) (c : Sls) (p e : Nat) (ps : PSInfo) (ch : Str) (args : Option (List Arg))
    (sp : TSpec) (s : Str) (hl : lookupFirst ch E.db.specials = some sp) (h1 : sp.repl = .lit s) (h2 : s ≠ []) :
    renderNode E c (.specials p e ps ch args) = R.pure s := by
  rw [renderNode_specials, hl]
  exact applySpec_lit _ _ _ _ _ s h1 (Or.inl h2)

/-- specials without an entry in the text database (the paragraph break `\n\n`) render as themselves -/
theorem C03_specials_unknown (E : Env) (c : Sls) (p e : Nat) (ps : PSInfo) (ch : Str) (args : Option (List Arg))
    (hl : lookupFirst ch E.db.specials = none) :
    renderNode E c (.specials p e ps ch args) = R.pure ch := by
  rw [renderNode_specials, hl]

/-- a macro without an entry in the text database is discarded -/
theorem C03_macro_unknown (E : Env) (c : Sls) (p e : Nat) (ps : PSInfo) (name post : Str) (args : Option (List Arg))
    (hl : lookupFirst name E.db.macros = none) :
    renderNode E c (.mac p e ps name post args) = R.pure [] := by
  rw [renderNode_mac, C12.macSpec, hl]
  exact applySpec_of_falsy (sp := ⟨true, true, .none⟩) rfl rfl _ _ _

/-- **C03_symbol**: a symbol node renders as its string *whatever follows* (and whatever precedes): in a list
    `xs ++ [n] ++ ys` with plain boundaries the text is `render xs ++ s ++ render ys`. -/
theorem C03_symbol (E : Env) (c : Sls) (n : Node) (s : Str) (hn : renderNode E c n = R.pure s) (xs ys : List Node)
    (h1 : PlainBoundary E c xs (n :: ys)) (h2 : PlainBoundary E c [n] ys) (st : St) :
    renderList E c none [] (xs ++ n :: ys) st =
      andThen (renderList E c none [] xs st) fun a st1 =>
        andThen (renderList E c none [] ys st1) fun b st2 => .ok (a ++ s ++ b, st2) := by
  have hn1 : renderList E c none [] [n] = R.pure s := by
    rw [renderList_cons, preOf_none, hn]
    simp only [R.ofOut, R.pure_bind, renderList_nil, List.nil_append]
  have h : renderList E c none [] (xs ++ n :: ys) =
      R.bind (renderList E c none [] xs) fun a => R.bind (renderList E c none [] ys) fun b => R.pure (a ++ s ++ b) := by
    rw [renderList_append_plain E c xs (n :: ys) h1, show n :: ys = [n] ++ ys from rfl,
      renderList_append_plain E c [n] ys h2, hn1]
    simp only [R.pure_bind, R.bind_assoc, List.append_assoc]
  exact congrFun h st

/-- table facts (kernel-evaluated on the generated database): `~` ↦ U+00A0 (no-break space), `--` ↦ – (U+2013),
    `---` ↦ — (U+2014), the double quotes ↦ “ ” (U+201C, U+201D), `&` ↦ three spaces, the inverted marks ↦ ¡ ¿ (the replacement text only: whether the spec
    class carries a `discard` attribute is a fact about the library version, cf. F38) -/
theorem C03_table_specials :
    (lookupFirst ['~'] Gen.defaultTextDb.specials).map (·.repl) = some (.lit [Char.ofNat 0xA0]) ∧
    (lookupFirst ['-', '-'] Gen.defaultTextDb.specials).map (·.repl) = some (.lit [Char.ofNat 0x2013]) ∧
    (lookupFirst ['-', '-', '-'] Gen.defaultTextDb.specials).map (·.repl) = some (.lit [Char.ofNat 0x2014]) ∧
    (lookupFirst ['`', '`'] Gen.defaultTextDb.specials).map (·.repl) = some (.lit [Char.ofNat 0x201C]) ∧
    (lookupFirst ['\'', '\''] Gen.defaultTextDb.specials).map (·.repl) = some (.lit [Char.ofNat 0x201D]) ∧
    (lookupFirst ['&'] Gen.defaultTextDb.specials).map (·.repl) = some (.lit [' ', ' ', ' ']) ∧
    (lookupFirst ['!', '`'] Gen.defaultTextDb.specials).map (·.repl) = some (.lit [Char.ofNat 0xA1]) ∧
    (lookupFirst ['?', '`'] Gen.defaultTextDb.specials).map (·.repl) = some (.lit [Char.ofNat 0xBF]) ∧
    lookupFirst ['\n', '\n'] Gen.defaultTextDb.specials = none := by
  decide +kernel

/-- every plain-string replacement of a database satisfies the hypothesis of `C03_symbol_macro` / `C03_symbol_specials` -/
def symbolsOk (db : TextDb) : Bool :=
  db.macros.all (fun q => match q.2.repl with
    | .lit s => !s.isEmpty || (q.2.hasDiscard && q.2.discard)
    | _ => true) &&
  db.specials.all (fun q => match q.2.repl with
    | .lit s => !s.isEmpty
    | _ => true)

/-- table facts for symbol macros: all 900-odd plain-string replacements of the generated database are covered by
    `C03_symbol_macro`; and `\alpha` ↦ α, `\ldots` ↦ …, `\&` ↦ &, `\,` ↦ space, `\ss` ↦ ß, `\quad` ↦ two spaces -/
theorem C03_table_symbols :
    symbolsOk Gen.defaultTextDb = true ∧
    lookupFirst "alpha".toList Gen.defaultTextDb.macros = some ⟨true, true, .lit [Char.ofNat 0x3B1]⟩ ∧
    lookupFirst "ldots".toList Gen.defaultTextDb.macros = some ⟨true, true, .lit [Char.ofNat 0x2026]⟩ ∧
    lookupFirst ['&'] Gen.defaultTextDb.macros = some ⟨true, true, .lit ['&']⟩ ∧
    lookupFirst [','] Gen.defaultTextDb.macros = some ⟨true, true, .lit [' ']⟩ ∧
    lookupFirst "ss".toList Gen.defaultTextDb.macros = some ⟨true, true, .lit [Char.ofNat 0xDF]⟩ ∧
    lookupFirst "quad".toList Gen.defaultTextDb.macros = some ⟨true, true, .lit [' ', ' ']⟩ ∧
    lookupFirst "unknownmacro".toList Gen.defaultTextDb.macros = none := by
  decide +kernel

/-- **comments vanish**, and the whitespace after them follows `after-comment`; with `keep_comments` the comment text
    is kept: the four cases of `comment_node_to_text` -/
theorem C03_comment (E : Env) (c : Sls) (p e : Nat) (ps : PSInfo) (cm post : Str) :
    (E.opts.keepComments = false → c.ac = false → renderNode E c (.comment p e ps cm post) = R.pure post) ∧
    (E.opts.keepComments = false → c.ac = true → renderNode E c (.comment p e ps cm post) = R.pure []) ∧
    (E.opts.keepComments = true → c.ac = false → renderNode E c (.comment p e ps cm post) = R.pure ('%' :: cm ++ post)) ∧
    (E.opts.keepComments = true → c.ac = true →
      renderNode E c (.comment p e ps cm post) = R.pure ('%' :: cm ++ (if post.isEmpty then [] else ['\n']))) := by
  rw [renderNode_comment]
  refine ⟨fun h1 h2 => ?_, fun h1 h2 => ?_, fun h1 h2 => ?_, fun h1 h2 => ?_⟩ <;> rw [h1, h2] <;> rfl

/-- **inline math is inlined**: under `math_mode='text'` an inline formula renders as its body, rendered under the
    equation policy (`in-equations`), stripped -/
theorem C03_math_inline (E : Env) (c : Sls) (p e : Nat) (ps : PSInfo) (o cl : Str) (body : Option (List Node)) (st : St)
    (hm : E.opts.mathMode = .text) :
    renderNode E c (.math p e ps false o cl body) st =
      andThen (renderBody E c.enterEq body st) fun t st' => .ok (strip t, st') := by
  rw [renderNode_math, mathText_text hm]
  rfl

/-- **display math becomes an indented block**: newline, four spaces, the stripped body with every newline followed by
    four spaces, newline -/
theorem C03_math_display (E : Env) (c : Sls) (p e : Nat) (ps : PSInfo) (o cl : Str) (body : Option (List Node)) (st : St)
    (hm : E.opts.mathMode = .text) :
    renderNode E c (.math p e ps true o cl body) st =
      andThen (renderBody E c.enterEq body st) fun t st' =>
        .ok ('\n' :: (' ' :: ' ' :: ' ' :: ' ' :: indentLines [' ', ' ', ' ', ' '] (strip t) ++ ['\n']), st') := by
  rw [renderNode_math, mathText_text hm]
  rfl

/-- the other math modes: `with-delimiters` keeps the delimiters around the same text (display: an unindented block
    between them), `verbatim` copies the source slice of the formula (display: as an unindented block), `remove` drops
    the formula -/
theorem C03_math_modes (E : Env) (c : Sls) (p e : Nat) (ps : PSInfo) (display : Bool) (o cl : Str) (body : Option (List Node))
    (st : St) :
    (E.opts.mathMode = .remove → renderNode E c (.math p e ps display o cl body) st = .ok ([], st)) ∧
    (E.opts.mathMode = .verbatim → renderNode E c (.math p e ps display o cl body) st =
      .ok (if display then '\n' :: (indentLines [] (slice E.src p e) ++ ['\n']) else slice E.src p e, st)) ∧
    (E.opts.mathMode = .withDelims → renderNode E c (.math p e ps display o cl body) st =
      andThen (renderBody E c.enterEq body st) fun t st' =>
        .ok (if display then o ++ ('\n' :: (indentLines [] (strip t) ++ ['\n'])) ++ cl else o ++ strip t ++ cl, st')) := by
  rw [renderNode_math]
  refine ⟨fun hm => ?_, fun hm => ?_, fun hm => ?_⟩
  · rw [mathText_remove hm]; rfl
  · rw [mathText_verbatim hm]; cases display <;> rfl
  · rw [mathText_withDelims hm]; cases display <;> rfl

/-- the documented presets of `strict_latex_spaces`, and the policy they select inside formulas -/
theorem C03_presets :
    parseSls .macros = ⟨true, true, false, .basedOnSource⟩ ∧ parseSls (.bool false) = parseSls .macros ∧
    parseSls .basedOnSource = ⟨false, false, false, .none⟩ ∧
    parseSls .exceptInEq = ⟨true, true, true, .basedOnSource⟩ ∧
    parseSls (.bool true) = ⟨true, true, true, .bool true⟩ ∧
    (parseSls .macros).enterEq = parseSls .basedOnSource ∧
    (parseSls .exceptInEq).enterEq = parseSls .basedOnSource ∧
    (parseSls .basedOnSource).enterEq = parseSls .basedOnSource ∧
    (parseSls (.bool true)).enterEq = parseSls (.bool true) ∧
    (∀ s, (parseSls s).enterEq.enterEq = (parseSls s).enterEq ∨ ∃ a b d e, s = .dict a b d e) := by
  refine ⟨rfl, rfl, rfl, rfl, rfl, rfl, rfl, rfl, rfl, ?_⟩
  intro s
  cases s with
  | dict a b d e => exact Or.inr ⟨a, b, d, e, rfl⟩
  | none => exact Or.inl rfl
  | bool b => cases b <;> exact Or.inl rfl
  | basedOnSource => exact Or.inl rfl
  | macros => exact Or.inl rfl
  | exceptInEq => exact Or.inl rfl

theorem isBare_noargs (E : Env) (p e : Nat) (ps : PSInfo) (name post : Str) :
    isBare E (some (.mac p e ps name post (some []))) = .ok true := by
  unfold isBare; rfl

theorem isBare_notmac (E : Env) (n : Node) (h : ∀ p e ps name post args, n ≠ .mac p e ps name post args) :
    isBare E (some n) = .ok false := by
  unfold isBare
  cases n with
  | mac p e ps name post args => exact absurd rfl (h p e ps name post args)
  | _ => rfl

/-- **the space after a bare macro**: between a bare macro node (no argument at all) and a chars node the macro's
    post-space is put back unless `between-macro-and-chars`; between any other two nodes nothing is inserted -/
theorem C03_bare_macro_space (E : Env) (c : Sls) (xs ys : List Node) (m y : Node) (b : Bool)
    (hb : isBare E (some m) = .ok b) :
    boundaryPre E c (xs ++ [m]) (y :: ys) =
      .ok (if b && isCharsNode y && !c.mc then postSpaceOf (some m) else []) := by
  apply boundaryPre_eq E c _ _ m y b _ rfl hb
  simp

/-- in particular: `\name<post>` without arguments followed by text renders the post-space exactly when the policy's
    `between-macro-and-chars` is off -/
theorem C03_bare_macro_chars (E : Env) (c : Sls) (xs ys : List Node) (p e p' e' : Nat) (ps ps' : PSInfo) (name post ch : Str) :
    boundaryPre E c (xs ++ [.mac p e ps name post (some [])]) (.chars p' e' ps' ch :: ys) = .ok (if c.mc then [] else post) := by
  rw [C03_bare_macro_space E c xs ys _ _ true (isBare_noargs E p e ps name post)]
  cases c.mc <;> rfl

/-- and nothing is inserted in front of a node that is not a chars node, or after a node that is not a macro node -/
theorem C03_plain_boundary (E : Env) (c : Sls) (xs ys : List Node) (l y : Node) (hl : xs.getLast? = some l) (hy : ys.head? = some y)
    (h : isCharsNode y = false ∨ ∀ p e ps name post args, l ≠ .mac p e ps name post args) (hb : ∃ b, isBare E (some l) = .ok b) :
    PlainBoundary E c xs ys := by
  obtain ⟨b, hb⟩ := hb
  unfold PlainBoundary
  rw [boundaryPre_eq E c xs ys l y b hl hy hb]
  rcases h with h | h
  · simp [h]
  · rw [isBare_notmac E l h] at hb
    cases hb
    simp

theorem plain_nil_left (E : Env) (c : Sls) (ys : List Node) : PlainBoundary E c [] ys := by
  unfold PlainBoundary boundaryPre; rfl

theorem plain_nil_right (E : Env) (c : Sls) (xs : List Node) : PlainBoundary E c xs [] := boundaryPre_nil E c xs

/-! ### composition of two blocks -/

def isMacNode : Node → Bool
  | .mac .. => true
  | _ => false

theorem notmac_of (n : Node) (h : isMacNode n = false) : ∀ p e ps name post args, n ≠ .mac p e ps name post args := by
  intro p e ps name post args he
  subst he
  cases h

/-- a separator node: not a macro node (so nothing is inserted after it), not a chars node or preceded by a node that
    is not bare (so nothing is inserted before it) -/
theorem sep_law (E : Env) (c : Sls) (xs ys : List Node) (sep : Node) (s : Str) (st : St)
    (hsep : renderNode E c sep = R.pure s) (hnm : isMacNode sep = false)
    (hpre : PlainBoundary E c xs [sep]) :
    renderList E c none [] (xs ++ sep :: ys) st =
      andThen (renderList E c none [] xs st) fun a st1 =>
        andThen (renderList E c none [] ys st1) fun b st2 => .ok (a ++ s ++ b, st2) := by
  have h1 : PlainBoundary E c xs (sep :: ys) := by
    unfold PlainBoundary boundaryPre at hpre ⊢
    simpa using hpre
  have h2 : PlainBoundary E c [sep] ys := by
    cases ys with
    | nil => exact plain_nil_right E c _
    | cons y ys =>
      exact C03_plain_boundary E c [sep] (y :: ys) sep y rfl rfl (Or.inr (notmac_of sep hnm))
        ⟨false, isBare_notmac E sep (notmac_of sep hnm)⟩
  exact C03_symbol E c sep s hsep xs ys h1 h2 st

/-- **C03, composition at tree level.**  Two node lists `xs`, `ys` (the trees of two blocks) joined by

    * a paragraph break (the specials node `\n\n`, which the text database does not list): the text is
      `render xs ++ "\n\n" ++ render ys`;
    * a whitespace-only chars node (the space between two constructs that are not characters):
      `render xs ++ w ++ render ys` under `between-latex-constructs`, `render xs ++ render ys` otherwise,

    provided the last node of `xs` is not a bare macro node (`isBare … = ok false`: LaTeX itself would swallow the
    space).  The second block is rendered from the converter state the first one left. -/
theorem C03_compose_tree (E : Env) (c : Sls) (xs ys : List Node) (st : St)
    (hlast : ∀ l, xs.getLast? = some l → isBare E (some l) = .ok false) :
    (∀ p e ps args, lookupFirst ['\n', '\n'] E.db.specials = none →
      renderList E c none [] (xs ++ .specials p e ps ['\n', '\n'] args :: ys) st =
        andThen (renderList E c none [] xs st) fun a st1 =>
          andThen (renderList E c none [] ys st1) fun b st2 => .ok (a ++ ['\n', '\n'] ++ b, st2)) ∧
    (∀ p e ps w, w.all isPySpace = true →
      renderList E c none [] (xs ++ .chars p e ps w :: ys) st =
        andThen (renderList E c none [] xs st) fun a st1 =>
          andThen (renderList E c none [] ys st1) fun b st2 => .ok (a ++ (if c.lc then w else []) ++ b, st2)) := by
  have hpre : ∀ sep, PlainBoundary E c xs [sep] := by
    intro sep
    cases hl : xs.getLast? with
    | none => unfold PlainBoundary boundaryPre; rw [hl]
    | some l =>
      unfold PlainBoundary
      rw [boundaryPre_eq E c xs [sep] l sep false hl rfl (hlast l hl)]
      simp
  constructor
  · intro p e ps args hl
    exact sep_law E c xs ys _ _ st (C03_specials_unknown E c p e ps _ args hl) rfl (hpre _)
  · intro p e ps w hw
    refine sep_law E c xs ys _ _ st ?_ rfl (hpre _)
    rw [C03_chars, hw]
    cases c.lc <;> rfl

/-! ### the side condition of the append law is needed -/

def cexDb : TextDb := { macros := [(['a'], ⟨true, true, .lit ['A']⟩)] }
def cexLib : Lib := { nfc2 := fun c d => [c, d], upper := fun c => [c], today := [] }
def cexXs : List Node := [.mac 0 3 {} ['a'] [' '] (some [])]
def cexYs : List Node := [.chars 3 4 {} ['b']]

/-- **the plain append law is false without the side condition**: `\a b` under `based-on-source` renders as `A b`,
    but `\a␣` renders as `A` and `b` as `b` (the boundary text is the post-space) -/
theorem C03_append_false :
    render { sls := .basedOnSource } cexDb {} cexLib [] (cexXs ++ cexYs) = .ok ['A', ' ', 'b'] ∧
    render { sls := .basedOnSource } cexDb {} cexLib [] cexXs = .ok ['A'] ∧
    render { sls := .basedOnSource } cexDb {} cexLib [] cexYs = .ok ['b'] ∧
    boundaryPre { opts := { sls := .basedOnSource }, db := cexDb, ctx := {}, lib := cexLib, src := [] }
      (parseSls .basedOnSource) cexXs cexYs = .ok [' '] :=
  ⟨C12.ok_of_isOkText (by decide +kernel), C12.ok_of_isOkText (by decide +kernel), C12.ok_of_isOkText (by decide +kernel),
   C12.ok_of_isOkText (by decide +kernel)⟩

/-! ### the string-level statement -/

open Pylx.Doc in
/-- no whitespace item directly after a call without written arguments of a control word (that whitespace is the
    call's post-space and must be written there).  Since the repair of `Doc.WF` (a control word without written argument
    and with an empty `post` is not followed by whitespace other than a paragraph break) this is implied by `WF`:
    `postSpaceInCall_of_WF`. -/
def postSpaceInCall : List Item → Bool
  | [] => true
  | .M name _ args :: .W _ :: _ => !(isControlWord name && isBareArgs args)
  | _ :: tl => postSpaceInCall tl

open Pylx.Doc in
theorem unparseArgs_bare : ∀ (args : List ArgVal), isBareArgs args = true → unparseArgs args = []
  | [], _ => by simp only [unparseArgs]
  | a :: tl, h => by
    unfold isBareArgs at h
    simp only [List.any_cons, Bool.not_eq_eq_eq_not, Bool.not_true, Bool.or_eq_false_iff] at h
    have ih := unparseArgs_bare tl (by unfold isBareArgs; rw [h.2]; rfl)
    cases a <;> first
      | (simp only [unparseArgs]; exact ih)
      | (simp [argWritten] at h)

open Pylx.Doc in
theorem wfItems_tail {ctx : Ctx} {m : Bool} {after : Str} {it : Item} {tl : List Item}
    (h : wfItems ctx m after (it :: tl) = true) : wfItems ctx m after tl = true := by
  cases it with
  | C text tail =>
    -- the clause for a comment looks at the next item, so its equations are split by it
    cases tl with
    | nil => simp only [wfItems]
    | cons it' tl' =>
      cases it' <;> (rw [wfItems] at h <;> first
        | (simp only [Bool.and_eq_true] at h; exact h.2)
        | (intro _ _ h; cases h))
  | _ => simp only [wfItems, Bool.and_eq_true] at h; exact h.2

open Pylx.Doc in
/-- **the helper hypothesis of the earlier statement of `C03_full` follows from the repaired `Doc.WF`** (for every
    context, nesting level and continuation) -/
theorem postSpaceInCall_of_wfItems (ctx : Ctx) : ∀ (d : List Item) (inMath : Bool) (after : Str),
    wfItems ctx inMath after d = true → postSpaceInCall d = true
  | [], _, _, _ => rfl
  | [_], _, _, _ => by cases ‹Item› <;> rfl
  | it :: it' :: tl', m, after, h => by
    have htl := wfItems_tail h
    have ih := postSpaceInCall_of_wfItems ctx (it' :: tl') m after htl
    -- only a call directly followed by whitespace is looked at
    cases it with
    | M name post args =>
      cases it' with
      | W w =>
        simp only [postSpaceInCall, Bool.not_eq_eq_eq_not, Bool.not_true, Bool.and_eq_false_iff]
        cases hcw : isControlWord name with
        | false => exact Or.inl rfl
        | true =>
          right
          cases hb : isBareArgs args with
          | false => rfl
          | true =>
            exfalso
            simp only [wfItems, Bool.and_eq_true, hcw, if_true, Bool.not_eq_eq_eq_not, Bool.not_true, decide_eq_true_eq] at h htl
            obtain ⟨⟨⟨_, hpost⟩, _⟩, _⟩ := h
            obtain ⟨⟨⟨⟨hne, hws⟩, hnl⟩, hhead⟩, _⟩ := htl
            rw [unparseArgs_bare args hb] at hpost
            simp only [unparseItems, List.nil_append, List.append_assoc] at hpost
            have hsp : headIs isPySpace (w ++ (unparseItems tl' ++ after)) = true := by
              cases w with
              | nil => simp at hne
              | cons c w =>
                simp only [isWs, List.all_cons, Bool.and_eq_true] at hws
                simp [headIs, hws.1]
            obtain ⟨_, hpost⟩ := hpost
            split at hpost
            · simp only [Bool.and_eq_true, Bool.not_eq_eq_eq_not, Bool.not_true, Bool.or_eq_true] at hpost
              rcases hpost.2 with h1 | h1
              · rw [hsp] at h1; cases h1
              · unfold parStart at h1
                rw [C02.takeWhile_ws hws hhead] at h1
                simp only [Bool.and_eq_true, decide_eq_true_eq] at h1
                omega
            · simp only [Bool.not_eq_eq_eq_not, Bool.not_true] at hpost
              rw [hsp] at hpost; cases hpost
      | _ => exact ih
    | _ => exact ih

open Pylx.Doc in
theorem postSpaceInCall_of_WF (ctx : Ctx) (d : List Item) (h : WF ctx d = true) : postSpaceInCall d = true :=
  postSpaceInCall_of_wfItems ctx d false [] h

open Pylx.Doc in
/-- **C03, full statement** (a proposition): for every option set, all library oracles and every well-formed document
    of the core sublanguage, `latex_to_text` of the document's source is the text given by the documented rules.

    Proved in `PylxProofs/C03SCore.lean` (`Pylx.L2T.C03S.C03_full_core`) for every option set and every `CoreText`
    document of the fragment `Doc.Core` on which the exact round trip is proved (`C03S.C02x_core_exact`: the strict parse
    of `unparse d` is exactly the tree `d` was written with, whitespace nodes and post-spaces included;
    `C03S.C03_exact_roundtrip`: so is the tolerant parse `latex_to_text` runs; `C03S.C03_render_erase_congr`: the renderer
    does not depend on positions; `C03S.renderX_spec`: rule by rule the rendering is `specText`).  Outside `Doc.Core`
    (an absent optional argument directly in front of a paragraph break, `\begin` or `\end`) the statement is tied to the
    implementation by the `L2T` / `SPEC` correspondences and the specification oracle of `harness/props/c03.py`.  The
    earlier helper hypothesis `postSpaceInCall d` is implied by the repaired `Doc.WF` (`postSpaceInCall_of_WF`) and was
    dropped. -/
def C03_full : Prop :=
  ∀ (opts : Opts) (lib : Lib) (d : List Item), opts.repaired = true →
    WF Gen.defaultCtx d = true → CoreText d = true →
    latexToText opts lib (unparse d) = .ok (specText opts lib d)

def idLib : Lib := { nfc2 := fun c d => [c, d], upper := fun c => [c], today := ['J'] }

open Pylx.Doc in
/-- `a \alpha b{c} %x⏎␣␣$y \beta z$ \emph{q}~{}\frac{1}{2}\sqrt[3]{x}` -/
def exDocA : List Item :=
  [.T ['a'], .W [' '], .M "alpha".toList [' '] [], .T ['b'], .G [.T ['c']], .W [' '], .C ['x'] ['\n', ' '], .W [' '],
   .F .dollar [.T ['y'], .W [' '], .M "beta".toList [' '] [], .T ['z']], .W [' '], .M "emph".toList [] [.grp [.T ['q']]],
   .S ['~'] [], .G [], .M "frac".toList [] [.grp [.T ['1']], .grp [.T ['2']]], .M "sqrt".toList [] [.br [.T ['3']], .grp [.T ['x']]]]

open Pylx.Doc in
/-- `{a} {bc}\[ u \]⏎⏎\begin{itemize}\item p\end{itemize}\& --` -/
def exDocB : List Item :=
  [.G [.T ['a']], .W [' '], .G [.T ['b', 'c']], .F .brack [.W [' '], .T ['u'], .W [' ']], .P ['\n', '\n'],
   .E "itemize".toList [.absent] [.M "item".toList [' '] [.absent], .T ['p']], .M ['&'] [] [], .W [' '], .S ['-', '-'] []]

set_option maxRecDepth 100000 in
/-- non-vacuity of `postSpaceInCall_of_WF`: the example documents are well formed -/
example : postSpaceInCall exDocA = true ∧ postSpaceInCall exDocB = true :=
  ⟨postSpaceInCall_of_WF Gen.defaultCtx exDocA (by decide +kernel), postSpaceInCall_of_WF Gen.defaultCtx exDocB (by decide +kernel)⟩

/-- the full statement holds on concrete documents exercising every rule, under the default policy, `based-on-source`,
    strict spaces with kept comments and braces, and the three other math modes (kernel evaluation of parser, renderer
    and `specText`) -/
theorem C03_instances :
    latexToText {} idLib (Doc.unparse exDocA) = .ok (specText {} idLib exDocA) ∧
    latexToText { sls := .basedOnSource } idLib (Doc.unparse exDocA) = .ok (specText { sls := .basedOnSource } idLib exDocA) ∧
    latexToText { sls := .bool true, keepComments := true, keepBraced := true } idLib (Doc.unparse exDocA) =
      .ok (specText { sls := .bool true, keepComments := true, keepBraced := true } idLib exDocA) ∧
    latexToText { mathMode := .withDelims, sls := .exceptInEq } idLib (Doc.unparse exDocA) =
      .ok (specText { mathMode := .withDelims, sls := .exceptInEq } idLib exDocA) ∧
    latexToText {} idLib (Doc.unparse exDocB) = .ok (specText {} idLib exDocB) ∧
    latexToText { sls := .basedOnSource, keepBraced := true } idLib (Doc.unparse exDocB) =
      .ok (specText { sls := .basedOnSource, keepBraced := true } idLib exDocB) ∧
    latexToText { mathMode := .verbatim } idLib (Doc.unparse exDocB) = .ok (specText { mathMode := .verbatim } idLib exDocB) ∧
    latexToText { mathMode := .remove } idLib (Doc.unparse exDocB) = .ok (specText { mathMode := .remove } idLib exDocB) ∧
    Doc.WF Gen.defaultCtx exDocA = true ∧ Doc.WF Gen.defaultCtx exDocB = true ∧ CoreText exDocA = true ∧ CoreText exDocB = true ∧
    postSpaceInCall exDocA = true ∧ postSpaceInCall exDocB = true := by
  decide +kernel

set_option maxRecDepth 100000 in
/-- the texts are not trivial (under `based-on-source` the post-space of `\alpha` comes back and the whitespace-only
    segments between constructs go; `~` is U+00A0) -/
example : specText {} idLib exDocA = ("a ".toList ++ [Char.ofNat 0x3B1] ++ "bc \n  y ".toList ++ [Char.ofNat 0x3B2] ++ " z q".toList ++ [Char.ofNat 0xA0] ++ "1/2".toList ++ [Char.ofNat 0x221A] ++ "(x)".toList) ∧
    specText { sls := .basedOnSource } idLib exDocA = ("a ".toList ++ [Char.ofNat 0x3B1] ++ " bc\n  y ".toList ++ [Char.ofNat 0x3B2] ++ " zq".toList ++ [Char.ofNat 0xA0] ++ "1/2".toList ++ [Char.ofNat 0x221A] ++ "(x)".toList) ∧
    specText {} idLib exDocB = ("a bc\n    u\n\n\n\n  * p& ".toList ++ [Char.ofNat 0x2013]) ∧
    specText { sls := .basedOnSource, keepBraced := true } idLib exDocB = ("a{bc}\n    u\n\n\n\n  *  p&".toList ++ [Char.ofNat 0x2013]) := by
  decide +kernel

/-! ### non-vacuity: the hypotheses of the laws are satisfiable by concrete non-trivial inputs -/

def exEnv : Env := { opts := { sls := .basedOnSource }, db := Gen.defaultTextDb, ctx := Gen.defaultCtx, lib := idLib, src := [] }
/-- `\alpha␣` (bare) -/
def exAlpha : Node := .mac 0 7 {} "alpha".toList [' '] (some [])
/-- `{b}` -/
def exGrp : Node := .group 7 10 {} ['{'] ['}'] (some [.chars 8 9 {} ['b']])
def exB : Node := .chars 7 8 {} ['b']
/-- `\emph{b}` -/
def exEmph : Node := .mac 0 8 {} "emph".toList [] (some [.node exGrp])

set_option maxRecDepth 100000 in
/-- `C03_append_state` with a non-empty boundary text: `\alpha b` under `based-on-source` -/
example : renderList exEnv (parseSls .basedOnSource) none [] ([exAlpha] ++ [exB]) {} =
    andThen (renderList exEnv (parseSls .basedOnSource) none [] [exAlpha] {}) fun a st1 =>
      andThen (renderList exEnv (parseSls .basedOnSource) none [] [exB] st1) fun b st2 => .ok (a ++ [' '] ++ b, st2) :=
  C03_append_state exEnv _ [exAlpha] [exB] [' '] {} (by decide +kernel)

set_option maxRecDepth 100000 in
/-- `C03_append` (plain boundary: the macro is followed by a group, not by characters) -/
example : render { sls := .basedOnSource } Gen.defaultTextDb Gen.defaultCtx idLib [] ([exAlpha] ++ [exGrp]) = .ok ([Char.ofNat 0x3B1] ++ ['b']) :=
  (C03_append { sls := .basedOnSource } Gen.defaultTextDb Gen.defaultCtx idLib [] [exAlpha] [exGrp] [Char.ofNat 0x3B1] ['b']
    (by unfold PlainBoundary; decide +kernel) (by decide +kernel) (by decide +kernel)).1

set_option maxRecDepth 100000 in
/-- `C03_format_transparent` / `C03_format_one_group` on `\emph{b}`, `C03_symbol_macro` on `\alpha`, `C03_symbol_specials` on `~` -/
example : renderNode exEnv (parseSls .macros) exEmph = renderList exEnv (parseSls .macros) none [] [.chars 8 9 {} ['b']] :=
  C03_format_one_group exEnv _ 0 8 {} _ _ 7 10 {} _ _ _ ⟨true, false, .none⟩ (by decide +kernel) rfl rfl rfl
set_option maxRecDepth 100000 in
example : renderNode exEnv (parseSls .macros) exAlpha = R.pure [Char.ofNat 0x3B1] :=
  C03_symbol_macro exEnv _ 0 7 {} _ _ _ ⟨true, true, .lit [Char.ofNat 0x3B1]⟩ _ C03_table_symbols.2.1 rfl (Or.inl (by decide))
set_option maxRecDepth 100000 in
example : renderNode exEnv (parseSls .macros) (.specials 0 1 {} ['~'] (some [])) = R.pure [Char.ofNat 0xA0] := by
  obtain ⟨sp, hl, h⟩ := Option.map_eq_some_iff.1 C03_table_specials.1
  exact C03_symbol_specials exEnv _ 0 1 {} _ _ sp _ hl h (by decide)

/-- `C03_group_transparent` / `C03_group_braced` on `{b}` -/
example : renderNode exEnv (parseSls .macros) exGrp = renderBody exEnv (parseSls .macros) (some [.chars 8 9 {} ['b']]) :=
  C03_group_transparent exEnv _ 7 10 {} _ _ _ rfl
set_option maxRecDepth 100000 in
example : renderNode { exEnv with opts := { keepBraced := true, minLen := 1 } } (parseSls .macros) exGrp {} = .ok (['{', 'b', '}'], {}) :=
  C03_group_braced { exEnv with opts := { keepBraced := true, minLen := 1 } } _ 7 10 {} _ _ _ {} {} ['b'] rfl (by decide +kernel)

/-- `C03_math_inline` / `C03_math_display`: the hypothesis is `math_mode = 'text'` (the default) -/
example (st : St) : renderNode exEnv (parseSls .macros) (.math 0 3 {} false ['$'] ['$'] (some [exB])) st =
    andThen (renderBody exEnv (parseSls .basedOnSource) (some [exB]) st) fun t st' => .ok (strip t, st') :=
  C03_math_inline exEnv (parseSls .macros) 0 3 {} _ _ _ st rfl

set_option maxRecDepth 100000 in
/-- `C03_bare_macro_space` / `C03_bare_macro_chars`: `x\alpha␣b` -/
example : boundaryPre exEnv (parseSls .basedOnSource) ([.chars 0 1 {} ['x']] ++ [exAlpha]) (exB :: []) = .ok [' '] :=
  C03_bare_macro_chars exEnv (parseSls .basedOnSource) _ _ 0 7 7 8 {} {} _ _ _

set_option maxRecDepth 100000 in
/-- `C03_compose_tree`: the blocks `{b}` and `\emph{b}` (the last node of the first block is not a bare macro; the
    default text database does not list the paragraph specials) -/
example (st : St) := C03_compose_tree exEnv (parseSls .basedOnSource) [exGrp] [exEmph] st
  (by intro l hl; cases hl; exact isBare_notmac exEnv _ (by intro p e ps name post args h; cases h))

/-- `C03_symbol`'s boundary hypotheses hold e.g. between a group, `~` and anything -/
example (ys : List Node) : PlainBoundary exEnv (parseSls .basedOnSource) [exGrp] (.specials 10 11 {} ['~'] (some []) :: ys) :=
  C03_plain_boundary exEnv _ _ _ exGrp _ rfl rfl (Or.inl rfl) ⟨false, isBare_notmac exEnv _ (by intro p e ps name post args h; cases h)⟩

end Pylx.L2T.C03
