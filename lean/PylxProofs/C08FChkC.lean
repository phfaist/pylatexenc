/-
  C08, all strings — the per-chunk facts for one quarter of the alphabet, by kernel evaluation: for every character and
  each of its protected chunks the classified document unparses to the chunk, is well formed, specials-safe and solid,
  and the position-free renderer turns its exact tree into the character (both policies, fresh converter state before
  and after); for the wrapped form `{r}` of a chunk `r` only that the classifier answers with the document of `r` in a group.  One declaration per six chunks of the alphabet (thirty characters) keeps each evaluation well inside
  the default heartbeat limit.
-/
import PylxProofs.C08FDefs
namespace Pylx.C08.Full
open Pylx Pylx.C08

theorem k22 : ((Gen.c08AlphaChunks.drop 132).take 6).all ChunksOk = true := by decide +kernel
theorem k23 : ((Gen.c08AlphaChunks.drop 138).take 6).all ChunksOk = true := by decide +kernel
theorem k24 : ((Gen.c08AlphaChunks.drop 144).take 6).all ChunksOk = true := by decide +kernel
theorem k25 : ((Gen.c08AlphaChunks.drop 150).take 6).all ChunksOk = true := by decide +kernel
theorem k26 : ((Gen.c08AlphaChunks.drop 156).take 6).all ChunksOk = true := by decide +kernel
theorem k27 : ((Gen.c08AlphaChunks.drop 162).take 6).all ChunksOk = true := by decide +kernel
theorem k28 : ((Gen.c08AlphaChunks.drop 168).take 6).all ChunksOk = true := by decide +kernel
theorem k29 : ((Gen.c08AlphaChunks.drop 174).take 6).all ChunksOk = true := by decide +kernel
theorem k30 : ((Gen.c08AlphaChunks.drop 180).take 6).all ChunksOk = true := by decide +kernel
theorem k31 : ((Gen.c08AlphaChunks.drop 186).take 6).all ChunksOk = true := by decide +kernel
theorem k32 : ((Gen.c08AlphaChunks.drop 192).take 6).all ChunksOk = true := by decide +kernel

end Pylx.C08.Full
