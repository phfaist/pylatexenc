import PylxProofs.BasicLemmas
import PylxProofs.TokLemmas
import PylxProofs.C20
import PylxProofs.C11
import PylxProofs.C17
import PylxProofs.C19
import PylxProofs.C04
import PylxProofs.C04Cache
import PylxProofs.C14
import PylxProofs.ParseSpec
import PylxProofs.StepLemmas
import PylxProofs.C15
import PylxProofs.C01Lemmas
import PylxProofs.C01Tok
import PylxProofs.C01
import PylxProofs.C18
import PylxProofs.C18ArgView
import PylxProofs.C06Tok
import PylxProofs.C06Adv
import PylxProofs.C06Fuel
import PylxProofs.C06Sim
import PylxProofs.C06Prefix
import PylxProofs.C06
import PylxProofs.C05Tok
import PylxProofs.C05Lemmas
import PylxProofs.C05Loop
import PylxProofs.C05Raw
import PylxProofs.C05
import PylxProofs.C06Total
import PylxProofs.C10
import PylxProofs.C01TTok
import PylxProofs.C01TLoop
import PylxProofs.C01T
import PylxProofs.C02Tok
import PylxProofs.C02Tok2
import PylxProofs.C02Tok3
import PylxProofs.C02Loop
import PylxProofs.C02Args
import PylxProofs.C02
import PylxProofs.C16
import PylxProofs.C13Lex
import PylxProofs.C13Table
import PylxProofs.C13
import PylxProofs.C13ParseDefs
import PylxProofs.C13ParseE
import PylxProofs.C13Parse
import PylxProofs.L2TLemmas
import PylxProofs.C07
import PylxProofs.C09
import PylxProofs.C07P
import PylxProofs.C03
import PylxProofs.C12Sim
import PylxProofs.C12Vis
import PylxProofs.C12
import PylxProofs.C16P
import PylxProofs.C08Defs
import PylxProofs.C08Cls
import PylxProofs.C05BalScan
import PylxProofs.C05BalTok
import PylxProofs.C05BalParse
import PylxProofs.C05BalDoc
import PylxProofs.C05Bal
import PylxProofs.C03SX
import PylxProofs.C03SRound
import PylxProofs.C03SRender
import PylxProofs.C03SSpec
import PylxProofs.C03SFull
import PylxProofs.C03SCore
import PylxProofs.C13FullDefs
import PylxProofs.C13FullTok
import PylxProofs.C13FullReach
import PylxProofs.C13FullA
import PylxProofs.C13FullB
import PylxProofs.C13FullC
import PylxProofs.C13FullD
import PylxProofs.C13FullE
import PylxProofs.C13FullF
import PylxProofs.C13FullG
import PylxProofs.C13FullH
import PylxProofs.C13FullI
import PylxProofs.C13FullJ
import PylxProofs.C13Full
import PylxProofs.C08FTree
import PylxProofs.C08FDefs
import PylxProofs.C08FReach
import PylxProofs.C08FParse
import PylxProofs.C08FRender
import PylxProofs.C08FChkA
import PylxProofs.C08FChkB
import PylxProofs.C08FChkC
import PylxProofs.C08FChkD
import PylxProofs.C08FChk
import PylxProofs.C08F
import PylxProofs.C08
